import RoModel.Linearizable

/-!
  RoProofs.Atomic — the atomicity meta-theorem.

  *What is modelled.*  A sequential object `O : Obj σ ο ρ` (RoModel.Linearizable) is used by any
  number of threads (thread ids are `Nat`).  Every operation of a thread goes through three events:

  * `call t o`  — thread `t` (which must be idle) calls operation `o`; the call is recorded in the
                  history as a pending operation stamped with the current logical time;
  * `act t`     — thread `t` (which must have called and not yet acted) performs its ONE atomic
                  action on the shared state: `state := (O.step state o).1`, and the result
                  `(O.step state o).2` is remembered by the thread;
  * `ret t`     — thread `t` (which must have acted) returns the remembered result; the history
                  entry of the operation gets `ret := some (now, result)`; the thread is idle again.

  The logical time `now` is the index of the event in the execution (it is incremented by every
  event), so stamps are strictly increasing along the execution.  The scheduler is arbitrary: an
  execution is any list of events each of which is enabled when it is its turn (`Exec`).

  *Statement.*  (`atomic_linearizable`)  For every such execution, the list `cfg.lin` of history
  positions of the operations that have performed their atomic action, in the order of those actions
  (kept in the configuration as ghost state — nothing reads it), is a linearization of the recorded
  history `cfg.hist` in the sense of `isLinearization` — no duplicates, in range, every returned
  operation is there, REAL-TIME ORDER IS RESPECTED, and the sequential run gives every returned
  operation the result it returned — and the sequential run ends in the shared state `cfg.state`.
  Operations that were called but have not acted are the pending operations that the linearization
  drops; operations that have acted but not returned are the pending ones it keeps.

  Corollaries: `atomic_Linearizable`, `atomic_LinearizableWith`.
-/

namespace Ro.Lin

variable {σ ο ρ : Type}

/-- events of a concurrent execution; `t` is the id of the thread that moves -/
inductive Ev (ο : Type) where
  /-- thread `t` calls operation `o` -/
  | call (t : Nat) (o : ο)
  /-- thread `t` performs the atomic action of its current operation -/
  | act (t : Nat)
  /-- thread `t` returns from its current operation -/
  | ret (t : Nat)

/-- what a thread is doing; `k` is the position of its current operation in the history -/
inductive St (ο ρ : Type) where
  /-- no operation in progress -/
  | idle
  /-- has called `o` (recorded at history position `k`), has not performed the atomic action yet -/
  | called (k : Nat) (o : ο)
  /-- has performed the atomic action of the operation at history position `k`, which computed the
      result `r`; has not returned yet -/
  | acted (k : Nat) (r : ρ)

/-- a configuration of the concurrent system -/
structure Cfg (σ ο ρ : Type) where
  /-- the shared state -/
  state : σ
  /-- per-thread status -/
  status : Nat → St ο ρ
  /-- logical time = number of events so far = the stamp the next event gets -/
  now : Nat
  /-- the history recorded so far (an operation is recorded — pending — at its call; its `ret` is
      filled in at its return) -/
  hist : List (HOp ο ρ)
  /-- ghost: history positions of the operations that have acted, in the order of their actions -/
  lin : List Nat

/-- nobody has done anything yet -/
def Cfg.init (O : Obj σ ο ρ) : Cfg σ ο ρ :=
  { state := O.init, status := fun _ => .idle, now := 0, hist := [], lin := [] }

/-- update the status of one thread -/
def setSt (f : Nat → St ο ρ) (t : Nat) (s : St ο ρ) : Nat → St ο ρ :=
  fun t' => if t' = t then s else f t'

/-- one event; `none` when the event is not enabled in `c` -/
def step? (O : Obj σ ο ρ) (c : Cfg σ ο ρ) : Ev ο → Option (Cfg σ ο ρ)
  | .call t o =>
    match c.status t with
    | .idle => some { c with
        status := setSt c.status t (.called c.hist.length o)
        now := c.now + 1
        hist := c.hist ++ [{ op := o, call := c.now, ret := none }] }
    | _ => none
  | .act t =>
    match c.status t with
    | .called k o => some { c with
        state := (O.step c.state o).1
        status := setSt c.status t (.acted k (O.step c.state o).2)
        now := c.now + 1
        lin := c.lin ++ [k] }
    | _ => none
  | .ret t =>
    match c.status t with
    | .acted k r => some { c with
        status := setSt c.status t .idle
        now := c.now + 1
        hist := c.hist.modify k (fun a => { a with ret := some (c.now, r) }) }
    | _ => none

/-- run a list of events from `c`; `none` as soon as one is not enabled -/
def runFrom (O : Obj σ ο ρ) : Cfg σ ο ρ → List (Ev ο) → Option (Cfg σ ο ρ)
  | c, [] => some c
  | c, e :: es => (step? O c e).bind (fun c' => runFrom O c' es)

/-- `evs` is a well-formed execution (every event enabled at its turn) from the initial
    configuration, and it ends in `cfg` -/
def Exec (O : Obj σ ο ρ) (evs : List (Ev ο)) (cfg : Cfg σ ο ρ) : Prop :=
  runFrom O (Cfg.init O) evs = some cfg

/-- proof-only record of an operation that has acted: its history position, what it was, WHEN it
    acted and what the action computed -/
structure Ent (ο ρ : Type) where
  pos : Nat
  op : ο
  time : Nat
  res : ρ

/-- the entry describes the operation at its position of `h`: same operation, called before the
    action, and — if it has returned — it returned after the action, with the action's result -/
def Ent.ok (h : List (HOp ο ρ)) (p : Ent ο ρ) : Prop :=
  ∃ a, h[p.pos]? = some a ∧ a.op = p.op ∧ a.call < p.time ∧
    ∀ tr r, a.ret = some (tr, r) → r = p.res ∧ p.time < tr

/-- what a thread's status promises about the history and the ghost entries -/
def St.ok (h : List (HOp ο ρ)) (lin : List Nat) (L : List (Ent ο ρ)) (now : Nat) : St ο ρ → Prop
  | .idle => True
  | .called k o => ∃ a, h[k]? = some a ∧ a.op = o ∧ a.call < now ∧ a.ret = none ∧ k ∉ lin
  | .acted k r => ∃ a, h[k]? = some a ∧ a.ret = none ∧ ∃ p ∈ L, p.pos = k ∧ p.res = r

/-- history position of the operation in progress -/
def St.idx : St ο ρ → Option Nat
  | .idle => none
  | .called k _ => some k
  | .acted k _ => some k

/-- the invariant of executions; `L` is the ghost list of entries behind `c.lin` -/
structure Inv (O : Obj σ ο ρ) (c : Cfg σ ο ρ) (L : List (Ent ο ρ)) : Prop where
  pos : L.map (·.pos) = c.lin
  nodup : c.lin.Nodup
  run : O.runSeq O.init (L.map (·.op)) = (c.state, L.map (·.res))
  mono : L.Pairwise (fun p q => p.time < q.time)
  ok : ∀ p ∈ L, p.time < c.now ∧ p.ok c.hist
  complete : ∀ k a, c.hist[k]? = some a → a.ret.isSome = true → k ∈ c.lin
  st : ∀ t, (c.status t).ok c.hist c.lin L c.now
  inj : ∀ t t' k, (c.status t).idx = some k → (c.status t').idx = some k → t = t'

theorem runSeq_append (O : Obj σ ο ρ) (s : σ) (xs ys : List ο) :
    O.runSeq s (xs ++ ys) =
      ((O.runSeq (O.runSeq s xs).1 ys).1, (O.runSeq s xs).2 ++ (O.runSeq (O.runSeq s xs).1 ys).2) := by
  induction xs generalizing s with
  | nil => simp [Obj.runSeq]
  | cons x xs ih => simp [Obj.runSeq, ih]

theorem lt_length_of_getElem? {α : Type} {h : List α} {k : Nat} {a : α}
    (hk : h[k]? = some a) : k < h.length :=
  (List.getElem?_eq_some_iff.1 hk).1

theorem getElem?_append_of_some {α : Type} {h l : List α} {k : Nat} {a : α}
    (hk : h[k]? = some a) : (h ++ l)[k]? = some a := by
  rw [List.getElem?_append_left (lt_length_of_getElem? hk)]; exact hk

theorem eq_of_nodup_map {α β : Type} (f : α → β) {L : List α} (hn : (L.map f).Nodup)
    {p q : α} (hp : p ∈ L) (hq : q ∈ L) (hpq : f p = f q) : p = q := by
  induction L with
  | nil => cases hp
  | cons x xs ih =>
    simp only [List.map_cons, List.nodup_cons, List.mem_map, not_exists, not_and] at hn
    rcases List.mem_cons.1 hp with rfl | hp' <;> rcases List.mem_cons.1 hq with rfl | hq'
    · rfl
    · exact absurd hpq.symm (hn.1 q hq')
    · exact absurd hpq (hn.1 p hp')
    · exact ih hn.2 hp' hq'

theorem setSt_same (f : Nat → St ο ρ) (t : Nat) (s : St ο ρ) : setSt f t s t = s := by
  simp [setSt]

theorem setSt_other (f : Nat → St ο ρ) {t t' : Nat} (s : St ο ρ) (h : t' ≠ t) :
    setSt f t s t' = f t' := by
  simp [setSt, h]

/-- a property of all threads after one of them has moved: check the one that moved, keep the others -/
theorem forall_setSt {P : St ο ρ → Prop} {f : Nat → St ο ρ} {t : Nat} {s : St ο ρ} (hs : P s)
    (hf : ∀ t', t' ≠ t → P (f t')) (t' : Nat) : P (setSt f t s t') := by
  by_cases h : t' = t
  · subst h; rw [setSt_same]; exact hs
  · rw [setSt_other _ _ h]; exact hf t' h

/-- no two threads work on the same history position, after one of them has moved to a position nobody else has -/
theorem inj_setSt {f : Nat → St ο ρ} (hf : ∀ t t' k, (f t).idx = some k → (f t').idx = some k → t = t')
    (t : Nat) (s : St ο ρ) (hs : ∀ t' k, t' ≠ t → (f t').idx = some k → s.idx ≠ some k)
    (t1 t2 k : Nat) (h1 : (setSt f t s t1).idx = some k) (h2 : (setSt f t s t2).idx = some k) : t1 = t2 := by
  by_cases e1 : t1 = t <;> by_cases e2 : t2 = t
  · rw [e1, e2]
  · rw [e1, setSt_same] at h1; rw [setSt_other _ _ e2] at h2
    exact absurd h1 (hs t2 k e2 h2)
  · rw [e2, setSt_same] at h2; rw [setSt_other _ _ e1] at h1
    exact absurd h2 (hs t1 k e1 h1)
  · rw [setSt_other _ _ e1] at h1; rw [setSt_other _ _ e2] at h2
    exact hf t1 t2 k h1 h2

/-- what a status promises survives any change that keeps its own history entry, lets time pass, does not
    linearize its operation and forgets no ghost entry -/
theorem St.ok.mono {h h' : List (HOp ο ρ)} {lin lin' : List Nat} {L L' : List (Ent ο ρ)} {now now' : Nat}
    {st : St ο ρ} (hok : st.ok h lin L now) (hh : ∀ k a, st.idx = some k → h[k]? = some a → h'[k]? = some a)
    (hnow : now ≤ now') (hlin : ∀ k, st.idx = some k → k ∈ lin' → k ∈ lin) (hL : ∀ p ∈ L, p ∈ L') :
    st.ok h' lin' L' now' := by
  cases st with
  | idle => trivial
  | called k o =>
    obtain ⟨a, ha, h1, h2, h3, h4⟩ := hok
    exact ⟨a, hh k a rfl ha, h1, Nat.lt_of_lt_of_le h2 hnow, h3, fun hm => h4 (hlin k rfl hm)⟩
  | acted k r =>
    obtain ⟨a, ha, h1, p, hp, h2⟩ := hok
    exact ⟨a, hh k a rfl ha, h1, p, hL p hp, h2⟩

theorem Inv.lin_lt {O : Obj σ ο ρ} {c : Cfg σ ο ρ} {L : List (Ent ο ρ)} (hI : Inv O c L)
    {k : Nat} (hk : k ∈ c.lin) : k < c.hist.length := by
  rw [← hI.pos] at hk
  obtain ⟨p, hp, rfl⟩ := List.mem_map.1 hk
  obtain ⟨_, a, ha, _⟩ := hI.ok p hp
  exact lt_length_of_getElem? ha

theorem Inv.idx_lt {O : Obj σ ο ρ} {c : Cfg σ ο ρ} {L : List (Ent ο ρ)} (hI : Inv O c L)
    {t k : Nat} (h : (c.status t).idx = some k) : k < c.hist.length := by
  have hst := hI.st t
  cases hs : c.status t with
  | idle => rw [hs] at h; cases h
  | called k' o' => rw [hs] at h hst; cases h; obtain ⟨a, ha, _⟩ := hst; exact lt_length_of_getElem? ha
  | acted k' r' => rw [hs] at h hst; cases h; obtain ⟨a, ha, _⟩ := hst; exact lt_length_of_getElem? ha

theorem Inv.init (O : Obj σ ο ρ) : Inv O (Cfg.init O) ([] : List (Ent ο ρ)) where
  pos := rfl
  nodup := List.nodup_nil
  run := rfl
  mono := List.Pairwise.nil
  ok := by intro p hp; cases hp
  complete := by intro k a h; simp [Cfg.init] at h
  st := by intro t; exact True.intro
  inj := by intro t t' k h; simp [Cfg.init, St.idx] at h

theorem Inv.call {O : Obj σ ο ρ} {c : Cfg σ ο ρ} {L : List (Ent ο ρ)} (hI : Inv O c L)
    (t : Nat) (o : ο) :
    Inv O { c with
        status := setSt c.status t (.called c.hist.length o)
        now := c.now + 1
        hist := c.hist ++ [{ op := o, call := c.now, ret := none }] } L where
  pos := hI.pos
  nodup := hI.nodup
  run := hI.run
  mono := hI.mono
  ok := by
    intro p hp
    obtain ⟨h1, a, ha, h2⟩ := hI.ok p hp
    exact ⟨Nat.lt_succ_of_lt h1, a, getElem?_append_of_some ha, h2⟩
  complete := by
    intro k a hk hr
    dsimp only at hk
    by_cases hlt : k < c.hist.length
    · rw [List.getElem?_append_left hlt] at hk
      exact hI.complete k a hk hr
    · rw [List.getElem?_append_right (Nat.le_of_not_lt hlt)] at hk
      have : a = { op := o, call := c.now, ret := none } := by
        cases hi : k - c.hist.length with
        | zero => rw [hi] at hk; simpa using hk.symm
        | succ n => rw [hi] at hk; simp at hk
      subst this
      cases hr
  st := forall_setSt
    ⟨{ op := o, call := c.now, ret := none }, by simp, rfl, Nat.lt_succ_self _, rfl,
      fun hmem => Nat.lt_irrefl _ (hI.lin_lt hmem)⟩
    (fun t' _ => (hI.st t').mono (fun _ _ _ => getElem?_append_of_some) (Nat.le_succ _) (fun _ _ => id) (fun _ => id))
  inj := inj_setSt hI.inj t _ (fun t' k _ hk e => by
    cases e; exact Nat.lt_irrefl _ (hI.idx_lt hk))

theorem Inv.act {O : Obj σ ο ρ} {c : Cfg σ ο ρ} {L : List (Ent ο ρ)} (hI : Inv O c L)
    (t k : Nat) (o : ο) (ht : c.status t = .called k o) :
    Inv O { c with
        state := (O.step c.state o).1
        status := setSt c.status t (.acted k (O.step c.state o).2)
        now := c.now + 1
        lin := c.lin ++ [k] }
      (L ++ [{ pos := k, op := o, time := c.now, res := (O.step c.state o).2 }]) := by
  have hst := hI.st t
  rw [ht] at hst
  obtain ⟨a, ha, haop, hacall, haret, hknot⟩ := hst
  -- `t` is the only thread at position `k`
  have other : ∀ t' k', t' ≠ t → (c.status t').idx = some k' → k' ≠ k := fun t' k' htt hk' e =>
    htt (hI.inj t' t k' hk' (by rw [ht, e]; rfl))
  refine
    { pos := ?_, nodup := ?_, run := ?_, mono := ?_, ok := ?_, complete := ?_, st := ?_, inj := ?_ }
  · simp [hI.pos]
  · dsimp only
    rw [List.nodup_append]
    refine ⟨hI.nodup, List.pairwise_singleton _ _, ?_⟩
    intro x hx y hy
    rw [List.mem_singleton] at hy
    subst hy
    intro hxy
    subst hxy
    exact hknot hx
  · rw [List.map_append, runSeq_append, hI.run]
    simp [Obj.runSeq]
  · rw [List.pairwise_append]
    refine ⟨hI.mono, List.pairwise_singleton _ _, ?_⟩
    intro p hp q hq
    rw [List.mem_singleton] at hq
    subst hq
    exact (hI.ok p hp).1
  · intro p hp
    rcases List.mem_append.1 hp with hp | hp
    · obtain ⟨h1, h2⟩ := hI.ok p hp
      exact ⟨Nat.lt_succ_of_lt h1, h2⟩
    · rw [List.mem_singleton] at hp
      subst hp
      refine ⟨Nat.lt_succ_self _, a, ha, haop, hacall, ?_⟩
      intro tr r hr
      rw [haret] at hr
      cases hr
  · intro k' a' hk' hr
    exact List.mem_append_left _ (hI.complete k' a' hk' hr)
  · exact forall_setSt
      ⟨a, ha, haret, _, List.mem_append_right _ (List.mem_singleton.2 rfl), rfl, rfl⟩
      (fun t' htt => (hI.st t').mono (fun _ _ _ => id) (Nat.le_succ _)
        (fun k' hk' hmem => (List.mem_append.1 hmem).resolve_right
          (fun hm => other t' k' htt hk' (List.mem_singleton.1 hm)))
        (fun p hp => List.mem_append_left _ hp))
  · exact inj_setSt hI.inj t _ (fun t' _ htt hk' e => by cases e; exact other t' _ htt hk' rfl)

theorem Inv.ret {O : Obj σ ο ρ} {c : Cfg σ ο ρ} {L : List (Ent ο ρ)} (hI : Inv O c L)
    (t k : Nat) (r : ρ) (ht : c.status t = .acted k r) :
    Inv O { c with
        status := setSt c.status t .idle
        now := c.now + 1
        hist := c.hist.modify k (fun a => { a with ret := some (c.now, r) }) } L := by
  have hst := hI.st t
  rw [ht] at hst
  obtain ⟨a, ha, haret, p0, hp0, hp0pos, hp0res⟩ := hst
  have hklin : k ∈ c.lin := by
    rw [← hI.pos, ← hp0pos]; exact List.mem_map.2 ⟨p0, hp0, rfl⟩
  have other : ∀ t', t' ≠ t → ∀ k', (c.status t').idx = some k' → k' ≠ k := by
    intro t' htt k' hk' e
    subst e
    exact htt (hI.inj t' t k' hk' (by rw [ht]; rfl))
  have hget : ∀ k', k' ≠ k →
      (c.hist.modify k (fun a => { a with ret := some (c.now, r) }))[k']? = c.hist[k']? := by
    intro k' hne
    rw [List.getElem?_modify]
    cases c.hist[k']? with
    | none => rfl
    | some b => simp [Ne.symm hne]
  have hgetk : (c.hist.modify k (fun a => { a with ret := some (c.now, r) }))[k]?
      = some { a with ret := some (c.now, r) } := by
    rw [List.getElem?_modify, ha]; simp
  refine
    { pos := hI.pos, nodup := hI.nodup, run := hI.run, mono := hI.mono,
      ok := ?_, complete := ?_, st := ?_, inj := ?_ }
  · intro p hp
    obtain ⟨h1, b, hb, h2, h3, h4⟩ := hI.ok p hp
    refine ⟨Nat.lt_succ_of_lt h1, ?_⟩
    by_cases e : p.pos = k
    · have hpe : p = p0 :=
        eq_of_nodup_map (·.pos) (by rw [hI.pos]; exact hI.nodup) hp hp0 (by rw [e, hp0pos])
      subst hpe
      rw [e, ha] at hb
      cases hb
      refine ⟨{ a with ret := some (c.now, r) }, ?_, h2, h3, ?_⟩
      · dsimp only; rw [e]; exact hgetk
      · intro tr r' hr
        simp only [Option.some.injEq, Prod.mk.injEq] at hr
        obtain ⟨rfl, rfl⟩ := hr
        exact ⟨hp0res.symm, h1⟩
    · exact ⟨b, by dsimp only; rw [hget _ e]; exact hb, h2, h3, h4⟩
  · intro k' b hk' hr
    dsimp only at hk'
    by_cases e : k' = k
    · subst e; exact hklin
    · rw [hget _ e] at hk'
      exact hI.complete k' b hk' hr
  · exact forall_setSt True.intro (fun t' htt => (hI.st t').mono
      (fun k' a' hk' ha' => by rw [hget _ (other t' htt k' hk')]; exact ha')
      (Nat.le_succ _) (fun _ _ => id) (fun _ => id))
  · exact inj_setSt hI.inj t _ (fun _ _ _ _ e => by cases e)

theorem Inv.step {O : Obj σ ο ρ} {c c' : Cfg σ ο ρ} {L : List (Ent ο ρ)} (hI : Inv O c L)
    (e : Ev ο) (hs : step? O c e = some c') : ∃ L', Inv O c' L' := by
  cases e with
  | call t o =>
    simp only [step?] at hs
    split at hs
    · cases hs; exact ⟨L, hI.call t o⟩
    · cases hs
  | act t =>
    simp only [step?] at hs
    split at hs
    · cases hs; exact ⟨_, hI.act t _ _ ‹_›⟩
    · cases hs
  | ret t =>
    simp only [step?] at hs
    split at hs
    · cases hs; exact ⟨L, hI.ret t _ _ ‹_›⟩
    · cases hs

theorem Inv.runFrom {O : Obj σ ο ρ} (evs : List (Ev ο)) {c c' : Cfg σ ο ρ} {L : List (Ent ο ρ)}
    (hI : Inv O c L) (hr : runFrom O c evs = some c') : ∃ L', Inv O c' L' := by
  induction evs generalizing c L with
  | nil => cases hr; exact ⟨L, hI⟩
  | cons e es ih =>
    obtain ⟨c1, hs, hr⟩ := Option.bind_eq_some_iff.1 hr
    obtain ⟨L1, hI1⟩ := hI.step e hs
    exact ih hI1 hr

/-- every well-formed execution satisfies the invariant -/
theorem Exec.inv {O : Obj σ ο ρ} {evs : List (Ev ο)} {cfg : Cfg σ ο ρ} (h : Exec O evs cfg) :
    ∃ L : List (Ent ο ρ), Inv O cfg L :=
  Inv.runFrom evs (Inv.init O) h

theorem pick_cons_of_some {h : List (HOp ο ρ)} {k : Nat} {a : HOp ο ρ} (ks : List Nat)
    (hk : h[k]? = some a) : pick h (k :: ks) = a :: pick h ks := by
  simp [pick, hk]

/-- the operations selected by the entries' positions are the entries' operations -/
theorem pick_ops (h : List (HOp ο ρ)) (L : List (Ent ο ρ)) (hok : ∀ p ∈ L, p.ok h) :
    (pick h (L.map (·.pos))).map (·.op) = L.map (·.op) := by
  induction L with
  | nil => rfl
  | cons p L ih =>
    obtain ⟨a, ha, hop, _⟩ := hok p (List.mem_cons_self ..)
    rw [List.map_cons, pick_cons_of_some _ ha, List.map_cons, List.map_cons, hop,
      ih (fun q hq => hok q (List.mem_cons_of_mem _ hq))]

/-- every returned operation returned the result recorded in its entry -/
theorem pick_resultsAgree [DecidableEq ρ] (h : List (HOp ο ρ)) (L : List (Ent ο ρ))
    (hok : ∀ p ∈ L, p.ok h) :
    resultsAgree (pick h (L.map (·.pos))) (L.map (·.res)) = true := by
  induction L with
  | nil => rfl
  | cons p L ih =>
    obtain ⟨a, ha, _, _, hret⟩ := hok p (List.mem_cons_self ..)
    rw [List.map_cons, pick_cons_of_some _ ha, List.map_cons]
    unfold resultsAgree
    rw [ih (fun q hq => hok q (List.mem_cons_of_mem _ hq)), Bool.and_true]
    cases hr : a.ret with
    | none => rfl
    | some x =>
      obtain ⟨tr, r⟩ := x
      exact decide_eq_true (hret tr r hr).1

/-- action times strictly increasing along the list, each between call and return ⇒ real-time
    order is respected: if `b` had returned before `a` was called then
    `time b < ret b < call a < time a`, so `b` cannot come after `a` -/
theorem pick_respectsRealTime (h : List (HOp ο ρ)) (L : List (Ent ο ρ))
    (hok : ∀ p ∈ L, p.ok h) (hmono : L.Pairwise (fun p q => p.time < q.time)) :
    respectsRealTime (pick h (L.map (·.pos))) = true := by
  induction L with
  | nil => rfl
  | cons p L ih =>
    obtain ⟨a, ha, _, hcall, _⟩ := hok p (List.mem_cons_self ..)
    rw [List.pairwise_cons] at hmono
    rw [List.map_cons, pick_cons_of_some _ ha]
    unfold respectsRealTime
    rw [ih (fun q hq => hok q (List.mem_cons_of_mem _ hq)) hmono.2, Bool.and_true,
      List.all_eq_true]
    intro b hb
    obtain ⟨k, hk, hbk⟩ := List.mem_filterMap.1 hb
    obtain ⟨q, hq, rfl⟩ := List.mem_map.1 hk
    obtain ⟨b', hb', _, _, hret⟩ := hok q (List.mem_cons_of_mem _ hq)
    rw [hb'] at hbk
    cases hbk
    have hlt := hmono.1 q hq
    unfold precedes
    cases hr : b.ret with
    | none => rfl
    | some x =>
      obtain ⟨tr, r⟩ := x
      have := (hret tr r hr).2
      simp only [Bool.not_eq_eq_eq_not, Bool.not_true, decide_eq_false_iff_not]
      omega

theorem Inv.isLinearization [DecidableEq ρ] {O : Obj σ ο ρ} {c : Cfg σ ο ρ} {L : List (Ent ο ρ)}
    (hI : Inv O c L) :
    isLinearization O c.hist c.lin = true ∧ finalState O c.hist c.lin = c.state := by
  have hok : ∀ p ∈ L, p.ok c.hist := fun p hp => (hI.ok p hp).2
  have hops : (pick c.hist c.lin).map (·.op) = L.map (·.op) := by
    rw [← hI.pos]; exact pick_ops _ _ hok
  constructor
  · unfold Lin.isLinearization
    simp only [Bool.and_eq_true]
    refine ⟨⟨⟨⟨decide_eq_true hI.nodup, ?_⟩, ?_⟩, ?_⟩, ?_⟩
    · rw [List.all_eq_true]
      intro k hk
      exact decide_eq_true (hI.lin_lt hk)
    · rw [List.all_eq_true]
      intro k hk
      cases hg : c.hist[k]? with
      | none => rfl
      | some a =>
        cases hr : a.ret.isSome with
        | false => simp [hr]
        | true => simp [hI.complete k a hg hr]
    · rw [← hI.pos]; exact pick_respectsRealTime _ _ hok hI.mono
    · rw [hops, hI.run, ← hI.pos]; exact pick_resultsAgree _ _ hok
  · unfold finalState
    rw [hops, hI.run]

/-- the witness of `atomic_linearizable` is the ghost field `cfg.lin` (order of the atomic actions) -/
theorem atomic_linearizable_lin [DecidableEq ρ] (O : Obj σ ο ρ) (evs : List (Ev ο))
    (cfg : Cfg σ ο ρ) (h : Exec O evs cfg) :
    isLinearization O cfg.hist cfg.lin = true ∧ finalState O cfg.hist cfg.lin = cfg.state := by
  obtain ⟨L, hI⟩ := h.inv
  exact hI.isLinearization

/-- **Atomicity ⇒ linearizability.**  If every operation performs exactly one atomic action on the
    shared state between its call and its return (`Exec`), then — for any number of threads and any
    schedule — the order `cfg.lin` of those atomic actions is a linearization of the recorded
    history (real-time order respected, returned results explained), and its sequential run ends
    in the shared state. -/
theorem atomic_linearizable [DecidableEq ρ] (O : Obj σ ο ρ) (evs : List (Ev ο)) (cfg : Cfg σ ο ρ)
    (h : Exec O evs cfg) :
    ∃ lin, isLinearization O cfg.hist lin = true ∧ finalState O cfg.hist lin = cfg.state :=
  ⟨cfg.lin, atomic_linearizable_lin O evs cfg h⟩

theorem atomic_Linearizable [DecidableEq ρ] (O : Obj σ ο ρ) (evs : List (Ev ο)) (cfg : Cfg σ ο ρ)
    (h : Exec O evs cfg) : Linearizable O cfg.hist := by
  obtain ⟨lin, hl, _⟩ := atomic_linearizable O evs cfg h
  exact ⟨lin, hl⟩

theorem atomic_LinearizableWith [DecidableEq ρ] (O : Obj σ ο ρ) (evs : List (Ev ο))
    (cfg : Cfg σ ο ρ) (h : Exec O evs cfg) (P : σ → Prop) (hP : P cfg.state) :
    LinearizableWith O cfg.hist P := by
  obtain ⟨lin, hl, hf⟩ := atomic_linearizable O evs cfg h
  exact ⟨lin, hl, by rw [hf]; exact hP⟩

/-- fetch-and-increment -/
def counter : Obj Nat Unit Nat := { init := 0, step := fun s _ => (s + 1, s) }

/-- two threads whose calls overlap; thread 1 acts first although thread 0 called first -/
def overlapEvs : List (Ev Unit) := [.call 0 (), .call 1 (), .act 1, .act 0, .ret 0, .ret 1]

/-- the execution is well-formed; the recorded history has thread 0's operation returning 1 and
    thread 1's returning 0; the order of the atomic actions `[1, 0]` is a linearization, and the
    other order `[0, 1]` is not (it would give thread 0's operation the result 0). -/
example : ∃ cfg, Exec counter overlapEvs cfg
    ∧ cfg.hist = [⟨(), 0, some (4, 1)⟩, ⟨(), 1, some (5, 0)⟩]
    ∧ cfg.lin = [1, 0]
    ∧ cfg.state = 2
    ∧ isLinearization counter cfg.hist cfg.lin = true
    ∧ isLinearization counter cfg.hist [0, 1] = false :=
  ⟨_, rfl, rfl, rfl, rfl, rfl, rfl⟩

/-- an event that is not enabled (returning before having acted) makes the execution ill-formed -/
example : runFrom counter (Cfg.init counter) [.call 0 (), .ret 0] = none := rfl

/-- a history of the counter that is not linearizable: the first operation returned 1 before the
    second, which returned 0, was even called -/
def badHist : List (HOp Unit Nat) := [⟨(), 0, some (1, 1)⟩, ⟨(), 2, some (3, 0)⟩]

/-- `isLinearization` is refutable: `[0, 1]` gives the wrong results, `[1, 0]` violates real-time
    order, `[0]` drops a returned operation -/
example : isLinearization counter badHist [0, 1] = false
    ∧ isLinearization counter badHist [1, 0] = false
    ∧ isLinearization counter badHist [0] = false := by decide

/-- and in fact no candidate order at all works: `badHist` is not linearizable (a candidate must be
    duplicate-free, in range and contain both positions, so it is `[0, 1]` or `[1, 0]`) -/
example : ¬ Linearizable counter badHist := by
  rintro ⟨lin, hl⟩
  unfold isLinearization at hl
  simp only [Bool.and_eq_true, decide_eq_true_eq, List.all_eq_true] at hl
  obtain ⟨⟨⟨⟨hnd, hrange⟩, hcomp⟩, hrt⟩, hres⟩ := hl
  have h0 : 0 ∈ lin := by simpa [badHist] using hcomp 0 (by simp [badHist])
  have h1 : 1 ∈ lin := by simpa [badHist] using hcomp 1 (by simp [badHist])
  match lin, hnd, hrange, h0, h1, hrt, hres with
  | [], _, _, h0, _, _, _ => cases h0
  | [x], _, _, h0, h1, _, _ => simp at h0 h1; omega
  | [x, y], hnd, hrange, h0, h1, hrt, hres =>
    simp at h0 h1 hnd
    have hx : x = 0 ∨ x = 1 := by omega
    rcases hx with rfl | rfl
    · have : y = 1 := by omega
      subst this; revert hres; decide
    · have : y = 0 := by omega
      subst this; revert hrt; decide
  | x :: y :: z :: rest, hnd, hrange, _, _, _, _ =>
    have hx := hrange x (by simp)
    have hy := hrange y (by simp)
    have hz := hrange z (by simp)
    simp [badHist] at hx hy hz hnd
    omega

end Ro.Lin
