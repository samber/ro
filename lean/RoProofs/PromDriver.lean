/-
  RoProofs.PromDriver — the driver's own parsers (`kind=prom`) give what the transparency theorem asks for:
  every chain description the driver can parse (every int→int catalogue operator with its parameters,
  variant and named callback, every stand-alone counter) that does not contain `Max` and whose
  callback markers are not the reserved one is read, with the licence on and off, as two related
  chains (`parseChain_related`); every script it can parse under a subscription context that is not
  nil carries no nil context (`parseScript_nonNil`). Related chains look the same to the subscriber,
  with `PipeN` (`transparent_related`) and without (`plain_related`). Put together on the driver's
  per-subscription result in `C19.driver_results_transparent`.
-/
import RoProofs.PromPairsAll
namespace Ro.Prom
open Ro Ro.Driver Ro.Driver.Drivers.Prom

/-- related chains: licence on (instrumented) and licence off (plain) look the same -/
theorem transparent_related {α : Type} (msI msP : List (AnyM α)) (h : RelatedL msI msP) (hot : Bool) (sub : Ctx)
    (raw : List (Notif α)) (cut : Option Nat) (hs : sub.isNil = false) (hn : NonNil raw) :
    Spec.SameObservation (Prom.run hot sub (instrument msI) raw cut) (Prom.run hot sub msP raw cut) := by
  obtain ⟨ws, rfl, rfl⟩ := pairs_of_related msI msP h
  obtain ⟨T, hsim⟩ := instrument_sim ws
  exact hsim.run hot sub raw cut hs hn

/-- … and without `PipeN` (stand-alone operators applied directly) -/
theorem plain_related {α : Type} (msI msP : List (AnyM α)) (h : RelatedL msI msP) (hot : Bool) (sub : Ctx)
    (raw : List (Notif α)) (cut : Option Nat) (hs : sub.isNil = false) (hn : NonNil raw) :
    Spec.SameObservation (Prom.run hot sub msI raw cut) (Prom.run hot sub msP raw cut) := by
  obtain ⟨ws, rfl, rfl⟩ := pairs_of_related msI msP h
  obtain ⟨T, hsim⟩ := plain_sim ws
  exact hsim.run hot sub raw cut hs hn

/-- a chain element `Name:params:variant:callback` the theorem covers: not `Max`, and the
    callback's marker (if any) is not the reserved one -/
def ElemGood (t : String) : Prop :=
  ∀ name p var cb, t.splitOn ":" = [name, p, var, cb] →
    name ≠ "Max" ∧ GoodTags (if cb == "-" || cb == "" then [] else [parseCb cb])

theorem standalone_none_iff (name : String) : standalone true name = none ↔ standalone false name = none := by
  unfold standalone
  split <;> simp

theorem parseElem_related (t : String) (eI eP : AnyM Int × Bool) (hg : ElemGood t)
    (hI : parseElem true t = some eI) (hP : parseElem false t = some eP) : Related eI.1 eP.1 := by
  unfold parseElem at hI hP
  split at hI
  · rename_i name p var cb hsplit
    rw [hsplit] at hP
    simp only at hP
    obtain ⟨hmax, htag⟩ := hg name p var cb hsplit
    cases hsI : standalone true name with
    | some aI =>
      cases hsP : standalone false name with
      | some aP =>
        rw [hsI] at hI; rw [hsP] at hP
        cases hI; cases hP
        exact standalone_related name aI aP hsI hsP
      | none => exact absurd ((standalone_none_iff name).mpr hsP) (by rw [hsI]; simp)
    | none =>
      have hsP := (standalone_none_iff name).mp hsI
      rw [hsI] at hI; rw [hsP] at hP
      obtain ⟨aI, haI, rfl⟩ := Option.map_eq_some_iff.mp hI
      obtain ⟨aP, haP, rfl⟩ := Option.map_eq_some_iff.mp hP
      have : aI = aP := Option.some.inj (haI.symm.trans haP)
      subst this
      exact stageOf_related _ _ _ _ aI haI hmax htag
  · cases hI

theorem mapM_related (ts : List String) (eI eP : List (AnyM Int × Bool)) (hg : ∀ t ∈ ts, ElemGood t)
    (hI : ts.mapM (parseElem true) = some eI) (hP : ts.mapM (parseElem false) = some eP) :
    RelatedL (eI.map (·.1)) (eP.map (·.1)) := by
  induction ts generalizing eI eP with
  | nil =>
    simp only [List.mapM_nil, Option.pure_def, Option.some.injEq] at hI hP
    subst hI hP
    trivial
  | cons t rest ih =>
    simp only [List.mapM_cons, Option.pure_def, Option.bind_eq_bind, Option.bind_eq_some_iff, Option.some.injEq] at hI hP
    obtain ⟨xI, hxI, rI, hrI, rfl⟩ := hI
    obtain ⟨xP, hxP, rP, hrP, rfl⟩ := hP
    exact ⟨parseElem_related t xI xP (hg t (List.mem_cons_self ..)) hxI hxP,
           ih rI rP (fun u hu => hg u (List.mem_cons_of_mem _ hu)) hrI hrP⟩

/-- a chain description the theorem covers -/
def ChainGood (s : String) : Prop := ∀ t ∈ s.splitOn "/", ElemGood t

theorem parseChain_related (s : String) (eI eP : List (AnyM Int × Bool)) (hg : ChainGood s)
    (hI : parseChain true s = some eI) (hP : parseChain false s = some eP) :
    RelatedL (eI.map (·.1)) (eP.map (·.1)) := by
  unfold parseChain at hI hP
  split at hI
  · rename_i h
    rw [if_pos h] at hP
    cases hI; cases hP; trivial
  · rename_i h
    rw [if_neg h] at hP
    exact mapM_related _ eI eP hg hI hP

theorem parseTok_nonNil (sub : Ctx) (hs : sub.isNil = false) (t : String) (n : Notif Int)
    (h : parseTok sub t = some n) : n.ctx.isNil = false := by
  -- whatever the token, its context is `sub` or `sub.tag k`
  have hc : (match t.splitOn "@" with
      | [b, m] => (b, match m.toNat? with | some k => sub.tag k | none => sub)
      | _ => (t, sub)).2.isNil = false := by
    split
    · split <;> exact hs
    · exact hs
  unfold parseTok at h
  simp only at h
  split at h
  · obtain ⟨v, _, rfl⟩ := Option.map_eq_some_iff.mp h; exact hc
  · obtain ⟨v, _, rfl⟩ := Option.map_eq_some_iff.mp h; exact hc
  · cases h; exact hc
  · cases h

theorem parseScript_nonNil (sub : Ctx) (hs : sub.isNil = false) (s : String) (raw : List (Notif Int))
    (h : parseScript sub s = some raw) : NonNil raw := by
  unfold parseScript at h
  split at h
  · cases h; exact nonNil_nil_iff.mpr trivial
  · generalize s.splitOn "," = ts at h
    induction ts generalizing raw with
    | nil =>
      simp only [List.mapM_nil, Option.pure_def, Option.some.injEq] at h
      subst h; exact nonNil_nil_iff.mpr trivial
    | cons t rest ih =>
      simp only [List.mapM_cons, Option.pure_def, Option.bind_eq_bind, Option.bind_eq_some_iff, Option.some.injEq] at h
      obtain ⟨n, hn, r, hr, rfl⟩ := h
      exact nonNil_cons_iff.mpr ⟨parseTok_nonNil sub hs t n hn, ih r hr⟩

end Ro.Prom
