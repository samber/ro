/-
  RoProofs.Plugins.Lift — what C18(a) says a plugin operator of shape `ro.Map(f)` / `ro.MapErr(f)` /
  `ro.Filter(p)` delivers, for ANY function `f`: `f` applied item by item (each result with the
  context of its item), ending at the first error `f` returns, otherwise with the source's own
  ending. `Spec.map`, `Spec.mapErr`, `Spec.filter` say the same with an index the plugin shape does
  not use; the lemmas here take the index away (`RoProps/C18.lean`, `lift_*`).
-/
import RoModel.Plugins.Lift
import RoProofs.Ops.Basic
import RoProofs.Ops.FilterSpecs
import RoProofs.Ops.TransformSpecs
namespace Ro.Plugins
open Ro

variable {α β : Type}

/-- `f` applied to every value, then the source's ending -/
def liftMapSpec (f : α → β) (vs : List (Ctx × α)) (e : Ending) : List (Notif β) :=
  vs.map (fun p => Notif.next p.1 (f p.2)) ++ e.toList

/-- `f` applied item by item; the first item for which `f` returns an error ends the stream with
    that error (and that item's context); nothing follows it -/
def liftMapErrSpec (f : α → β × Option Err) : List (Ctx × α) → Ending → List (Notif β)
  | [], e => e.toList
  | p :: vs, e =>
    match (f p.2).2 with
    | some err => [Notif.error p.1 err]
    | none => Notif.next p.1 (f p.2).1 :: liftMapErrSpec f vs e

/-- the values satisfying `p`, unchanged, then the source's ending -/
def liftFilterSpec (p : α → Bool) (vs : List (Ctx × α)) (e : Ending) : List (Notif α) :=
  (vs.filter (fun q => p q.2)).map (fun q => Notif.next q.1 q.2) ++ e.toList

theorem zipIdx_map_fst' {γ δ : Type} (l : List γ) (g : γ → δ) (n : Nat) :
    (l.zipIdx n).map (fun q => g q.1) = l.map g := by
  induction l generalizing n with
  | nil => rfl
  | cons x xs ih => simp [List.zipIdx_cons, ih]

theorem mapErr_as_rec (f : α → β × Option Err) (vs : List (Ctx × α)) (e : Ending) (n : Nat) :
    (((vs.zipIdx n).map (fun q => ((f q.1.2).1, q.1.1, (f q.1.2).2))).takeWhile (fun r => r.2.2.isNone)).map
        (fun r => Notif.next r.2.1 r.1) ++
      (match ((vs.zipIdx n).map (fun q => ((f q.1.2).1, q.1.1, (f q.1.2).2))).findSome?
          (fun r => r.2.2.map (fun err => (r.2.1, err))) with
        | some ce => [Notif.error ce.1 ce.2]
        | none => e.toList)
    = liftMapErrSpec f vs e := by
  induction vs generalizing n with
  | nil => simp [liftMapErrSpec]
  | cons p ps ih =>
    simp only [List.zipIdx_cons, List.map_cons, liftMapErrSpec]
    cases h : (f p.2).2 with
    | none =>
      simp only [List.takeWhile_cons, Option.isNone_none, if_true, List.map_cons, List.findSome?_cons,
        Option.map_none, List.cons_append]
      rw [ih]
    | some err =>
      simp

theorem zipIdx_filter_map_fst' {γ δ : Type} (l : List γ) (p : γ → Bool) (g : γ → δ) (n : Nat) :
    ((l.zipIdx n).filter (fun q => p q.1)).map (fun q => g q.1) = (l.filter p).map g := by
  induction l generalizing n with
  | nil => rfl
  | cons x xs ih =>
    simp only [List.zipIdx_cons, List.filter_cons]
    cases p x <;> simp [ih]

/-- a `MapErr` lift never delivers anything after the error of the wrapped function -/
theorem liftMapErrSpec_grammar (f : α → β × Option Err) (vs : List (Ctx × α)) (e : Ending) :
    Grammar (liftMapErrSpec f vs e) := by
  induction vs with
  | nil => cases e <;> simp [liftMapErrSpec, Ending.toList, Grammar]
  | cons p ps ih =>
    unfold liftMapErrSpec
    cases (f p.2).2 with
    | none => simpa [Grammar] using ih
    | some err => simp [Grammar]

-- non-vacuity: a MapErr lift over a script with an illegal suffix; the third item fails
example :
    (runOp (liftMapErr (fun (v : Nat) => (v * 10, if v = 3 then some (Err.user 9) else none))) .hot Ctx.bg
      [.next (Ctx.bg.tag 1) 1, .next (Ctx.bg.tag 2) 2, .next (Ctx.bg.tag 3) 3, .next (Ctx.bg.tag 4) 4, .complete Ctx.bg, .next Ctx.bg 5]).out
    = [.next (Ctx.bg.tag 1) 10, .next (Ctx.bg.tag 2) 20, .error (Ctx.bg.tag 3) (.user 9)] := by decide

example :
    (runOp (liftMap (fun (v : Nat) => v + 1)) .sync Ctx.bg
      [.next (Ctx.bg.tag 1) 1, .next (Ctx.bg.tag 2) 2, .error Ctx.bg (.user 4), .next Ctx.bg 5]).out
    = [.next (Ctx.bg.tag 1) 2, .next (Ctx.bg.tag 2) 3, .error Ctx.bg (.user 4)] := by decide

example :
    (runOp (liftFilter (fun (v : Nat) => v % 2 == 0)) .sync Ctx.bg
      [.next (Ctx.bg.tag 1) 1, .next (Ctx.bg.tag 2) 2, .next (Ctx.bg.tag 3) 4, .complete (Ctx.bg.tag 9)]).out
    = [.next (Ctx.bg.tag 2) 2, .next (Ctx.bg.tag 3) 4, .complete (Ctx.bg.tag 9)] := by decide

end Ro.Plugins
