/-
  RoProofs.Plugins.Reader — `NewIOReader` (plugins/stdio/source.go): for EVERY script of `Read`
  results (data together with an error included) the loop adds exactly the data of the reads, in
  order, to the chunks — a later `Read` into the shared buffer changes none of them — and the
  terminal follows the first error (`RoProps/C18.lean`, `reader_*`).
-/
import RoModel.Plugins.Reader
namespace Ro.Plugins.Reader

theorem take_overwrite (buf data : Bytes) : (overwrite buf data).take data.length = data := by
  simp [overwrite]

/-- each chunk is the data of its read, whatever the buffer held before and whatever is read later -/
theorem ioReader_chunks (r : Run) (script : List Read) :
    (ioReader r script).chunks = r.chunks ++ handedOn script := by
  induction script generalizing r with
  | nil => simp [ioReader, handedOn]
  | cons rd rest ih =>
    obtain ⟨data, err⟩ := rd
    cases err with
    | none =>
      have hstep : ioReader r (⟨data, none⟩ :: rest) =
          ioReader { buf := overwrite r.buf data, chunks := r.chunks ++ [(overwrite r.buf data).take data.length],
                     term := r.term } rest := by
        simp [ioReader]
      rw [hstep, ih, take_overwrite]
      simp [handedOn]
    | some e =>
      cases e <;> cases data <;> simp [ioReader, handedOn, overwrite]

theorem handedOn_flatten (script : List Read) : (handedOn script).flatten = produced script := by
  induction script with
  | nil => rfl
  | cons rd rest ih =>
    obtain ⟨data, err⟩ := rd
    cases err with
    | none => simp [handedOn, produced, ih]
    | some e => cases data <;> simp [handedOn, produced]

/-- the first error the reader returns -/
def firstErr (script : List Read) : Option RErr := script.findSome? (fun rd => rd.err)

/-- how a script ends -/
def termOf (script : List Read) : Term :=
  match firstErr script with
  | some RErr.eof => Term.complete
  | some (RErr.other k) => Term.error k
  | none => Term.none

theorem termOf_cons_none (data : Bytes) (rest : List Read) :
    termOf (⟨data, none⟩ :: rest) = termOf rest := by
  simp [termOf, firstErr]

theorem ioReader_term (r : Run) (script : List Read) (hr : r.term = .none) :
    (ioReader r script).term = termOf script := by
  induction script generalizing r with
  | nil => simpa [ioReader, termOf, firstErr] using hr
  | cons rd rest ih =>
    obtain ⟨data, err⟩ := rd
    cases err with
    | none =>
      have hstep : ioReader r (⟨data, none⟩ :: rest) =
          ioReader { buf := overwrite r.buf data, chunks := r.chunks ++ [(overwrite r.buf data).take data.length],
                     term := r.term } rest := by
        simp [ioReader]
      rw [hstep, ih _ (by exact hr), termOf_cons_none]
    | some e => cases e <;> simp [ioReader, termOf, firstErr]

-- non-vacuity: two chunks survive a third read; bytes that come with EOF are delivered; nothing after it
example : (runIOReader [⟨[1, 2], none⟩, ⟨[3], none⟩, ⟨[], some .eof⟩]).chunks = [[1, 2], [3]] := by decide
example : (runIOReader [⟨[1, 2], none⟩, ⟨[3, 4], some .eof⟩, ⟨[5], none⟩]).chunks = [[1, 2], [3, 4]] ∧
    (runIOReader [⟨[1, 2], none⟩, ⟨[3, 4], some .eof⟩, ⟨[5], none⟩]).term = .complete ∧
    produced [⟨[1, 2], none⟩, ⟨[3, 4], some .eof⟩, ⟨[5], none⟩] = [1, 2, 3, 4] := by decide
example : (runIOReader [⟨[], none⟩, ⟨[7, 8, 9], none⟩, ⟨[], some (.other 3)⟩]).chunks = [[], [7, 8, 9]] ∧
    (runIOReader [⟨[], none⟩, ⟨[7, 8, 9], none⟩, ⟨[], some (.other 3)⟩]).term = .error 3 := by decide

/-! ### the line reader -/

theorem lineReader_eq (lines : List Bytes) : lineReader lines = lines := by
  simp [lineReader]

example : lineReader [[104, 105], [], [33]] = [[104, 105], [], [33]] := by decide

end Ro.Plugins.Reader
