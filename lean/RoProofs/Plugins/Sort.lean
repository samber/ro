/-
  RoProofs.Plugins.Sort — what `sort.Slice` does for the three sort operators of plugins/sort.

  * `goInsertionSort` (Go's `insertionSortLessFunc`, what `sort.Slice` runs for ≤ 12 elements) is a
    permutation (no hypothesis), and for a comparison that is a strict weak order it IS the stable
    sort: `goInsertionSort lt l = stableSort lt l` (core's `List.mergeSort`).
  * `sortSlice` is therefore stable up to 12 elements; above that only "sorted permutation" is
    available (package sort's contract for the unmodelled pdqsort).
  * the machine `sortM sorter` = collect, sort, replay with the context of the completion.

  Hypotheses on the comparison are stated on `leOf lt a b := !lt b a`, as core's `mergeSort` lemmas do.
  Core Lean only.
-/
import RoModel.Plugins.Sort
import RoProofs.Gate
import RoProofs.Script
namespace Ro.Plugins.Sort
open Ro

variable {α : Type}

/-- `a ≤ b` derived from the strict `less`: `!less(b, a)` -/
@[reducible] def leOf (lt : α → α → Bool) : α → α → Bool := fun a b => !lt b a

/-! ### consequences of "strict weak order" -/

theorem lt_of_lt_of_le {lt : α → α → Bool}
    (trans : ∀ a b c, leOf lt a b = true → leOf lt b c = true → leOf lt a c = true)
    {x b y : α} (h1 : lt x b = true) (h2 : leOf lt b y = true) : lt x y = true := by
  cases h : lt x y with
  | true => rfl
  | false =>
    have := trans b y x h2 (by simp [leOf, h])
    simp [leOf, h1] at this

theorem le_of_lt {lt : α → α → Bool} (total : ∀ a b, (leOf lt a b || leOf lt b a) = true)
    {a b : α} (h : lt a b = true) : leOf lt a b = true := by
  have t := total a b
  simpa [leOf, h] using t

/-! ### the two textbook insertions -/

/-- left-biased ordered insertion: `a` goes in front of the first element it is `≤` to
    (so before all elements equivalent to it) -/
def insL (lt : α → α → Bool) (a : α) : List α → List α
  | [] => [a]
  | b :: s => if lt b a then b :: insL lt a s else a :: b :: s

/-- right-biased ordered insertion: `x` goes in front of the first element it is `<` to
    (so after all elements equivalent to it) -/
def insR (lt : α → α → Bool) (x : α) : List α → List α
  | [] => [x]
  | b :: s => if lt x b then x :: b :: s else b :: insR lt x s

theorem insL_append_of_lt {lt : α → α → Bool} (a : α) (l₁ l₂ : List α)
    (h : ∀ b ∈ l₁, lt b a = true) : insL lt a (l₁ ++ l₂) = l₁ ++ insL lt a l₂ := by
  induction l₁ with
  | nil => rfl
  | cons b t ih =>
    have hb := h b (by simp)
    simp only [List.cons_append, insL, hb, if_true]
    rw [ih (fun c hc => h c (by simp [hc]))]

theorem insL_of_le_head {lt : α → α → Bool} (a : α) (l : List α)
    (h : ∀ b ∈ l, leOf lt a b = true) : insL lt a l = a :: l := by
  cases l with
  | nil => rfl
  | cons b t =>
    have hb := h b (by simp)
    simp only [leOf, Bool.not_eq_true'] at hb
    simp [insL, hb]

/-! ### Go's insertion pass against `insR` -/

theorem insertRev_of_all_lt (lt : α → α → Bool) (x : α) (u : List α)
    (h : ∀ y ∈ u, lt x y = true) : insertRev lt x u = u ++ [x] := by
  induction u with
  | nil => rfl
  | cons y u ih =>
    have hy := h y (by simp)
    simp only [insertRev, hy, if_true, List.cons_append]
    rw [ih (fun z hz => h z (by simp [hz]))]

theorem insertRev_append_of_not_lt (lt : α → α → Bool) (x b : α) (u : List α)
    (h : lt x b = false) : insertRev lt x (u ++ [b]) = insertRev lt x u ++ [b] := by
  induction u with
  | nil => simp [insertRev, h]
  | cons y u ih =>
    cases hy : lt x y <;> simp [insertRev, hy, ih]

/-- on a sorted prefix, one pass of Go's loop is the right-biased insertion -/
theorem insertRev_reverse {lt : α → α → Bool}
    (trans : ∀ a b c, leOf lt a b = true → leOf lt b c = true → leOf lt a c = true)
    (x : α) (s : List α) (hs : s.Pairwise (fun a b => leOf lt a b = true)) :
    insertRev lt x s.reverse = (insR lt x s).reverse := by
  induction s with
  | nil => rfl
  | cons b t ih =>
    obtain ⟨hb, ht⟩ := List.pairwise_cons.1 hs
    cases hxb : lt x b
    · simp only [insR, hxb, List.reverse_cons]
      rw [insertRev_append_of_not_lt lt x b _ hxb, ih ht]
      simp
    · simp only [insR, hxb, if_true, List.reverse_cons]
      rw [insertRev_of_all_lt]
      intro y hy
      simp only [List.mem_append, List.mem_reverse, List.mem_singleton] at hy
      rcases hy with hy | rfl
      · exact lt_of_lt_of_le trans hxb (hb y hy)
      · exact hxb

/-! ### 1. permutation -/

theorem insertRev_perm (lt : α → α → Bool) (x : α) (u : List α) : (insertRev lt x u).Perm (x :: u) := by
  induction u with
  | nil => exact List.Perm.refl _
  | cons y u ih =>
    cases hy : lt x y
    · simp [insertRev, hy]
    · simp only [insertRev, hy, if_true]
      exact (List.Perm.cons y ih).trans (List.Perm.swap x y u)

theorem foldl_insertRev_perm (lt : α → α → Bool) (l acc : List α) :
    (l.foldl (fun acc x => insertRev lt x acc) acc).Perm (l.reverse ++ acc) := by
  induction l generalizing acc with
  | nil => simp
  | cons x l ih =>
    simp only [List.foldl_cons, List.reverse_cons, List.append_assoc, List.singleton_append]
    exact (ih _).trans (List.Perm.append_left _ (insertRev_perm lt x acc))

theorem goInsertionSort_perm (lt : α → α → Bool) (l : List α) : (goInsertionSort lt l).Perm l := by
  unfold goInsertionSort
  have h := foldl_insertRev_perm lt l []
  simp only [List.append_nil] at h
  exact (List.reverse_perm _).trans (h.trans (List.reverse_perm l))

/-! ### 2. the stable sort -/

theorem stableSort_sorted {lt : α → α → Bool}
    (trans : ∀ a b c, leOf lt a b = true → leOf lt b c = true → leOf lt a c = true)
    (total : ∀ a b, (leOf lt a b || leOf lt b a) = true) (l : List α) :
    (stableSort lt l).Pairwise (fun a b => !lt b a) :=
  List.pairwise_mergeSort (le := leOf lt) trans total l

theorem stableSort_perm (lt : α → α → Bool) (l : List α) : (stableSort lt l).Perm l :=
  List.mergeSort_perm l _

/-! ### 3. for a strict weak order, Go's insertion sort is the stable sort -/

section
variable {lt : α → α → Bool}
    (trans : ∀ a b c, leOf lt a b = true → leOf lt b c = true → leOf lt a c = true)
    (total : ∀ a b, (leOf lt a b || leOf lt b a) = true)
include trans total

/-- inserting an earlier element on the left and a later element on the right commute -/
theorem insL_insR_comm (a x : α) (s : List α) :
    insL lt a (insR lt x s) = insR lt x (insL lt a s) := by
  induction s with
  | nil =>
    cases hxa : lt x a <;> simp [insL, insR, hxa]
  | cons b t ih =>
    cases hxb : lt x b <;> cases hba : lt b a
    · -- b ≤ x, a ≤ b : a ≤ x
      have hax : lt x a = false := by
        have := trans a b x (by simp [leOf, hba]) (by simp [leOf, hxb])
        simpa [leOf] using this
      simp [insL, insR, hxb, hba, hax]
    · simp [insL, insR, hxb, hba, ih]
    · cases hxa : lt x a <;> simp [insL, insR, hxb, hba, hxa]
    · have hxa : lt x a = true := lt_of_lt_of_le trans hxb (le_of_lt total hba)
      simp [insL, insR, hxb, hba, hxa]

theorem foldl_insR_insL (a : α) (l s : List α) :
    l.foldl (fun acc x => insR lt x acc) (insL lt a s) =
      insL lt a (l.foldl (fun acc x => insR lt x acc) s) := by
  induction l generalizing s with
  | nil => rfl
  | cons x l ih =>
    simp only [List.foldl_cons]
    rw [← insL_insR_comm trans total, ih]

/-- insertion sort from the left with right-biased insertion = insertion sort from the right with
    left-biased insertion -/
theorem foldl_insR_eq_foldr_insL (l : List α) :
    l.foldl (fun acc x => insR lt x acc) [] = l.foldr (insL lt) [] := by
  induction l with
  | nil => rfl
  | cons a l ih =>
    simp only [List.foldl_cons, List.foldr_cons]
    have : insR lt a [] = insL lt a [] := rfl
    rw [this, foldl_insR_insL trans total, ih]

/-! core's merge sort is the insertion sort `foldr insL` -/

theorem stableSort_cons (a : α) (l : List α) :
    stableSort lt (a :: l) = insL lt a (stableSort lt l) := by
  unfold stableSort
  obtain ⟨l₁, l₂, h1, h2, h3⟩ := List.mergeSort_cons (le := leOf lt) trans total a l
  have hs : ((a :: l).mergeSort (leOf lt)).Pairwise (fun x y => leOf lt x y = true) :=
    List.pairwise_mergeSort trans total _
  show (a :: l).mergeSort (leOf lt) = insL lt a (l.mergeSort (leOf lt))
  rw [h1] at hs
  rw [h1, h2]
  have hl2 : ∀ b ∈ l₂, leOf lt a b = true := by
    have := (List.pairwise_append.1 hs).2.1
    exact (List.pairwise_cons.1 this).1
  rw [insL_append_of_lt a l₁ l₂ (fun b hb => by simpa [leOf] using h3 b hb), insL_of_le_head a l₂ hl2]

theorem stableSort_eq_foldr (l : List α) :
    stableSort lt l = l.foldr (insL lt) [] := by
  induction l with
  | nil => simp [stableSort]
  | cons a l ih => rw [stableSort_cons trans total, ih, List.foldr_cons]

/-! Go's insertion sort is the stable sort -/

theorem foldl_insR_eq_stableSort (l : List α) :
    l.foldl (fun acc x => insR lt x acc) [] = stableSort lt l := by
  rw [foldl_insR_eq_foldr_insL trans total, stableSort_eq_foldr trans total]

theorem goInsertionSort_eq_stableSort (l : List α) :
    goInsertionSort lt l = stableSort lt l := by
  rw [← foldl_insR_eq_stableSort trans total]
  unfold goInsertionSort
  have key : ∀ r : List α, r.reverse.foldl (fun acc x => insertRev lt x acc) [] =
      (r.reverse.foldl (fun acc x => insR lt x acc) []).reverse := by
    intro r
    induction r with
    | nil => rfl
    | cons x r ih =>
      simp only [List.reverse_cons, List.foldl_append, List.foldl_cons, List.foldl_nil]
      rw [ih]
      apply insertRev_reverse trans
      rw [foldl_insR_eq_stableSort trans total]
      exact List.pairwise_mergeSort (le := leOf lt) trans total _
  have h := key l.reverse
  rw [List.reverse_reverse] at h
  rw [h, List.reverse_reverse]

theorem goInsertionSort_sorted (l : List α) :
    (goInsertionSort lt l).Pairwise (fun a b => !lt b a) := by
  rw [goInsertionSort_eq_stableSort trans total]
  exact stableSort_sorted trans total l

end

/-- stability in the elementary form: the elements equivalent to `a` keep their input order -/
theorem stableSort_stable (lt : α → α → Bool)
    (trans : ∀ a b c, leOf lt a b = true → leOf lt b c = true → leOf lt a c = true)
    (total : ∀ a b, (leOf lt a b || leOf lt b a) = true) (l : List α) (a : α) :
    (stableSort lt l).filter (fun b => !lt a b && !lt b a) = l.filter (fun b => !lt a b && !lt b a) := by
  let p : α → Bool := fun b => !lt a b && !lt b a
  have hpw : (l.filter p).Pairwise (fun x y => leOf lt x y = true) := by
    apply List.Pairwise.imp_of_mem (R := fun _ _ => True) _ (List.pairwise_of_forall (fun _ _ => trivial))
    intro x y hx hy _
    have hx' := (List.mem_filter.1 hx).2
    have hy' := (List.mem_filter.1 hy).2
    simp only [p, Bool.and_eq_true] at hx' hy'
    exact trans x a y hx'.1 hy'.2
  have hsub : (l.filter p).Sublist (stableSort lt l) :=
    List.sublist_mergeSort (le := leOf lt) trans total hpw List.filter_sublist
  have hsub' : (l.filter p).Sublist ((stableSort lt l).filter p) := by
    have := hsub.filter p
    simpa only [List.filter_filter, Bool.and_self] using this
  have hlen : ((stableSort lt l).filter p).length = (l.filter p).length :=
    ((stableSort_perm lt l).filter p).length_eq
  exact (hsub'.eq_of_length hlen.symm).symm

theorem goInsertionSort_stable (lt : α → α → Bool)
    (trans : ∀ a b c, leOf lt a b = true → leOf lt b c = true → leOf lt a c = true)
    (total : ∀ a b, (leOf lt a b || leOf lt b a) = true) (l : List α) (a : α) :
    (goInsertionSort lt l).filter (fun b => !lt a b && !lt b a) = l.filter (fun b => !lt a b && !lt b a) := by
  rw [goInsertionSort_eq_stableSort trans total]
  exact stableSort_stable lt trans total l a

/-! ### 4. `sort.Slice` -/

theorem sortSlice_small (big : List α → List α) (lt : α → α → Bool)
    (trans : ∀ a b c, leOf lt a b = true → leOf lt b c = true → leOf lt a c = true)
    (total : ∀ a b, (leOf lt a b || leOf lt b a) = true) (l : List α) (h : l.length ≤ 12) :
    sortSlice big lt l = stableSort lt l := by
  unfold sortSlice
  rw [if_pos h, goInsertionSort_eq_stableSort trans total]

/-- whatever the size: if the unmodelled large-input sort keeps package sort's contract
    (a sorted permutation), so does `sort.Slice` -/
theorem sortSlice_perm_sorted (big : List α → List α) (lt : α → α → Bool)
    (trans : ∀ a b c, leOf lt a b = true → leOf lt b c = true → leOf lt a c = true)
    (total : ∀ a b, (leOf lt a b || leOf lt b a) = true)
    (hbig : ∀ l, (big l).Perm l ∧ (big l).Pairwise (fun a b => !lt b a)) (l : List α) :
    (sortSlice big lt l).Perm l ∧ (sortSlice big lt l).Pairwise (fun a b => !lt b a) := by
  unfold sortSlice
  split
  · exact ⟨goInsertionSort_perm lt l, goInsertionSort_sorted trans total l⟩
  · exact hbig l

/-! ### 5. the projection the check compares -/

/-- two sorted arrangements of the same elements show the same keys in the same order -/
theorem sorted_perm_keys_eq (key : α → Int) (l l₁ l₂ : List α)
    (s₁ : l₁.Pairwise (fun a b => !(decide (key b < key a))))
    (s₂ : l₂.Pairwise (fun a b => !(decide (key b < key a))))
    (p₁ : l₁.Perm l) (p₂ : l₂.Perm l) : l₁.map key = l₂.map key := by
  have conv : ∀ m : List α, m.Pairwise (fun a b => !(decide (key b < key a))) →
      (m.map key).Pairwise (fun x y : Int => x ≤ y) := by
    intro m hm
    rw [List.pairwise_map]
    exact hm.imp (fun {a b} h => by simpa using h)
  exact List.Perm.eq_of_pairwise (le := fun x y : Int => x ≤ y)
    (fun a b _ _ h1 h2 => Int.le_antisymm h1 h2) (conv l₁ s₁) (conv l₂ s₂)
    ((p₁.trans p₂.symm).map key)

/-- the comparison of the check: `cmp(a, b) < 0` is `key a < key b` -/
def keyLt (key : α → Int) : α → α → Bool := fun a b => decide (key a < key b)

theorem keyLt_trans (key : α → Int) (a b c : α) :
    leOf (keyLt key) a b = true → leOf (keyLt key) b c = true → leOf (keyLt key) a c = true := by
  simp only [leOf, keyLt, Bool.not_eq_true', decide_eq_false_iff_not, Int.not_lt]
  omega

theorem keyLt_total (key : α → Int) (a b : α) :
    (leOf (keyLt key) a b || leOf (keyLt key) b a) = true := by
  simp only [leOf, keyLt, Bool.or_eq_true, Bool.not_eq_true', decide_eq_false_iff_not, Int.not_lt]
  omega

/-- what the check may compare at every size: the keys of `sort.Slice`'s result are the keys of
    the stable sort, provided the large-input sort keeps package sort's contract -/
theorem sortSlice_keys_eq (key : α → Int) (big : List α → List α)
    (hbig : ∀ l, (big l).Perm l ∧ (big l).Pairwise (fun a b => !keyLt key b a)) (l : List α) :
    (sortSlice big (keyLt key) l).map key = (stableSort (keyLt key) l).map key := by
  have h := sortSlice_perm_sorted big (keyLt key) (keyLt_trans key) (keyLt_total key) hbig l
  exact sorted_perm_keys_eq key l _ _ h.2 (stableSort_sorted (keyLt_trans key) (keyLt_total key) l) h.1
    (stableSort_perm _ l)

/-! ### 6. the machine -/

/-- `Sort…`: nothing until the source completes; then the sorted values, each with the context of
    the completion, and the completion. An error is forwarded and the collected values are dropped. -/
def sortSpec (sorter : List α → List α) (vs : List (Ctx × α)) : Ending → List (Notif α)
  | .complete c => (sorter (vs.map (·.2))).map (Notif.next c) ++ [.complete c]
  | .error c e => [.error c e]
  | .never => []

theorem sortM_run (sorter : List α → List α) (acc : List α) (vs : List (Ctx × α)) :
    (sortM sorter).emitsV acc vs = [] ∧
    (sortM sorter).afterV acc vs = acc ++ vs.map (·.2) := by
  induction vs generalizing acc with
  | nil => simp [Machine.emitsV, Machine.afterV]
  | cons p ps ih =>
    obtain ⟨c, v⟩ := p
    have h1 : (sortM sorter).emitsV acc ((c, v) :: ps) =
        [] ++ (sortM sorter).emitsV (acc ++ [v]) ps := rfl
    have h2 : (sortM sorter).afterV acc ((c, v) :: ps) =
        (sortM sorter).afterV (acc ++ [v]) ps := rfl
    rw [h1, h2, (ih _).1, (ih _).2]
    simp

theorem sort_spec (sorter : List α → List α) (mode : SrcMode) (sub : Ctx) (raw : List (Notif α)) :
    (runOp (sortM sorter) mode sub raw).out = sortSpec sorter (values raw) (ending raw) := by
  rw [runOp_out_plain _ _ _ _ rfl (fun _ _ => rfl)]
  rw [(sortM_run _ _ _).1, (sortM_run _ _ _).2]
  have hi : (sortM sorter).init = [] := rfl
  rw [hi]
  cases ending raw with
  | never => rfl
  | error c e => rfl
  | complete c =>
    show gate ([] ++ ((sorter ([] ++ (values raw).map (·.2))).map (Notif.next c) ++ [Notif.complete c])) = _
    simp only [List.nil_append, sortSpec]
    exact gate_values_ending _ (.complete c) (hasTerm_map_nextc c _)

/-- the statement with the right-hand side spelled out -/
theorem sort_spec' (sorter : List α → List α) (mode : SrcMode) (sub : Ctx) (raw : List (Notif α)) :
    (runOp (sortM sorter) mode sub raw).out =
      match ending raw with
      | .complete c => ((sorter ((values raw).map (·.2))).map (Notif.next c)) ++ [.complete c]
      | .error c e => [.error c e]
      | .never => [] := by
  rw [sort_spec]
  cases ending raw <;> rfl

/-! ### 7. non-vacuity -/

private def ltFst : Nat × Nat → Nat × Nat → Bool := fun a b => a.1 < b.1

/-- the hypotheses are satisfiable: comparison of a key is a strict weak order -/
private theorem ltFst_trans (a b c : Nat × Nat) :
    leOf ltFst a b = true → leOf ltFst b c = true → leOf ltFst a c = true := by
  simp only [leOf, ltFst, Bool.not_eq_true', decide_eq_false_iff_not, Nat.not_lt]
  omega
private theorem ltFst_total (a b : Nat × Nat) : (leOf ltFst a b || leOf ltFst b a) = true := by
  simp only [leOf, ltFst, Bool.or_eq_true, Bool.not_eq_true', decide_eq_false_iff_not, Nat.not_lt]
  omega

example : goInsertionSort ltFst [(3,0),(1,1),(3,2),(1,3),(2,4)] = [(1,1),(1,3),(2,4),(3,0),(3,2)] := by
  decide
/-- (`List.mergeSort` is defined by well-founded recursion and does not evaluate under `decide`;
    it is evaluated through `stableSort_eq_foldr`) -/
example : stableSort ltFst [(3,0),(1,1),(3,2),(1,3),(2,4)] = [(1,1),(1,3),(2,4),(3,0),(3,2)] := by
  rw [stableSort_eq_foldr ltFst_trans ltFst_total]
  decide

/-- an unstable but correct `sort.Slice` result differs from the stable one, and the key projection
    does not see the difference -/
example : [(1,3),(1,1),(2,4),(3,0),(3,2)] ≠ stableSort ltFst [(3,0),(1,1),(3,2),(1,3),(2,4)] ∧
    [(1,3),(1,1),(2,4),(3,0),(3,2)].map (·.1) =
      (stableSort ltFst [(3,0),(1,1),(3,2),(1,3),(2,4)]).map (·.1) := by
  rw [stableSort_eq_foldr ltFst_trans ltFst_total]
  decide

private def ex_sort : List (Notif (Nat × Nat)) :=
  [.next (Ctx.bg.tag 1) (3,0), .next (Ctx.bg.tag 2) (1,1), .next Ctx.bg (3,2), .next (Ctx.bg.tag 1) (1,3),
   .next Ctx.bg (2,4), .complete (Ctx.bg.tag 9), .next Ctx.bg (0,5), .error Ctx.bg (.user 1)]
example :
    (runOp (sortM (goInsertionSort ltFst)) .hot Ctx.bg ex_sort).out =
      [.next (Ctx.bg.tag 9) (1,1), .next (Ctx.bg.tag 9) (1,3), .next (Ctx.bg.tag 9) (2,4),
       .next (Ctx.bg.tag 9) (3,0), .next (Ctx.bg.tag 9) (3,2), .complete (Ctx.bg.tag 9)] ∧
    sortSpec (goInsertionSort ltFst) (values ex_sort) (ending ex_sort) =
      [.next (Ctx.bg.tag 9) (1,1), .next (Ctx.bg.tag 9) (1,3), .next (Ctx.bg.tag 9) (2,4),
       .next (Ctx.bg.tag 9) (3,0), .next (Ctx.bg.tag 9) (3,2), .complete (Ctx.bg.tag 9)] := by
  decide

private def ex_sort_err : List (Notif (Nat × Nat)) :=
  [.next (Ctx.bg.tag 1) (3,0), .next (Ctx.bg.tag 2) (1,1), .error (Ctx.bg.tag 7) (.user 1), .complete Ctx.bg]
example :
    (runOp (sortM (goInsertionSort ltFst)) .sync Ctx.bg ex_sort_err).out = [.error (Ctx.bg.tag 7) (.user 1)] ∧
    sortSpec (goInsertionSort ltFst) (values ex_sort_err) (ending ex_sort_err) =
      [.error (Ctx.bg.tag 7) (.user 1)] := by
  decide

end Ro.Plugins.Sort
