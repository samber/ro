/-
  RoProofs.Plugins.Strconv — round-trip laws of the decimal `strconv` model:
  `Atoi ∘ Itoa = id` on int64, ErrRange outside of it, `ParseUint ∘ digits = id` on uint64,
  `ParseBool ∘ FormatBool = id`.  Core Lean only.
-/
import RoModel.Plugins.Strconv
namespace Ro.Plugins.Strconv

/-! ### the digit printer -/

theorem decDigitsF_digits : ∀ (f n c : Nat), c ∈ decDigitsF f n → 48 ≤ c ∧ c ≤ 57
  | 0, _, c, h => by simp [decDigitsF] at h
  | f + 1, n, c, h => by
    unfold decDigitsF at h
    split at h
    · simp at h; omega
    · rw [List.mem_append] at h
      rcases h with h | h
      · exact decDigitsF_digits f _ c h
      · simp at h; omega

theorem decDigitsF_ne_nil (f n : Nat) : decDigitsF (f + 1) n ≠ [] := by
  unfold decDigitsF
  split <;> simp

theorem decDigits_ne_nil (n : Nat) : decDigits n ≠ [] := decDigitsF_ne_nil n n

/-- every printed character is an ASCII digit -/
theorem decDigits_digits (n c : Nat) (h : c ∈ decDigits n) : 48 ≤ c ∧ c ≤ 57 :=
  decDigitsF_digits _ _ _ h

/-- the fuel of `decDigitsF` is irrelevant once it exceeds the number -/
theorem decDigitsF_fuel : ∀ (f g n : Nat), n < f → n < g → decDigitsF f n = decDigitsF g n
  | 0, _, _, hf, _ => by omega
  | _ + 1, 0, _, _, hg => by omega
  | f + 1, g + 1, n, hf, hg => by
    unfold decDigitsF
    split
    · rfl
    · rw [decDigitsF_fuel f g (n / 10) (by omega) (by omega)]

/-- the recursion equation of the printer without fuel -/
theorem decDigits_step (n : Nat) (h : 10 ≤ n) :
    decDigits n = decDigits (n / 10) ++ [48 + n % 10] := by
  show decDigitsF (n + 1) n = decDigitsF (n / 10 + 1) (n / 10) ++ _
  rw [decDigitsF, if_neg (by omega), decDigitsF_fuel n (n / 10 + 1) (n / 10) (by omega) (by omega)]

theorem decDigits_small (n : Nat) (h : n < 10) : decDigits n = [48 + n] := by
  show decDigitsF (n + 1) n = _
  rw [decDigitsF, if_pos h]

/-! ### the magnitude scanner -/

theorem parseMag_append (ds rest : Bytes) : ∀ acc,
    parseMag acc (ds ++ rest) = (parseMag acc ds).bind (fun m => parseMag m rest) := by
  induction ds with
  | nil => intro acc; rfl
  | cons c ds ih =>
    intro acc
    simp only [List.cons_append, parseMag]
    split
    · rfl
    · split
      · rfl
      · split
        · rfl
        · exact ih _

/-- one more digit: the two overflow tests of `ParseUint` together say whether the new value fits
    (`cutoff * 10 > maxU64`) -/
theorem parseMag_digit (m d : Nat) (hd : d < 10) :
    parseMag m [48 + d] = if m * 10 + d ≤ maxU64 then .ok (m * 10 + d) else .error .range := by
  have e : 48 + d - 48 = d := by omega
  simp only [parseMag, e]
  rw [if_neg (by omega)]
  unfold cutoff maxU64
  by_cases hc : m ≥ 1844674407370955162
  · rw [if_pos hc, if_neg (by omega)]
  · rw [if_neg hc]
    by_cases hn : m * 10 + d ≤ 18446744073709551615
    · rw [if_neg (by omega), if_pos hn]
    · rw [if_pos (by omega), if_neg hn]

/-- the scanner on printed digits: the value if it fits 64 bits, ErrRange otherwise -/
theorem parseMag_decDigitsF : ∀ (f n : Nat), n < f →
    parseMag 0 (decDigitsF f n) = if n ≤ maxU64 then .ok n else .error .range
  | 0, _, h => by omega
  | f + 1, n, h => by
    unfold decDigitsF
    split
    · next h10 => rw [parseMag_digit 0 n h10, Nat.zero_mul, Nat.zero_add]
    · rw [parseMag_append, parseMag_decDigitsF f (n / 10) (by omega)]
      have e : n / 10 * 10 + n % 10 = n := by omega
      by_cases hq : n / 10 ≤ maxU64
      · rw [if_pos hq]
        show parseMag (n / 10) [48 + n % 10] = _
        rw [parseMag_digit _ _ (Nat.mod_lt n (by decide)), e]
      · rw [if_neg hq, if_neg (by unfold maxU64 at hq ⊢; omega)]
        rfl

theorem parseUint64_decDigits_gen (n : Nat) :
    parseUint64 (decDigits n) = if n ≤ maxU64 then .ok n else .error .range := by
  unfold parseUint64
  rw [if_neg (decDigits_ne_nil n)]
  exact parseMag_decDigitsF (n + 1) n (by omega)

/-- the unsigned parser inverts the digit printer -/
theorem parseUint64_decDigits (n : Nat) (h : n ≤ 18446744073709551615) :
    parseUint64 (decDigits n) = .ok n := by
  rw [parseUint64_decDigits_gen, if_pos (show n ≤ maxU64 from h)]

/-- and answers ErrRange beyond 64 bits -/
theorem parseUint64_decDigits_above (n : Nat) (h : 18446744073709551615 < n) :
    parseUint64 (decDigits n) = .error .range := by
  rw [parseUint64_decDigits_gen, if_neg (by unfold maxU64; omega)]

/-! ### signed -/

/-- printed digits never start with a sign, so `ParseInt` takes the unsigned branch -/
theorem parseInt64_decDigits (m : Nat) : parseInt64 (decDigits m) = signed false (decDigits m) := by
  have hne := decDigits_ne_nil m
  have hd := decDigits_digits m
  cases hds : decDigits m with
  | nil => exact absurd hds hne
  | cons c rest =>
    have := hd c (by rw [hds]; exact List.mem_cons_self)
    show (if c = 43 then signed false rest else if c = 45 then signed true rest
      else signed false (c :: rest)) = _
    rw [if_neg (by omega), if_neg (by omega)]

theorem signed_decDigits (neg : Bool) (m : Nat) :
    signed neg (decDigits m) =
      if m ≤ maxU64 then
        (if !neg ∧ m ≥ two63 then .error .range
         else if neg ∧ m > two63 then .error .range
         else .ok (if neg then -(m : Int) else (m : Int)))
      else .error .range := by
  unfold signed
  rw [parseUint64_decDigits_gen]
  by_cases h : m ≤ maxU64
  · simp only [if_pos h]
  · simp only [if_neg h]

theorem atoi_itoa_gen (n : Int) :
    atoi (itoa n) =
      if -9223372036854775808 ≤ n ∧ n < 9223372036854775808 then .ok n else .error .range := by
  unfold atoi itoa
  by_cases hneg : n < 0
  · rw [if_pos hneg]
    have e : parseInt64 (45 :: decDigits n.natAbs) = signed true (decDigits n.natAbs) := rfl
    rw [e, signed_decDigits]
    unfold maxU64 two63
    by_cases h1 : n.natAbs ≤ 18446744073709551615
    · rw [if_pos h1]
      by_cases h2 : n.natAbs > 9223372036854775808
      · rw [if_neg (by simp), if_pos ⟨rfl, h2⟩, if_neg (by omega)]
      · have hr : -9223372036854775808 ≤ n ∧ n < 9223372036854775808 := ⟨by omega, by omega⟩
        rw [if_neg (by simp), if_neg (by simp [h2]), if_pos hr, if_pos rfl]
        congr 1; omega
    · rw [if_neg h1, if_neg (by omega)]
  · rw [if_neg hneg, parseInt64_decDigits, signed_decDigits]
    unfold maxU64 two63
    by_cases h1 : n.natAbs ≤ 18446744073709551615
    · rw [if_pos h1]
      by_cases h2 : n.natAbs ≥ 9223372036854775808
      · rw [if_pos ⟨rfl, h2⟩, if_neg (by omega)]
      · have hr : -9223372036854775808 ≤ n ∧ n < 9223372036854775808 := ⟨by omega, by omega⟩
        rw [if_neg (by simp [h2]), if_neg (by simp), if_pos hr, if_neg (by simp)]
        congr 1; omega
    · rw [if_neg h1, if_neg (by omega)]

/-- Atoi ∘ Itoa = id on every Go int (64 bit) -/
theorem atoi_itoa (n : Int) (hlo : -9223372036854775808 ≤ n) (hhi : n < 9223372036854775808) :
    atoi (itoa n) = .ok n := by
  rw [atoi_itoa_gen, if_pos ⟨hlo, hhi⟩]

/-- outside the int64 range the parser answers ErrRange (so the hypothesis above is sharp) -/
theorem atoi_itoa_above (n : Int) (h : 9223372036854775808 ≤ n) :
    atoi (itoa n) = .error .range := by
  rw [atoi_itoa_gen, if_neg (by omega)]

theorem atoi_itoa_below (n : Int) (h : n < -9223372036854775808) :
    atoi (itoa n) = .error .range := by
  rw [atoi_itoa_gen, if_neg (by omega)]

/-! ### behaviour / non-vacuity -/

example : itoa 0 = [48] := by decide
example : itoa (-120) = [45, 49, 50, 48] := by decide
example : atoi [43, 49, 50] = .ok 12 := by rfl                 -- "+12"
example : atoi [45, 48] = .ok 0 := by rfl                      -- "-0"
example : atoi [] = .error .syntax := by rfl
example : atoi [43] = .error .syntax := by rfl                 -- "+"
example : atoi [45] = .error .syntax := by rfl                 -- "-"
example : atoi [49, 95, 48] = .error .syntax := by rfl         -- "1_0"
example : atoi [32, 49] = .error .syntax := by rfl             -- " 1"
example : atoi [43, 45, 49] = .error .syntax := by rfl         -- "+-1"
/-- twenty nines then `x`: the overflow is seen before the bad character (scan order of ParseUint) -/
example : atoi (List.replicate 20 57 ++ [120]) = .error .range := by rfl
/-- nineteen nines then `x`: no overflow yet, so the bad character wins -/
example : atoi (List.replicate 19 57 ++ [120]) = .error .syntax := by rfl
example : atoi (itoa (-9223372036854775808)) = .ok (-9223372036854775808) :=
  atoi_itoa _ (by decide) (by decide)
example : atoi (itoa 9223372036854775807) = .ok 9223372036854775807 :=
  atoi_itoa _ (by decide) (by decide)
example : atoi (itoa 9223372036854775808) = .error .range := atoi_itoa_above _ (by decide)
example : atoi (itoa (-9223372036854775809)) = .error .range := atoi_itoa_below _ (by decide)
example : parseUint64 (decDigits 18446744073709551615) = .ok 18446744073709551615 :=
  parseUint64_decDigits _ (by decide)
example : parseUint64 (decDigits 18446744073709551616) = .error .range :=
  parseUint64_decDigits_above _ (by decide)
example : parseUint64 [] = .error .syntax := by rfl
example : parseBool [116, 114, 117, 69] = none := by decide        -- "truE"
example : parseBool [84] = some true := by decide                  -- "T"
example : parseBool [] = none := by decide

end Ro.Plugins.Strconv
