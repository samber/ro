/-
  RoProofs.Plugins.Text — `TrimSpace` on byte strings and on windows of a backing array, as far as
  the two `Ellipsis` helpers of RoModel.Plugins.Text need it: what is trimmed is a sub-window of
  the input showing the trimmed value, and a non-empty prefix of a trimmed string does not trim to
  nothing. The results about the helpers themselves are `RoProps/C18.lean`'s `ellipsis_*`.
-/
import RoModel.Plugins.Text
namespace Ro.Plugins.Text

/-! ### space sequences -/

theorem spaceSeqs_pos : ∀ q ∈ spaceSeqs, 0 < q.length := by decide

theorem spacePrefix_spec (x : Bytes) :
    (spacePrefix x = 0 ∧ ∀ q ∈ spaceSeqs, ¬ q <+: x) ∨
    ∃ q ∈ spaceSeqs, q <+: x ∧ spacePrefix x = q.length := by
  unfold spacePrefix
  split
  · next q hq =>
    refine Or.inr ⟨q, List.mem_of_find?_eq_some hq, ?_, rfl⟩
    simpa using List.find?_some hq
  · next hnone =>
    refine Or.inl ⟨rfl, fun q hq hpre => ?_⟩
    rw [List.find?_eq_none] at hnone
    have := hnone q hq
    simp only [List.isPrefixOf_iff_prefix] at this
    exact this hpre

theorem spaceSuffix_spec (x : Bytes) :
    spaceSuffix x = 0 ∨ ∃ q ∈ spaceSeqs, q <:+ x ∧ spaceSuffix x = q.length := by
  unfold spaceSuffix
  split
  · next q hq =>
    refine Or.inr ⟨q, List.mem_of_find?_eq_some hq, ?_, rfl⟩
    have := List.find?_some hq
    simpa [List.isPrefixOf_iff_prefix, List.reverse_prefix] using this
  · exact Or.inl rfl

theorem spacePrefix_ne_zero_iff (x : Bytes) : spacePrefix x ≠ 0 ↔ ∃ q ∈ spaceSeqs, q <+: x := by
  rcases spacePrefix_spec x with ⟨h0, hn⟩ | ⟨q, hq, hpre, hl⟩
  · simp only [h0, ne_eq, not_true_eq_false, false_iff]
    rintro ⟨q, hq, hpre⟩
    exact hn q hq hpre
  · have := spaceSeqs_pos q hq
    exact ⟨fun _ => ⟨q, hq, hpre⟩, fun _ => by omega⟩

theorem spacePrefix_le (x : Bytes) : spacePrefix x ≤ x.length := by
  rcases spacePrefix_spec x with ⟨h0, _⟩ | ⟨q, _, hpre, hl⟩
  · omega
  · rw [hl]; exact hpre.length_le

theorem spaceSuffix_le (x : Bytes) : spaceSuffix x ≤ x.length := by
  rcases spaceSuffix_spec x with h0 | ⟨q, _, hsuf, hl⟩
  · omega
  · rw [hl]; exact hsuf.length_le

/-! ### `trimLeftN`, `trimRightN`, `trimSpace` -/

theorem trimLeftN_le (fuel : Nat) (x : Bytes) : trimLeftN fuel x ≤ x.length := by
  induction fuel generalizing x with
  | zero => simp [trimLeftN]
  | succ fuel ih =>
    simp only [trimLeftN]
    split
    · omega
    · have h1 := spacePrefix_le x
      have h2 := ih (x.drop (spacePrefix x))
      simp only [List.length_drop] at h2
      omega

theorem trimRightN_le (fuel : Nat) (x : Bytes) : trimRightN fuel x ≤ x.length := by
  induction fuel generalizing x with
  | zero => simp [trimRightN]
  | succ fuel ih =>
    simp only [trimRightN]
    split
    · omega
    · have h1 := spaceSuffix_le x
      have h2 := ih (x.take (x.length - spaceSuffix x))
      simp only [List.length_take] at h2
      omega

theorem take_length_take (m : Nat) (x : List α) : x.take (x.take m).length = x.take m := by
  simp [List.take_eq_take_iff]

/-- the trimmed string is the window of its own length starting after the removed prefix -/
theorem trimSpace_eq (v : Bytes) :
    trimSpace v = (v.drop (trimLeftN v.length v)).take (trimSpace v).length := by
  have : trimSpace v = (v.drop (trimLeftN v.length v)).take
      ((v.drop (trimLeftN v.length v)).length -
        trimRightN (v.drop (trimLeftN v.length v)).length (v.drop (trimLeftN v.length v))) := rfl
  rw [this, take_length_take]

theorem trimSpace_length_le (v : Bytes) :
    (trimSpace v).length + trimLeftN v.length v ≤ v.length := by
  have h1 := trimLeftN_le v.length v
  have h2 := congrArg List.length (trimSpace_eq v)
  simp only [List.length_take, List.length_drop] at h2
  omega

/-- after `trimLeft` no space rune is at the front -/
theorem spacePrefix_drop_trimLeftN (fuel : Nat) (x : Bytes) (hf : x.length ≤ fuel) :
    spacePrefix (x.drop (trimLeftN fuel x)) = 0 := by
  induction fuel generalizing x with
  | zero =>
    have : x = [] := List.eq_nil_of_length_eq_zero (by omega)
    subst this; rfl
  | succ fuel ih =>
    simp only [trimLeftN]
    split
    · next h0 => simpa using h0
    · next hne =>
      rw [← List.drop_drop]
      apply ih
      simp only [List.length_drop]
      omega

theorem spacePrefix_take_eq_zero (m : Nat) (x : Bytes) (h0 : spacePrefix x = 0) :
    spacePrefix (x.take m) = 0 := by
  apply Classical.byContradiction
  intro hne
  obtain ⟨q, hq, hpre⟩ := (spacePrefix_ne_zero_iff _).1 hne
  exact (spacePrefix_ne_zero_iff x).2 ⟨q, hq, hpre.trans (List.take_prefix m x)⟩ h0

/-- a string wholly consumed from the right by space runes starts with a space rune -/
theorem spacePrefix_ne_zero_of_trimRightN (fuel : Nat) (x : Bytes) (hx : x ≠ [])
    (hall : trimRightN fuel x = x.length) : spacePrefix x ≠ 0 := by
  induction fuel generalizing x with
  | zero =>
    simp only [trimRightN] at hall
    exact absurd (List.eq_nil_of_length_eq_zero hall.symm) hx
  | succ fuel ih =>
    simp only [trimRightN] at hall
    split at hall
    · exact absurd (List.eq_nil_of_length_eq_zero hall.symm) hx
    · next hne =>
      rcases spaceSuffix_spec x with h0 | ⟨q, hq, hsuf, hl⟩
      · exact absurd h0 hne
      · obtain ⟨y, rfl⟩ := hsuf
        have hy : (y ++ q).take ((y ++ q).length - spaceSuffix (y ++ q)) = y := by
          rw [hl]; simp
        rw [hy] at hall
        rw [hl, List.length_append] at hall
        have hall' : trimRightN fuel y = y.length := by omega
        rw [spacePrefix_ne_zero_iff]
        by_cases hyn : y = []
        · subst hyn
          exact ⟨q, hq, by simp⟩
        · obtain ⟨q', hq', hpre'⟩ := (spacePrefix_ne_zero_iff y).1 (ih y hyn hall')
          exact ⟨q', hq', hpre'.trans (List.prefix_append y q)⟩

/-- trimming a non-empty string that does not start with a space rune leaves something -/
theorem trimSpace_ne_nil (x : Bytes) (hx : x ≠ []) (h0 : spacePrefix x = 0) : trimSpace x ≠ [] := by
  have hl : trimLeftN x.length x = 0 := by
    cases hlen : x.length with
    | zero => rfl
    | succ k => simp [trimLeftN, h0]
  have hE : trimSpace x = x.take (x.length - trimRightN x.length x) := by
    have hT : trimLeft x = x := by unfold trimLeft; rw [hl]; rfl
    show trimRight (trimLeft x) = _
    rw [hT]; rfl
  have hle := trimRightN_le x.length x
  have hlt : trimRightN x.length x ≠ x.length := fun he =>
    spacePrefix_ne_zero_of_trimRightN _ x hx he h0
  have hpos : 0 < x.length := List.length_pos_iff.2 hx
  intro hnil
  have := congrArg List.length hnil
  rw [hE, List.length_take] at this
  simp only [List.length_nil] at this
  omega

/-- a non-empty prefix of a trimmed string does not trim to nothing -/
theorem trimSpace_take_trimSpace_ne_nil (v : Bytes) (k : Nat) (hk : 0 < k) (hv : trimSpace v ≠ []) :
    trimSpace ((trimSpace v).take k) ≠ [] := by
  apply trimSpace_ne_nil
  · intro hnil
    have := congrArg List.length hnil
    have hpos : 0 < (trimSpace v).length := List.length_pos_iff.2 hv
    simp only [List.length_take, List.length_nil] at this
    omega
  · apply spacePrefix_take_eq_zero
    rw [trimSpace_eq v]
    apply spacePrefix_take_eq_zero
    exact spacePrefix_drop_trimLeftN _ _ (Nat.le_refl _)

/-! ### windows -/

theorem Slice.length_view_le (h : Bytes) (s : Slice) : (s.view h).length ≤ s.len := by
  simp only [Slice.view, List.length_take]; omega

theorem Slice.view_prefix (h : Bytes) (s : Slice) (k : Nat) (hk : k ≤ s.len) :
    (s.prefix k).view h = (s.view h).take k := by
  simp only [Slice.view, Slice.prefix, List.take_take, Nat.min_eq_left hk]

/-- the window `bytes.TrimSpace` returns shows the trimmed value -/
theorem view_trimWindow (h : Bytes) (s : Slice) (c : Nat) :
    Slice.view h { off := s.off + trimLeftN (s.view h).length (s.view h),
                   len := (trimSpace (s.view h)).length, cap := c } = trimSpace (s.view h) := by
  have hle := trimSpace_length_le (s.view h)
  have hvl := Slice.length_view_le h s
  conv => rhs; rw [trimSpace_eq]
  generalize (trimSpace (s.view h)).length = tl at *
  generalize trimLeftN (s.view h).length (s.view h) = l at *
  simp only [Slice.view, List.drop_take, List.drop_drop, List.take_take]
  rw [Nat.min_eq_left (by omega)]

theorem trimSpaceS_view (h : Bytes) (s : Slice) :
    (trimSpaceS h s).view h = trimSpace (s.view h) := by
  unfold trimSpaceS
  simp only
  split
  · next h0 => exact (List.eq_nil_of_length_eq_zero h0).symm
  · exact view_trimWindow h s _

theorem trimSpaceS_eq_nil (h : Bytes) (s : Slice) (h0 : trimSpace (s.view h) = []) :
    trimSpaceS h s = .nil := by
  unfold trimSpaceS
  simp [h0]

theorem trimSpaceS_eq_window (h : Bytes) (s : Slice) (hne : trimSpace (s.view h) ≠ []) :
    trimSpaceS h s = .window { off := s.off + trimLeftN (s.view h).length (s.view h),
                               len := (trimSpace (s.view h)).length,
                               cap := s.cap - trimLeftN (s.view h).length (s.view h) } := by
  unfold trimSpaceS
  simp [hne]

/-- what `bytes.TrimSpace` returns when it is not nil: a valid sub-window with the same end of
    capacity -/
theorem trimSpaceS_window (h : Bytes) (s t : Slice) (hv : s.Valid h)
    (ht : trimSpaceS h s = .window t) :
    t.Valid h ∧ s.off ≤ t.off ∧ t.off + t.len ≤ s.off + s.len ∧ t.off + t.cap = s.off + s.cap ∧
    t.len = (trimSpace (s.view h)).length ∧ t.len ≠ 0 ∧ t.view h = trimSpace (s.view h) := by
  have hle := trimSpace_length_le (s.view h)
  have hvl := Slice.length_view_le h s
  obtain ⟨hv1, hv2⟩ := hv
  have hview := trimSpaceS_view h s
  rw [ht] at hview
  unfold trimSpaceS at ht
  simp only at ht
  split at ht
  · cases ht
  · next hne =>
    injection ht with ht
    subst ht
    refine ⟨⟨?_, ?_⟩, ?_, ?_, ?_, rfl, hne, hview⟩ <;> simp only <;> omega

/-! ### the helpers -/

theorem trimSpaceS_ne_fresh (h : Bytes) (s : Slice) (bs : Bytes) : trimSpaceS h s ≠ .fresh bs := by
  unfold trimSpaceS
  simp only
  split <;> intro hc <;> cases hc

/-- value of the helpers when `bytes.TrimSpace` leaves nothing -/
theorem ellipsis_of_nil (v : Bytes) (n : Int) (h0 : trimSpace v = []) :
    ellipsis v n = if (0 : Int) > n then dots else [] := by
  simp only [ellipsis, h0, List.length_nil, Int.natCast_zero]
  split
  · next hn => rw [if_pos (Or.inr (by omega))]
  · rfl

/-- the kept prefix `str[0:length-3]` of a valid trimmed window `t`, and what trimming it gives -/
theorem prefix_facts (h : Bytes) (t : Slice) (n : Int) (ht : t.Valid h) (hgt : (t.len : Int) > n) :
    (t.prefix (n - 3).toNat).Valid h ∧
    (trimSpaceS h (t.prefix (n - 3).toNat)).view h = trimSpace ((t.view h).take (n - 3).toNat) := by
  have hk : (n - 3).toNat ≤ t.len := by omega
  refine ⟨⟨?_, ht.2⟩, ?_⟩
  · have := ht.1
    simp only [Slice.prefix]; omega
  · rw [trimSpaceS_view, Slice.view_prefix h t _ hk]

-- non-vacuity
/-- "  hello world  ", length 8: a fresh "hello...", the caller's array is as it was -/
example : ellipsisB [32,32,104,101,108,108,111,32,119,111,114,108,100,32,32] ⟨0, 15, 15⟩ 8
    = ([32,32,104,101,108,108,111,32,119,111,114,108,100,32,32], .fresh [104,101,108,108,111,46,46,46]) := by decide

/-- `length = 3` keeps `str[0:0]`: only the dots -/
example : ellipsisB [32,97,98,99,100,32] ⟨0, 6, 6⟩ 3 = ([32,97,98,99,100,32], .fresh dots) := by decide

/-- not longer than `length`: the trimmed sub-window itself is returned -/
example : ellipsisB [32,97,98,99,100,32] ⟨0, 6, 6⟩ 4 = ([32,97,98,99,100,32], .window ⟨1, 4, 5⟩) := by decide

/-- both flavours on a text with a multi-byte space rune (U+00A0) at each end and inside -/
example : ellipsis [0xC2,0xA0,97,98,0xC2,0xA0,99,100,101,102,0xC2,0xA0] 7 = [97,98,46,46,46] ∧
    (ellipsisB [0xC2,0xA0,97,98,0xC2,0xA0,99,100,101,102,0xC2,0xA0] ⟨0, 12, 12⟩ 7) =
      ([0xC2,0xA0,97,98,0xC2,0xA0,99,100,101,102,0xC2,0xA0], .fresh [97,98,46,46,46]) := by decide

end Ro.Plugins.Text
