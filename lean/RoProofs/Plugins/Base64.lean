/-
  RoProofs.Plugins.Base64 — round trip of the `encoding/base64` model:
  `decode e (encode e bs) = some bs` for the four predefined encodings and every byte string, and
  the length of an encoding; test vectors for the rejection of malformed input and for CR/LF skipping.
-/
import RoModel.Plugins.Base64
namespace Ro.Plugins.Base64

/-! ### the alphabets -/

/-- The two alphabets written out.  `alphaCommon` is the characters of a string literal, and
    unfolding that literal is by far the dearest step of evaluating anything here, in the kernel
    or in `simp`; so it is unfolded once, in `alphabet_eq`, and every evaluation below (the sweeps
    over the 64 entries, the test vectors at the end) is done on this table. -/
def table (url : Bool) : List Nat :=
  [65, 66, 67, 68, 69, 70, 71, 72, 73, 74, 75, 76, 77, 78, 79, 80, 81, 82, 83, 84, 85, 86, 87, 88,
   89, 90, 97, 98, 99, 100, 101, 102, 103, 104, 105, 106, 107, 108, 109, 110, 111, 112, 113, 114,
   115, 116, 117, 118, 119, 120, 121, 122, 48, 49, 50, 51, 52, 53, 54, 55, 56, 57] ++
  if url then [45, 95] else [43, 47]

theorem alphabet_eq (e : Enc) : alphabet e = table e.url := by
  unfold alphabet alphaCommon table
  simp

/-- `decodeMap[encode[i]] = i` for both alphabets -/
theorem decChar_encChar (e : Enc) (i : Nat) (h : i < 64) : decChar e (encChar e i) = some i := by
  have hall : ∀ u, (List.range 64).all (fun i => (table u).idxOf ((table u).getD i 0) == i) := by
    decide +kernel
  have := eq_of_beq (List.all_eq_true.1 (hall e.url) i (List.mem_range.2 h))
  rw [decChar, encChar, alphabet_eq, this]
  exact if_pos h

/-- no alphabet character is LF, CR or the padding character `=` -/
theorem encChar_ne (e : Enc) (i : Nat) (h : i < 64) :
    encChar e i ≠ 10 ∧ encChar e i ≠ 13 ∧ encChar e i ≠ 61 := by
  have hall : ∀ u, (List.range 64).all (fun i =>
      (table u).getD i 0 != 10 && (table u).getD i 0 != 13 && (table u).getD i 0 != 61) := by
    decide +kernel
  have := List.all_eq_true.1 (hall e.url) i (List.mem_range.2 h)
  simpa only [encChar, alphabet_eq, Bool.and_eq_true, bne_iff_ne, and_assoc] using this

/-- `=` is in neither alphabet -/
theorem decChar_pad (e : Enc) : decChar e 61 = none := by
  rw [decChar, alphabet_eq]
  cases e.url <;> decide

/-! ### stepping the decoder -/

/-- an alphabet character inside a quantum is appended to `acc` -/
theorem decodeGo_char (e : Enc) {acc : List Nat} {rest : Bytes} {i : Nat} (h : i < 64)
    (hl : acc.length < 3) :
    decodeGo e acc (encChar e i :: rest) = decodeGo e (acc ++ [i]) rest := by
  rw [decodeGo, decChar_encChar e i h]
  exact if_neg (Nat.ne_of_lt hl)

/-- the fourth alphabet character closes the quantum -/
theorem decodeGo_char_last (e : Enc) {acc : List Nat} {rest : Bytes} {i : Nat} (h : i < 64)
    (hl : acc.length = 3) :
    decodeGo e acc (encChar e i :: rest)
      = (decodeGo e [] rest).map (quantumBytes (acc ++ [i]) ++ ·) := by
  rw [decodeGo, decChar_encChar e i h]
  exact if_pos hl

/-- a full quantum: four alphabet characters give three bytes -/
theorem decodeGo_quad (e : Enc) (rest : Bytes) (i0 i1 i2 i3 : Nat)
    (h0 : i0 < 64) (h1 : i1 < 64) (h2 : i2 < 64) (h3 : i3 < 64) :
    decodeGo e [] (encChar e i0 :: encChar e i1 :: encChar e i2 :: encChar e i3 :: rest)
      = (decodeGo e [] rest).map ([i0 * 4 + i1 / 16, i1 % 16 * 16 + i2 / 4, i2 % 4 * 64 + i3] ++ ·) := by
  rw [decodeGo_char e h0 (by decide), decodeGo_char e h1 (by simp),
    decodeGo_char e h2 (by simp), decodeGo_char_last e h3 rfl]
  rfl

/-- tail of one byte: two characters, then `==` or nothing -/
theorem decodeGo_tail1 (e : Enc) (i0 i1 : Nat) (h0 : i0 < 64) (h1 : i1 < 64) :
    decodeGo e [] ([encChar e i0, encChar e i1] ++ padding e 2)
      = some [i0 * 4 + i1 / 16] := by
  show decodeGo e [] (encChar e i0 :: encChar e i1 :: padding e 2) = _
  rw [decodeGo_char e h0 (by decide), decodeGo_char e h1 (by simp)]
  obtain ⟨u, p⟩ := e
  cases p
  · rfl
  · rw [padding, if_pos rfl, List.replicate, decodeGo, decChar_pad]
    rfl

/-- tail of two bytes: three characters, then `=` or nothing -/
theorem decodeGo_tail2 (e : Enc) (i0 i1 i2 : Nat)
    (h0 : i0 < 64) (h1 : i1 < 64) (h2 : i2 < 64) :
    decodeGo e [] ([encChar e i0, encChar e i1, encChar e i2] ++ padding e 1)
      = some [i0 * 4 + i1 / 16, i1 % 16 * 16 + i2 / 4] := by
  show decodeGo e [] (encChar e i0 :: encChar e i1 :: encChar e i2 :: padding e 1) = _
  rw [decodeGo_char e h0 (by decide), decodeGo_char e h1 (by simp),
    decodeGo_char e h2 (by simp)]
  obtain ⟨u, p⟩ := e
  cases p
  · rfl
  · rw [padding, if_pos rfl, List.replicate, decodeGo, decChar_pad]
    rfl

/-! ### the round trip -/

/- After `decodeGo_quad` / `_tail1` / `_tail2`, what `simp; omega` closes is that a byte is
   re-assembled from its 6-bit pieces: for `a b c < 256`
     a / 4 * 4 + (a % 4 * 16 + b / 16) / 16 = a,
     (a % 4 * 16 + b / 16) % 16 * 16 + (b % 16 * 4 + c / 64) / 4 = b,
     (b % 16 * 4 + c / 64) % 4 * 64 + c % 64 = c
   (in the tails with `b / 16`, `c / 64` absent). -/
theorem decodeGo_encode (e : Enc) :
    ∀ (bs : Bytes), IsBytes bs → decodeGo e [] (encode e bs) = some bs
  | [], _ => rfl
  | [a], h => by
    have ha : a < 256 := h a (by simp)
    rw [encode, decodeGo_tail1 e _ _ (Nat.div_lt_of_lt_mul ha) (by omega),
      Nat.mul_div_left _ (by decide), Nat.div_add_mod']
  | [a, b], h => by
    have ha : a < 256 := h a (by simp)
    have hb : b < 256 := h b (by simp)
    rw [encode, decodeGo_tail2 e _ _ _ (Nat.div_lt_of_lt_mul ha) (by omega) (by omega)]
    simp; omega
  | a :: b :: c :: rest, h => by
    have ha : a < 256 := h a (by simp)
    have hb : b < 256 := h b (by simp)
    have hc : c < 256 := h c (by simp)
    rw [encode, decodeGo_quad e _ _ _ _ _ (Nat.div_lt_of_lt_mul ha) (by omega) (by omega) (Nat.mod_lt c (by decide)),
      decodeGo_encode e rest fun x hx => h x (by simp [hx])]
    simp; omega

/-- `DecodeString(EncodeToString(bs)) = bs, nil` for Std, URL, RawStd, RawURL -/
theorem decode_encode (e : Enc) (bs : Bytes) (h : IsBytes bs) :
    decode e (encode e bs) = some bs := by
  simpa [decode] using decodeGo_encode e bs h

theorem isBytes_map_toNat (bs : List UInt8) : IsBytes (bs.map UInt8.toNat) := by
  intro b hb
  obtain ⟨x, _, rfl⟩ := List.mem_map.1 hb
  exact x.toNat_lt

/-! ### length of an encoding (`EncodedLen`, base64.go) -/

theorem encode_length (e : Enc) :
    ∀ bs : Bytes, (encode e bs).length =
      if e.pad then (bs.length + 2) / 3 * 4 else (bs.length * 8 + 5) / 6
  | [] => by simp [encode]
  | [a] => by cases hp : e.pad <;> simp [encode, padding, hp]
  | [a, b] => by cases hp : e.pad <;> simp [encode, padding, hp]
  | a :: b :: c :: rest => by
    rw [encode]
    simp only [List.length_cons, encode_length e rest]
    split <;> omega

/-! ### evaluating the decoder -/

/-- `decodeGo` over an explicit alphabet, for the test vectors below (see `table`). -/
def decodeBy (al : List Nat) (pad : Bool) : List Nat → Bytes → Option Bytes
  | acc, [] =>
    if acc.length = 0 then some []
    else if acc.length = 1 ∨ pad then none
    else some (quantumBytes acc)
  | acc, ch :: rest =>
    if al.idxOf ch < 64 then
      if acc.length = 3 then (decodeBy al pad [] rest).map (quantumBytes (acc ++ [al.idxOf ch]) ++ ·)
      else decodeBy al pad (acc ++ [al.idxOf ch]) rest
    else if ch = 10 ∨ ch = 13 then decodeBy al pad acc rest
    else if pad ∧ ch = 61 then
      if acc.length < 2 then none
      else if acc.length = 2 then
        match skipNL rest with
        | 61 :: r2 => if skipNL r2 = [] then some (quantumBytes acc) else none
        | _ => none
      else if skipNL rest = [] then some (quantumBytes acc) else none
    else none

theorem decodeGo_eq (e : Enc) : ∀ s acc, decodeGo e acc s = decodeBy (alphabet e) e.pad acc s
  | [], _ => rfl
  | ch :: rest, acc => by
    rw [decodeGo, decodeBy, decChar]
    by_cases h : (alphabet e).idxOf ch < 64
    · simp only [h, if_true, decodeGo_eq e rest]
    · simp only [h, if_false, decodeGo_eq e rest]
      rfl

theorem decode_table (e : Enc) (s : Bytes) : decode e s = decodeBy (table e.url) e.pad [] s := by
  rw [decode, decodeGo_eq, alphabet_eq]

/-! ### non-vacuity: concrete round trips (bytes 251..255 exercise `+/` vs `-_`) -/

example : encode std [251, 252, 253, 254, 255] = [43, 47, 122, 57, 47, 118, 56, 61] := by
  simp only [encode, encChar, alphabet_eq]; decide +kernel
example : encode urlEnc [251, 252, 253, 254, 255] = [45, 95, 122, 57, 95, 118, 56, 61] := by
  simp only [encode, encChar, alphabet_eq]; decide +kernel
example : encode rawStd [251, 252, 253, 254, 255] = [43, 47, 122, 57, 47, 118, 56] := by
  simp only [encode, encChar, alphabet_eq]; decide +kernel
example : encode rawUrl [251, 252, 253, 254, 255] = [45, 95, 122, 57, 95, 118, 56] := by
  simp only [encode, encChar, alphabet_eq]; decide +kernel

example : decode std (encode std [251, 252, 253, 254, 255]) = some [251, 252, 253, 254, 255] :=
  decode_encode _ _ (by simp [IsBytes])
example : decode urlEnc (encode urlEnc [251, 252, 253, 254, 255]) = some [251, 252, 253, 254, 255] :=
  decode_encode _ _ (by simp [IsBytes])
example : decode rawStd (encode rawStd [251, 252, 253, 254, 255]) = some [251, 252, 253, 254, 255] :=
  decode_encode _ _ (by simp [IsBytes])
example : decode rawUrl (encode rawUrl [251, 252, 253, 254, 255]) = some [251, 252, 253, 254, 255] :=
  decode_encode _ _ (by simp [IsBytes])
-- "Man" / "Ma" / "M" (RFC 4648 §9 style vectors), and a 4-byte input with a 1-byte tail
example : encode std [77, 97, 110] = [84, 87, 70, 117] := by
  simp only [encode, encChar, alphabet_eq]; decide +kernel
example : decode std [84, 87, 70, 117] = some [77, 97, 110] := by rw [decode_table]; decide +kernel
example : decode std [84, 87, 69, 61] = some [77, 97] := by rw [decode_table]; decide +kernel
example : decode std [84, 81, 61, 61] = some [77] := by rw [decode_table]; decide +kernel
example : decode rawUrl (encode rawUrl [0, 255, 16, 251]) = some [0, 255, 16, 251] :=
  decode_encode _ _ (by simp [IsBytes])
-- the alphabets are not interchangeable
example : decode std (encode urlEnc [251, 252, 253]) = none := by
  simp only [decode_table, encode, encChar, alphabet_eq]; decide +kernel
example : decode urlEnc (encode std [251, 252, 253]) = none := by
  simp only [decode_table, encode, encChar, alphabet_eq]; decide +kernel

/-! ### malformed input is rejected (`CorruptInputError`), never accepted silently -/

-- a single character
example : decode std [65] = none := by rw [decode_table]; decide +kernel
example : decode rawStd [65] = none := by rw [decode_table]; decide +kernel
-- missing padding, padded encoding
example : decode std [65, 65, 65] = none := by rw [decode_table]; decide +kernel
example : decode std [65, 65] = none := by rw [decode_table]; decide +kernel
-- padding in a raw encoding
example : decode rawStd [65, 65, 61, 61] = none := by rw [decode_table]; decide +kernel
example : decode rawUrl [65, 65, 65, 61] = none := by rw [decode_table]; decide +kernel
-- data after padding
example : decode std [65, 65, 61, 65] = none := by rw [decode_table]; decide +kernel
-- `xx=` instead of `xx==`
example : decode std [65, 65, 61] = none := by rw [decode_table]; decide +kernel
-- padding too early
example : decode std [65, 61, 61, 61] = none := by rw [decode_table]; decide +kernel
example : decode std [61] = none := by rw [decode_table]; decide +kernel
-- trailing garbage after `xxx=`
example : decode std [65, 65, 65, 61, 65] = none := by rw [decode_table]; decide +kernel
-- characters outside the alphabet
example : decode std [33, 33, 33, 33] = none := by rw [decode_table]; decide +kernel
-- URL characters under Std
example : decode std [65, 65, 45, 95] = none := by rw [decode_table]; decide +kernel
-- Std characters under URL
example : decode urlEnc [65, 65, 43, 47] = none := by rw [decode_table]; decide +kernel

/-! ### CR / LF are skipped anywhere -/

example : decode std [81, 81, 10, 61, 13, 61, 10] = some [65] := by
  rw [decode_table]; decide +kernel
example : decode std [10, 84, 13, 87, 10, 70, 13, 10, 117, 10] = some [77, 97, 110] := by
  rw [decode_table]; decide +kernel
example : decode rawStd [81, 13, 10, 81] = some [65] := by rw [decode_table]; decide +kernel

end Ro.Plugins.Base64
