/-
  RoProofs.Resub — generic lemmas for C15: the sequential log, `firstStop`, the destination.
-/
import RoModel.Spec.Resub
namespace Ro.Resub
open Ro Ro.Resub Ro.Resub.Spec

@[simp] theorem stop_raw (raw : List (Notif Int)) : (Result.stop raw).raw = raw := rfl
@[simp] theorem stop_log (raw : List (Notif Int)) : (Result.stop raw).log = [] := rfl
@[simp] theorem stop_attempts (raw : List (Notif Int)) : (Result.stop raw).attempts = 0 := rfl
@[simp] theorem after_raw (raw : List (Notif Int)) (i : Nat) (r : Result) : (Result.after raw i r).raw = raw ++ r.raw := rfl
@[simp] theorem after_log (raw : List (Notif Int)) (i : Nat) (r : Result) : (Result.after raw i r).log = .s i :: .t i :: r.log := rfl
@[simp] theorem after_attempts (raw : List (Notif Int)) (i : Nat) (r : Result) : (Result.after raw i r).attempts = r.attempts + 1 := rfl
@[simp] theorem evaluated_raw (r : Result) : r.evaluated.raw = r.raw := rfl
@[simp] theorem evaluated_log (r : Result) : r.evaluated.log = r.log := rfl
@[simp] theorem evaluated_attempts (r : Result) : r.evaluated.attempts = r.attempts := rfl

@[simp] theorem outcomeAt_nil (j : Nat) : outcomeAt [] j = Outcome.dflt := by simp [outcomeAt]
@[simp] theorem outcomeAt_cons_zero (o : Outcome) (l : List Outcome) : outcomeAt (o :: l) 0 = o := by simp [outcomeAt]
@[simp] theorem outcomeAt_cons_succ (o : Outcome) (l : List Outcome) (j : Nat) : outcomeAt (o :: l) (j + 1) = outcomeAt l j := by
  simp [outcomeAt]
theorem outcomeAt_tail (l : List Outcome) (j : Nat) : outcomeAt l.tail j = outcomeAt l (j + 1) := by
  cases l <;> simp
theorem outcomeAt_zero_tail (l : List Outcome) : outcomeAt l 0 :: l.tail = l ∨ l = [] := by
  cases l <;> simp

@[simp] theorem dflt_fails : Outcome.dflt.fails = false := rfl
@[simp] theorem dflt_vals : Outcome.dflt.vals = [] := rfl
@[simp] theorem dflt_fin : Outcome.dflt.fin = .complete := rfl

theorem fails_iff (o : Outcome) : o.fails = true ↔ ∃ e, o.fin = .error e := by
  unfold Outcome.fails; cases o.fin <;> simp
theorem fails_of_error {o : Outcome} {e : Nat} (h : o.fin = .error e) : o.fails = true := by
  unfold Outcome.fails; rw [h]
theorem not_fails_of_complete {o : Outcome} (h : o.fin = .complete) : o.fails = false := by
  unfold Outcome.fails; rw [h]

@[simp] theorem failsAt_nil (j : Nat) : failsAt [] j = false := by simp [failsAt]
@[simp] theorem failsAt_cons_zero (o : Outcome) (l : List Outcome) : failsAt (o :: l) 0 = o.fails := by simp [failsAt]
@[simp] theorem failsAt_cons_succ (o : Outcome) (l : List Outcome) (j : Nat) : failsAt (o :: l) (j + 1) = failsAt l j := by simp [failsAt]
theorem failsAt_tail (l : List Outcome) : (fun j => failsAt l (j + 1)) = failsAt l.tail := by
  funext j; cases l <;> simp

/-! ### the sequential log -/

@[simp] theorem seqLog_zero (i : Nat) : seqLog i 0 = [] := rfl
@[simp] theorem seqLog_succ (i n : Nat) : seqLog i (n + 1) = .s i :: .t i :: seqLog (i + 1) n := rfl

theorem maxLiveFrom_seqLog (i n mx : Nat) : maxLiveFrom 0 mx (seqLog i n) = if n = 0 then mx else max mx 1 := by
  induction n generalizing i mx with
  | zero => simp [maxLiveFrom]
  | succ n ih =>
    simp only [seqLog_succ, maxLiveFrom, Nat.zero_add, ih]
    split <;> simp [Nat.max_assoc]

/-- never two attempts alive: the live gauge of a sequential log never exceeds 1 -/
theorem maxLive_seqLog (i n : Nat) : maxLive (seqLog i n) = if n = 0 then 0 else 1 := by
  simp [maxLive, maxLiveFrom_seqLog]

theorem maxLive_seqLog_le (i n : Nat) : maxLive (seqLog i n) ≤ 1 := by
  rw [maxLive_seqLog]; split <;> simp

/-! ### the `Wait` window: two attempts alive -/

theorem maxLiveFrom_overlapTail (i m mx : Nat) :
    maxLiveFrom 1 mx (overlapTail i m) = if m = 0 then mx else max mx 2 := by
  induction m generalizing i mx with
  | zero => simp [overlapTail, maxLiveFrom]
  | succ m ih =>
    simp only [overlapTail, maxLiveFrom, Nat.add_sub_cancel, ih]
    split <;> simp [Nat.max_assoc]

/-- in the `Wait`-window schedule two attempts are alive as soon as there are two attempts -/
theorem maxLive_overlapLog (n : Nat) : maxLive (overlapLog (n + 2)) = 2 := by
  simp [maxLive, overlapLog, maxLiveFrom, maxLiveFrom_overlapTail]

theorem overlapLog_ne_seqLog (n : Nat) : overlapLog (n + 2) ≠ seqLog 1 (n + 2) := by
  simp [overlapLog, overlapTail, seqLog]

/-- the subscriptions recorded in a log -/
def subsOf : List Ev → List Nat
  | [] => []
  | .s i :: l => i :: subsOf l
  | .t _ :: l => subsOf l

theorem subsOf_seqLog (i n : Nat) : subsOf (seqLog i n) = List.range' i n := by
  induction n generalizing i with
  | zero => rfl
  | succ n ih => simp [subsOf, ih, List.range'_succ]

theorem firstStop_succ_of_stop {p : Nat → Bool} (b : Nat) (h : p 0 = true) : firstStop p (b + 1) = 1 := by
  simp [firstStop, h]
theorem firstStop_succ_of_go {p : Nat → Bool} (b : Nat) (h : p 0 = false) :
    firstStop p (b + 1) = firstStop (fun j => p (j + 1)) b + 1 := by
  simp [firstStop, h]; omega

theorem firstStop_le (p : Nat → Bool) (b : Nat) : firstStop p b ≤ b := by
  induction b generalizing p with
  | zero => simp [firstStop]
  | succ b ih =>
    unfold firstStop; split
    · omega
    · have := ih (fun j => p (j + 1)); omega

theorem firstStop_pos (p : Nat → Bool) (b : Nat) (hb : 0 < b) : 0 < firstStop p b := by
  cases b with
  | zero => omega
  | succ b => unfold firstStop; split <;> omega

/-- no attempt before the last one stopped the loop -/
theorem firstStop_before (p : Nat → Bool) (b : Nat) : ∀ j, j + 1 < firstStop p b → p j = false := by
  induction b generalizing p with
  | zero => intro j h; simp [firstStop] at h
  | succ b ih =>
    intro j h
    unfold firstStop at h
    split at h
    · omega
    · rename_i h0
      cases j with
      | zero => simpa using h0
      | succ j => exact ih (fun j => p (j + 1)) j (by omega)

/-- if the loop ended before its bound, the last attempt stopped it -/
theorem firstStop_stops (p : Nat → Bool) (b : Nat) (h : firstStop p b < b) : p (firstStop p b - 1) = true := by
  induction b generalizing p with
  | zero => omega
  | succ b ih =>
    unfold firstStop at h ⊢
    split
    · rename_i h0; simpa using h0
    · rename_i h0
      rw [if_neg h0] at h
      have h' : firstStop (fun j => p (j + 1)) b < b := by omega
      have := ih (fun j => p (j + 1)) h'
      have hp := firstStop_pos (fun j => p (j + 1)) b (by omega)
      have e : 1 + firstStop (fun j => p (j + 1)) b - 1 = (firstStop (fun j => p (j + 1)) b - 1) + 1 := by omega
      rw [e]; exact this

/-- `firstStop` is the only number with these properties: a smaller candidate would have stopped the loop before
    `firstStop`, a larger one would have run past the stop -/
theorem firstStop_unique (p : Nat → Bool) (b n : Nat) (hle : n ≤ b) (hpos : 0 < b → 0 < n)
    (hbefore : ∀ j, j + 1 < n → p j = false) (hstop : n < b → p (n - 1) = true) : n = firstStop p b := by
  have h1 := firstStop_le p b
  have h2 := firstStop_pos p b
  rcases Nat.lt_trichotomy n (firstStop p b) with h | h | h
  · have hf := firstStop_before p b (n - 1) (by omega)
    rw [hstop (by omega)] at hf
    cases hf
  · exact h
  · have hf := hbefore (firstStop p b - 1) (by omega)
    rw [firstStop_stops p b (by omega)] at hf
    cases hf

theorem firstStop_congr (p q : Nat → Bool) (b : Nat) (h : ∀ j, j < b → p j = q j) : firstStop p b = firstStop q b := by
  induction b generalizing p q with
  | zero => rfl
  | succ b ih =>
    unfold firstStop
    rw [h 0 (by omega), ih (fun j => p (j + 1)) (fun j => q (j + 1)) (fun j hj => h (j + 1) (by omega))]

/-- with no stop before the bound the loop runs `b` attempts -/
theorem firstStop_eq_bound (p : Nat → Bool) (b : Nat) (h : ∀ j, j + 1 < b → p j = false) : firstStop p b = b :=
  (firstStop_unique p b b (Nat.le_refl b) id h (fun hb => absurd hb (Nat.lt_irrefl b))).symm

/-! ### values and terminal of a raw push list -/

@[simp] theorem outVals_nil : outVals [] = [] := rfl
@[simp] theorem outTerm_nil : outTerm [] = none := rfl

theorem outVals_nexts_append (o : Outcome) (sub : Ctx) (l : List (Notif Int)) :
    outVals (o.nexts sub ++ l) = o.vals.map (·.2) ++ outVals l := by
  unfold Outcome.nexts
  induction o.vals with
  | nil => rfl
  | cons p ps ih => simp [outVals, ih]

theorem outTerm_nexts_append (o : Outcome) (sub : Ctx) (l : List (Notif Int)) :
    outTerm (o.nexts sub ++ l) = outTerm l := by
  unfold Outcome.nexts
  induction o.vals with
  | nil => rfl
  | cons p ps ih => simp [outTerm, ih]

@[simp] theorem outVals_error (c : Ctx) (e : Err) (l : List (Notif Int)) : outVals (.error c e :: l) = [] := rfl
@[simp] theorem outVals_complete (c : Ctx) (l : List (Notif Int)) : outVals (.complete c :: l) = [] := rfl
@[simp] theorem outTerm_error (c : Ctx) (e : Err) (l : List (Notif Int)) : outTerm (.error c e :: l) = some (.error e) := rfl
@[simp] theorem outTerm_complete (c : Ctx) (l : List (Notif Int)) : outTerm (.complete c :: l) = some .complete := rfl

@[simp] theorem valuesOf_nil : valuesOf [] = [] := rfl
@[simp] theorem valuesOf_cons (o : Outcome) (l : List Outcome) : valuesOf (o :: l) = o.vals.map (·.2) ++ valuesOf l := by
  simp [valuesOf]

theorem take_succ_eq (l : List Outcome) (n : Nat) : l.take (n + 1) = if l = [] then [] else outcomeAt l 0 :: l.tail.take n := by
  cases l <;> simp

/-- the values of the first `n + 1` attempts = those of the first, then those of the next `n` of the rest
    (an attempt past the end of the list has no values) -/
theorem valuesOf_take_succ (l : List Outcome) (n : Nat) :
    valuesOf (l.take (n + 1)) = (outcomeAt l 0).vals.map (·.2) ++ valuesOf (l.tail.take n) := by
  cases l <;> simp

/-! ### the destination -/

/-- what the destination delivers of a push list, for every point at which the downstream goes away:
    the first `k` values; the terminal only if fewer than `k` values came before it -/
theorem deliver_vals (cut : Option Nat) (raw : List (Notif Int)) : outVals (deliver cut raw) = cutVals cut (outVals raw) := by
  induction raw generalizing cut with
  | nil => cases cut <;> simp [deliver, cutVals]
  | cons x xs ih => rcases cut with _ | _ | k <;> cases x <;> simp [deliver, outVals, cutVals, ih]

theorem deliver_term (cut : Option Nat) (raw : List (Notif Int)) :
    outTerm (deliver cut raw) = cutTerm cut (outVals raw) (outTerm raw) := by
  induction raw generalizing cut with
  | nil => rcases cut with _ | k <;> simp only [deliver, cutTerm, outTerm_nil] <;> split <;> rfl
  | cons x xs ih => rcases cut with _ | _ | k <;> cases x <;> simp [deliver, outVals, outTerm, cutTerm, ih]

/-- the delivered trace obeys the observable grammar (values, at most one terminal, nothing after) -/
theorem deliver_grammar (cut : Option Nat) (raw : List (Notif Int)) : Grammar (deliver cut raw) := by
  induction raw generalizing cut with
  | nil => simp [deliver, Grammar]
  | cons x xs ih =>
    unfold deliver
    split
    · simp [Grammar]
    · split
      · rename_i h; simp [Grammar, h]
      · rename_i h; simp [Grammar, h]; exact ih _

/-! ### attempts in sequence -/

theorem termAfter_tail (outs : List Outcome) (n : Nat) (h : (outcomeAt outs 0).fin = .complete ∨ 0 < n) :
    termAfter outs (n + 1) = termAfter outs.tail n := by
  cases n with
  | zero => cases h with
    | inl h => simp [termAfter, h]
    | inr h => omega
  | succ m => simp [termAfter, outcomeAt_tail]

theorem termAfter_one_error {outs : List Outcome} {e : Nat} (h : (outcomeAt outs 0).fin = .error e) :
    termAfter outs 1 = .error (.user e) := by simp [termAfter, h]

/-- what the result of every loop has: attempts `i, i + 1, …` one after another, each forwarding the values of the
    outcome it plays; `t` is the first terminal handed over -/
structure Sequential (i : Nat) (outs : List Outcome) (t : Term) (r : Result) : Prop where
  log : r.log = seqLog i r.attempts
  vals : outVals r.raw = valuesOf (outs.take r.attempts)
  term : outTerm r.raw = some t

namespace Sequential
variable {i : Nat} {outs : List Outcome} {t : Term}

/-- no further attempt: a terminal is handed over -/
theorem stop {raw : List (Notif Int)} (hv : outVals raw = []) (ht : outTerm raw = some t) :
    Sequential i outs t (.stop raw) := ⟨rfl, hv, ht⟩

theorem evaluated {r : Result} (h : Sequential i outs t r) : Sequential i outs t r.evaluated := ⟨h.log, h.vals, h.term⟩

/-- one more attempt in front, which forwards its values and nothing else -/
theorem after {r : Result} (c : Ctx) (h : Sequential (i + 1) outs.tail t r) :
    Sequential i outs t (.after ((outcomeAt outs 0).nexts c) i r) :=
  ⟨by rw [after_log, after_attempts, h.log]; rfl,
    by rw [after_raw, after_attempts, outVals_nexts_append, h.vals, valuesOf_take_succ],
    by rw [after_raw, outTerm_nexts_append, h.term]⟩

/-- the last attempt, which hands over a terminal itself -/
theorem last (c : Ctx) {l junk : List (Notif Int)} (hv : outVals (l ++ junk) = []) (ht : outTerm (l ++ junk) = some t) :
    Sequential i outs t (.after ((outcomeAt outs 0).nexts c ++ l) i (.stop junk)) := by
  have e : Result.after ((outcomeAt outs 0).nexts c ++ l) i (.stop junk) =
      Result.after ((outcomeAt outs 0).nexts c) i (.stop (l ++ junk)) := by
    simp [Result.after, Result.stop]
  rw [e]
  exact .after c (.stop hv ht)

end Sequential

end Ro.Resub
