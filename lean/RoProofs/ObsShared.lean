/-
  RoProofs.ObsShared — one observer attached to two sources: values, then at most one terminal, then silence (C01), whatever
  the two sources send and in whatever order; nothing is lost silently (delivered + refused = sent).
-/
import RoModel.ObsShared
import RoProofs.Gate
namespace Ro.ObsShared
open Ro

@[simp] theorem closeSub_obs (s : St) (k code : Nat) : (s.closeSub k code).obs = s.obs := by
  unfold St.closeSub; split <;> rfl
@[simp] theorem closeSub_trace (s : St) (k code : Nat) : (s.closeSub k code).trace = s.trace := by
  unfold St.closeSub; split <;> rfl
@[simp] theorem closeSub_dropped (s : St) (k code : Nat) : (s.closeSub k code).dropped = s.dropped := by
  unfold St.closeSub; split <;> rfl

/-- what one event does to the observer: it is refused (by its subscriber or by the closed observer) and reported, or the
    open observer is handed it and stays open only if it is a value -/
theorem step_cases (s : St) (e : Nat × Notif Int) :
    ((step s e).obs = s.obs ∧ (step s e).trace = s.trace ∧ (step s e).dropped = s.dropped ++ [e.2]) ∨
    (s.obs = 0 ∧ (step s e).trace = s.trace ++ [e.2] ∧ (step s e).dropped = s.dropped ∧
      ((step s e).obs = 0 → e.2.isTerminal = false)) := by
  unfold step
  split
  · exact .inl ⟨rfl, rfl, rfl⟩
  · obtain ⟨k, n⟩ := e
    cases n <;> dsimp only <;> split <;> simp_all

/-- the observer is open only while no terminal has been delivered, and what was delivered is grammatical -/
theorem run_inv (evs : List (Nat × Notif Int)) :
    ((run evs).obs = 0 → hasTerm (run evs).trace = false) ∧ Grammar (run evs).trace := by
  suffices h : ∀ s : St, (s.obs = 0 → hasTerm s.trace = false) ∧ Grammar s.trace →
      ((evs.foldl step s).obs = 0 → hasTerm (evs.foldl step s).trace = false) ∧ Grammar (evs.foldl step s).trace from
    h {} ⟨fun _ => rfl, trivial⟩
  induction evs with
  | nil => exact fun _ h => h
  | cons e es ih =>
    refine fun s ⟨h0, hg⟩ => ih _ ?_
    rcases step_cases s e with ⟨ho, ht, _⟩ | ⟨ho, ht, _, hn⟩ <;> rw [ht]
    · exact ⟨ho ▸ h0, hg⟩
    · -- no terminal so far: the trace with one more notification is its own gate
      have hg : gate (s.trace ++ [e.2]) = s.trace ++ [e.2] := by
        rw [gate_append_of_noTerm _ _ (h0 ho)]; simp [gate]
      exact ⟨fun h => by simp [h0 ho, hn h], hg ▸ gate_grammar _⟩

/-- C01 for an observer shared by two subscriptions: whatever the two sources send, in whatever order -/
theorem shared_observer_grammar (evs : List (Nat × Notif Int)) : Grammar (run evs).trace :=
  (run_inv evs).2

/-- nothing is lost silently: every notification sent is either delivered or reported as dropped -/
theorem shared_observer_partition (evs : List (Nat × Notif Int)) :
    (run evs).trace.length + (run evs).dropped.length = evs.length := by
  suffices h : ∀ s : St, (evs.foldl step s).trace.length + (evs.foldl step s).dropped.length =
      s.trace.length + s.dropped.length + evs.length by
    simpa [run] using h {}
  induction evs with
  | nil => exact fun _ => rfl
  | cons e es ih =>
    intro s
    rw [List.foldl_cons, ih]
    rcases step_cases s e with ⟨_, ht, hd⟩ | ⟨_, ht, hd, _⟩ <;> simp [ht, hd] <;> omega

example : (run [(0, .next {} 1), (1, .next {} 2), (0, .complete {}), (1, .next {} 3), (1, .complete {})]).trace
    = [.next {} 1, .next {} 2, .complete {}] := by decide
example : (run [(0, .next {} 1), (1, .next {} 2), (0, .complete {}), (1, .next {} 3), (1, .complete {})]).dropped
    = [.next {} 3, .complete {}] := by decide

end Ro.ObsShared
