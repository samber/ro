/-
  RoProofs.Gate — lemmas about the sequential gate and the generic `runOp` theorem:
  what reaches the final observer is the downstream gate applied to the machine's emissions
  over the upstream-gated script, whatever the source mode.
-/
import RoModel.Machine
namespace Ro
variable {σ α β : Type}

def hasTerm (l : List (Notif α)) : Bool := l.any Notif.isTerminal

@[simp] theorem hasTerm_nil : hasTerm ([] : List (Notif α)) = false := rfl
@[simp] theorem hasTerm_cons (x : Notif α) (l) : hasTerm (x :: l) = (x.isTerminal || hasTerm l) := by
  simp [hasTerm]
@[simp] theorem hasTerm_append (a b : List (Notif α)) : hasTerm (a ++ b) = (hasTerm a || hasTerm b) := by
  simp [hasTerm]

@[simp] theorem gate_nil : gate ([] : List (Notif α)) = [] := rfl
theorem gate_cons (x : Notif α) (xs : List (Notif α)) :
    gate (x :: xs) = x :: (if x.isTerminal then [] else gate xs) := by
  rw [gate]; split <;> rfl
theorem gate_cons_next (c : Ctx) (v : α) (l) : gate (Notif.next c v :: l) = Notif.next c v :: gate l :=
  gate_cons _ l
theorem gate_cons_error (c : Ctx) (e : Err) (l : List (Notif α)) : gate (Notif.error c e :: l) = [Notif.error c e] :=
  gate_cons _ l
theorem gate_cons_complete (c : Ctx) (l : List (Notif α)) : gate (Notif.complete c :: l) = [Notif.complete c] :=
  gate_cons _ l

theorem gate_append_of_term (a l : List (Notif α)) (h : hasTerm a = true) : gate (a ++ l) = gate a := by
  induction a with
  | nil => simp at h
  | cons x xs ih =>
    simp only [List.cons_append, gate]
    cases hx : x.isTerminal
    · simp only [hasTerm_cons, hx, Bool.false_or] at h
      simp [ih h]
    · simp

theorem gate_append_of_noTerm (a l : List (Notif α)) (h : hasTerm a = false) : gate (a ++ l) = a ++ gate l := by
  induction a with
  | nil => simp
  | cons x xs ih =>
    simp only [hasTerm_cons, Bool.or_eq_false_iff] at h
    simp [gate, h.1, ih h.2]

theorem gate_of_noTerm (a : List (Notif α)) (h : hasTerm a = false) : gate a = a := by
  have := gate_append_of_noTerm a [] h
  simpa using this

theorem gate_idem (l : List (Notif α)) : gate (gate l) = gate l := by
  induction l with
  | nil => rfl
  | cons x xs ih => cases hx : x.isTerminal <;> simp [gate_cons, hx, ih]

/-- C01, sequential core: whatever the producer does, what passes the gate obeys the grammar. -/
theorem gate_grammar (l : List (Notif α)) : Grammar (gate l) := by
  induction l with
  | nil => trivial
  | cons x xs ih => cases hx : x.isTerminal <;> simp [gate_cons, Grammar, hx, ih]

/-- nothing is invented and nothing is lost: delivered ++ dropped is the raw script -/
theorem gate_partition (l : List (Notif α)) : gate l ++ gateDropped l = l := by
  induction l with
  | nil => rfl
  | cons x xs ih =>
    simp only [gate, gateDropped]
    cases hx : x.isTerminal
    · simp [ih]
    · simp

theorem hasTerm_gate (l : List (Notif α)) : hasTerm (gate l) = hasTerm l := by
  induction l with
  | nil => rfl
  | cons x xs ih => cases hx : x.isTerminal <;> simp [gate_cons, hx, ih]

/-- in a script that obeys the grammar only the last notification can be a terminal -/
theorem noTerm_of_grammar : ∀ (l : List (Notif α)) {x : Notif α} {t : List (Notif α)},
    Grammar (l ++ x :: t) → hasTerm l = false
  | [], _, _, _ => rfl
  | y :: l, _, _, h => by
    cases hy : y.isTerminal <;> simp only [List.cons_append, Grammar, hy] at h
    · simpa [hy] using noTerm_of_grammar l h
    · simp at h

theorem noTerm_of_prefix_gate {l t r : List (Notif α)} {x : Notif α} (h : l ++ x :: t = gate r) :
    hasTerm l = false :=
  noTerm_of_grammar l (h ▸ gate_grammar r)

/-- a sub-sequence of a grammatical trace is grammatical -/
theorem Grammar.filter {α : Type} (p : Notif α → Bool) : ∀ l : List (Notif α), Grammar l → Grammar (l.filter p)
  | [], h => h
  | x :: xs, h => by
    unfold Grammar at h
    by_cases ht : x.isTerminal = true
    · rw [if_pos ht] at h
      by_cases hx : p x <;> simp [h, hx, Grammar, ht]
    · rw [if_neg ht] at h
      by_cases hx : p x <;> simp [hx, Grammar, ht, Grammar.filter p xs h]

theorem mem_gate {l : List (Notif β)} {n : Notif β} (h : n ∈ gate l) : n ∈ l :=
  gate_partition l ▸ List.mem_append_left _ h

theorem grammar_snoc (l : List (Notif α)) (n : Notif α) (h : hasTerm l = false) : Grammar (l ++ [n]) := by
  have := gate_grammar (l ++ [n])
  rw [gate_append_of_noTerm l [n] h] at this
  have h2 : gate [n] = [n] := by
    unfold gate; cases n.isTerminal <;> simp [gate]
  rwa [h2] at this

theorem values_gate (l : List (Notif β)) : values (gate l) = values l := by
  induction l with
  | nil => rfl
  | cons x xs ih => cases x <;> simp [gate, values, ih]

theorem ending_gate (l : List (Notif β)) : ending (gate l) = ending l := by
  induction l with
  | nil => rfl
  | cons x xs ih => cases x <;> simp [gate, ending, ih]

theorem gate_toList (e : Ending) : gate (e.toList (α := α)) = e.toList := by
  cases e <;> rfl

theorem gate_values_ending (l : List (Notif α)) (e : Ending) (h : hasTerm l = false) :
    gate (l ++ e.toList) = l ++ e.toList := by
  rw [gate_append_of_noTerm _ _ h, gate_toList]

theorem hasTerm_flatMap {γ : Type} (g : γ → List (Notif β)) (h : ∀ x, hasTerm (g x) = false) (l : List γ) :
    hasTerm (l.flatMap g) = false := by
  induction l with
  | nil => rfl
  | cons x xs ih => rw [List.flatMap_cons, hasTerm_append, h, ih]; rfl

theorem hasTerm_map_nextlike {γ : Type} (l : List γ) (g : γ → Ctx) (h : γ → β) :
    hasTerm (l.map (fun q => Notif.next (g q) (h q))) = false := by
  rw [List.map_eq_flatMap]; exact hasTerm_flatMap _ (fun _ => rfl) l

theorem hasTerm_map_nextc (c : Ctx) (l : List α) : hasTerm (l.map (Notif.next c)) = false :=
  hasTerm_map_nextlike l (fun _ => c) id

theorem hasTerm_map_next (vs : List (Ctx × α)) :
    hasTerm (vs.map (fun p => Notif.next p.1 p.2)) = false := hasTerm_map_nextlike vs _ _

/-- Batches that are either empty or end the stream: only the first non-empty one is delivered. -/
theorem gate_flatMap_ite {γ : Type} (P : γ → Bool) (T : γ → List (Notif β)) (hT : ∀ x, hasTerm (T x) = true)
    (l : List γ) (rest : List (Notif β)) :
    gate (l.flatMap (fun x => if P x then T x else []) ++ rest) =
      match l.find? P with
      | some x => gate (T x)
      | none => gate rest := by
  induction l with
  | nil => rfl
  | cons x xs ih =>
    rw [List.flatMap_cons, List.find?_cons]
    cases P x
    · exact ih
    · rw [if_pos rfl, List.append_assoc, gate_append_of_term _ _ (hT x)]

theorem flatMap_ite_singleton {γ δ : Type} (P : γ → Bool) (F : γ → δ) (l : List γ) :
    l.flatMap (fun x => if P x then [F x] else []) = (l.filter P).map F := by
  induction l with
  | nil => rfl
  | cons x xs ih => rw [List.flatMap_cons, List.filter_cons, ih]; cases P x <;> rfl

/-! ### the run state -/

/-- Ghost relation: `acc` is everything pushed so far. -/
structure Tracks (r : RunSt σ α β) (acc : List (Notif β)) : Prop where
  out : r.out = gate acc
  open_ : r.downOpen = !hasTerm acc

theorem Tracks.congr {r r' : RunSt σ α β} {acc} (h : Tracks r acc) (ho : r'.out = r.out)
    (hd : r'.downOpen = r.downOpen) : Tracks r' acc :=
  ⟨ho.trans h.out, hd.trans h.open_⟩

theorem Tracks.term_of_closed {r : RunSt σ α β} {acc} (h : Tracks r acc) (hd : r.downOpen = false) :
    hasTerm acc = true := by
  simpa [hd] using h.open_

theorem Tracks.push {r : RunSt σ α β} {acc} (h : Tracks r acc) (n : Notif β) :
    Tracks (r.push n) (acc ++ [n]) := by
  unfold RunSt.push
  cases hd : r.downOpen
  · have ht := h.term_of_closed hd
    constructor
    · simp [gate_append_of_term _ _ ht, h.out]
    · simp [ht]
  · have ht : hasTerm acc = false := by simpa [hd] using h.open_
    constructor
    · simp only [if_true, h.out, gate_append_of_noTerm _ _ ht, gate_of_noTerm _ ht]
      cases hn : n.isTerminal <;> simp [gate, hn]
    · simp [ht]

theorem Tracks.pushAll {r : RunSt σ α β} {acc} (h : Tracks r acc) (ns : List (Notif β)) :
    Tracks (r.pushAll ns) (acc ++ ns) := by
  induction ns generalizing r acc with
  | nil => simpa [RunSt.pushAll] using h
  | cons n ns ih =>
    have := ih (h.push n)
    simpa [RunSt.pushAll, List.append_assoc] using this

@[simp] theorem push_st (r : RunSt σ α β) (n) : (r.push n).st = r.st := by
  unfold RunSt.push; split <;> rfl
@[simp] theorem push_upOpen (r : RunSt σ α β) (n) : (r.push n).upOpen = r.upOpen := by
  unfold RunSt.push; split <;> rfl
@[simp] theorem pushAll_st (r : RunSt σ α β) (ns) : (r.pushAll ns).st = r.st := by
  induction ns generalizing r with
  | nil => rfl
  | cons n ns ih => simp [RunSt.pushAll, List.foldl] at *; rw [ih]; simp
@[simp] theorem pushAll_upOpen (r : RunSt σ α β) (ns) : (r.pushAll ns).upOpen = r.upOpen := by
  induction ns generalizing r with
  | nil => rfl
  | cons n ns ih => simp [RunSt.pushAll, List.foldl] at *; rw [ih]; simp

/-! what has been delivered stays delivered -/

theorem push_out_prefix (r : RunSt σ α β) (n : Notif β) : r.out <+: (r.push n).out := by
  unfold RunSt.push; split
  · exact List.prefix_append ..
  · exact List.prefix_refl _

theorem pushAll_out_prefix (r : RunSt σ α β) (ns : List (Notif β)) : r.out <+: (r.pushAll ns).out :=
  List.foldlRecOn (motive := fun r' : RunSt σ α β => r.out <+: r'.out) ns RunSt.push (List.prefix_refl _)
    fun r' h n _ => h.trans (push_out_prefix r' n)

theorem feed_out_prefix (m : Machine σ α β) (mode) (r : RunSt σ α β) (x : Notif α) :
    r.out <+: (r.feed m mode x).out := by
  unfold RunSt.feed; split
  · exact pushAll_out_prefix { r with st := (m.step r.st x).1 } _
  · exact List.prefix_refl _

theorem fold_out_prefix (m : Machine σ α β) (mode) (raw : List (Notif α)) (r : RunSt σ α β) :
    r.out <+: (raw.foldl (RunSt.feed m mode) r).out :=
  List.foldlRecOn (motive := fun r' : RunSt σ α β => r.out <+: r'.out) raw _ (List.prefix_refl _)
    fun r' h x _ => h.trans (feed_out_prefix m mode r' x)

theorem feed_closed_out (m : Machine σ α β) (mode) (r : RunSt σ α β) (x) (h : r.upOpen = false) :
    (r.feed m mode x).out = r.out ∧ (r.feed m mode x).upOpen = false := by
  simp [RunSt.feed, h]

theorem fold_closed_out (m : Machine σ α β) (mode) (raw : List (Notif α)) (r : RunSt σ α β)
    (h : r.upOpen = false) : (raw.foldl (RunSt.feed m mode) r).out = r.out := by
  induction raw generalizing r with
  | nil => rfl
  | cons x xs ih =>
    have := feed_closed_out m mode r x h
    simp only [List.foldl]
    rw [ih _ this.2, this.1]

/-- one call with the upstream gate open: the machine steps, its emissions are pushed, the gates settle -/
theorem feed_open (m : Machine σ α β) (mode) (r : RunSt σ α β) (x : Notif α) (hu : r.upOpen = true) :
    r.feed m mode x =
      (({ r with st := (m.step r.st x).1 } : RunSt σ α β).pushAll (m.step r.st x).2).settle mode x.isTerminal
        r.out.length := by
  simp only [RunSt.feed, hu, if_true]

/-- The generic theorem: from any tracked state with the upstream gate open, folding a raw
    script delivers the downstream gate of (everything pushed so far ++ the machine's emissions
    over the upstream-gated script). -/
theorem fold_out (m : Machine σ α β) (mode) (raw : List (Notif α)) (r : RunSt σ α β) (acc)
    (ht : Tracks r acc) (hu : r.upOpen = true) :
    (raw.foldl (RunSt.feed m mode) r).out = gate (acc ++ m.emits r.st (gate raw)) := by
  induction raw generalizing r acc with
  | nil => simp [Machine.emits, ht.out]
  | cons x xs ih =>
    simp only [List.foldl]
    -- the state after feeding x
    have hstep : Tracks (({ r with st := (m.step r.st x).1 } : RunSt σ α β).pushAll (m.step r.st x).2)
        (acc ++ (m.step r.st x).2) :=
      Tracks.pushAll (r := { r with st := (m.step r.st x).1 }) (ht.congr rfl rfl) _
    rw [feed_open m mode r x hu]
    generalize hr1 : (({ r with st := (m.step r.st x).1 } : RunSt σ α β).pushAll (m.step r.st x).2) = r1 at hstep
    have hst1 : r1.st = (m.step r.st x).1 := by rw [← hr1]; simp
    simp only [RunSt.settle]
    cases hx : x.isTerminal
    · -- x is a value
      have hg : gate (x :: xs) = x :: gate xs := by simp [gate, hx]
      rw [hg]
      simp only [Machine.emits]
      cases hclose : (mode == SrcMode.hot && !r1.downOpen)
      · -- upstream stays open
        have := ih (r := { r1 with upOpen := !(false || false), steps := r1.steps ++ [r1.out.length - r.out.length] })
          (acc := acc ++ (m.step r.st x).2) (hstep.congr rfl rfl) (by simp)
        simp only [Bool.false_or] at this ⊢
        rw [this]
        simp [hst1, List.append_assoc]
      · -- downstream closed and the hot source was unsubscribed
        have hd : r1.downOpen = false := by
          simp only [Bool.and_eq_true, Bool.not_eq_true'] at hclose; exact hclose.2
        rw [fold_closed_out _ _ _ _ (by simp)]
        simp only
        rw [hstep.out, ← List.append_assoc, gate_append_of_term _ _ (hstep.term_of_closed hd)]
    · -- x is the source's own terminal
      have hg : gate (x :: xs) = [x] := by simp [gate, hx]
      rw [hg, fold_closed_out _ _ _ _ (by simp)]
      simp [Machine.emits, hstep.out]

theorem start_tracks (m : Machine σ α β) (sub : Ctx) :
    Tracks (m.start sub) (m.onSubscribe m.init sub).2 := by
  unfold Machine.start
  have : Tracks ({ st := (m.onSubscribe m.init sub).1 } : RunSt σ α β) [] := ⟨rfl, rfl⟩
  simpa using this.pushAll (m.onSubscribe m.init sub).2

@[simp] theorem start_st (m : Machine σ α β) (sub : Ctx) : (m.start sub).st = (m.onSubscribe m.init sub).1 := by
  simp [Machine.start]
@[simp] theorem start_upOpen (m : Machine σ α β) (sub : Ctx) : (m.start sub).upOpen = true := by
  simp [Machine.start]

/-- **Main run theorem.** What the final observer receives from `source |> op` is the gate of
    the subscribe-time emissions followed by the machine's emissions on the gated source
    script — for every raw script and both source modes. -/
theorem runOp_out (m : Machine σ α β) (mode : SrcMode) (sub : Ctx) (raw : List (Notif α))
    (hs : m.subscribes = true) :
    (runOp m mode sub raw).out =
      gate ((m.onSubscribe m.init sub).2 ++ m.emits (m.onSubscribe m.init sub).1 (gate raw)) := by
  unfold runOp
  simp only [hs, if_true]
  unfold RunSt.afterSubscribe
  split
  · -- a hot source unsubscribed right after Subscribe: nothing more can be delivered
    rename_i hc
    have hd : (m.start sub).downOpen = false := by
      simp only [Bool.and_eq_true, Bool.not_eq_true'] at hc; exact hc.2
    have ht := start_tracks m sub
    rw [fold_closed_out _ _ _ _ (by simp), gate_append_of_term _ _ (ht.term_of_closed hd)]
    exact ht.out
  · have := fold_out m mode raw (m.start sub) _ (start_tracks m sub) (start_upOpen m sub)
    simpa using this

theorem runOp_out_nosub (m : Machine σ α β) (mode : SrcMode) (sub : Ctx) (raw : List (Notif α))
    (hs : m.subscribes = false) :
    (runOp m mode sub raw).out = gate (m.onSubscribe m.init sub).2 := by
  unfold runOp
  simp only [hs]
  exact (start_tracks m sub).out

theorem runOp_out_gated (m : Machine σ α β) (mode : SrcMode) (sub : Ctx) (raw : List (Notif α)) :
    (runOp m mode sub raw).out = gate (runOp m mode sub raw).out := by
  cases hs : m.subscribes
  · rw [runOp_out_nosub m mode sub raw hs, gate_idem]
  · rw [runOp_out m mode sub raw hs, gate_idem]

/-- C01 for every operator machine, every raw script, both source modes. -/
theorem runOp_grammar (m : Machine σ α β) (mode : SrcMode) (sub : Ctx) (raw : List (Notif α)) :
    Grammar (runOp m mode sub raw).out := by
  rw [runOp_out_gated]; exact gate_grammar _

theorem mem_emits {m : Machine σ α β} {s : σ} {xs : List (Notif α)} {n : Notif β} (h : n ∈ m.emits s xs) :
    ∃ s', ∃ x ∈ xs, n ∈ (m.step s' x).2 := by
  induction xs generalizing s with
  | nil => cases h
  | cons x xs ih =>
    rcases List.mem_append.mp h with h | h
    · exact ⟨s, x, List.mem_cons_self .., h⟩
    · obtain ⟨s', y, hy, hn⟩ := ih h
      exact ⟨s', y, List.mem_cons_of_mem _ hy, hn⟩

/-- whatever is delivered was emitted at subscription, or in reaction to the script from the state
    the subscription left -/
theorem mem_runOp_out {m : Machine σ α β} {mode : SrcMode} {sub : Ctx} {raw : List (Notif α)} {n : Notif β}
    (h : n ∈ (runOp m mode sub raw).out) :
    n ∈ (m.onSubscribe m.init sub).2 ∨ n ∈ m.emits (m.onSubscribe m.init sub).1 (gate raw) := by
  cases hs : m.subscribes
  · rw [runOp_out_nosub m mode sub raw hs] at h
    exact .inl (mem_gate h)
  · rw [runOp_out m mode sub raw hs] at h
    exact List.mem_append.mp (mem_gate h)

end Ro
