/-
  RoProofs.MultiSample — SampleWhen / ThrottleWhen: machine = definition for every arrival order.
-/
import RoProofs.MultiUntil
namespace Ro.Multi
open Ro

variable {α : Type}

def sampleWhenStep (s : SampleSt α) (k : Nat) (n : Notif α) : SampleSt α × List (Notif α) :=
  match n with
  | .error c e => (s, [.error c e])
  | .complete c => (s, [.complete c])
  | .next c v =>
    if k = 0 then ({ s with last := some (c, v), hasValue := true }, [])
    else if s.hasValue then
      match s.last with
      | some (lc, lv) => ({ s with hasValue := false }, [.next lc lv])
      | none => ({ s with hasValue := false }, [])
    else (s, [])

theorem sampleWhen_emitOnly (cfg : Sources α) : EmitOnly (sampleWhenM (α := α)) cfg (fun s => s.comp.holds2) two sampleWhenStep where
  react := by
    intro rec r k n _ _
    rcases k with _ | k <;> cases n
    case succ.next =>
      cases hv : r.st.hasValue <;> cases hl : r.st.last <;>
        simp [sampleWhenM, sampleWhenStep, phases, phase, emits, act, hv, hl]
    all_goals rfl
  inv := by
    intro s k n _ hI
    unfold sampleWhenStep
    cases n <;> dsimp only <;> (repeat' split) <;> exact hI
  teardown := fun _ _ hI hk => hI.teardown hk

theorem sampleWhen_boot (cfg : Sources α) (hhot : ∀ k, cfg.sync k = false) (sub : Ctx) :
    Booted2 (bootSt (sampleWhenM (α := α)) cfg sub) ∧ (bootSt (sampleWhenM (α := α)) cfg sub).st.comp.holds2 ∧
    (bootSt (sampleWhenM (α := α)) cfg sub).st.hasValue = false := by
  have h := boot2 (sampleWhenM (α := α)) cfg hhot (·.comp) (fun s c => { s with comp := c }) (fun _ _ => rfl) 0 1 sub rfl rfl (.inl ⟨rfl, rfl⟩)
  rw [h.2]
  exact ⟨h.1, ⟨rfl, by simp, by simp⟩, rfl⟩

/-- the value the next tick would deliver -/
def SampleSt.pending (s : SampleSt α) : Option (Ctx × α) := if s.hasValue then s.last else none

theorem sampleWhen_emits (g : List (MEvent α)) (s : SampleSt α) :
    gate (emitsFrom sampleWhenStep s g) = Spec.sampleWhen s.pending g := by
  induction g generalizing s with
  | nil => simp [emitsFrom, Spec.sampleWhen]
  | cons e es ih =>
    obtain ⟨k, n⟩ := e
    cases n with
    | error c e => simp [emitsFrom, sampleWhenStep, Spec.sampleWhen, gate_cons_error]
    | complete c => simp [emitsFrom, sampleWhenStep, Spec.sampleWhen, gate_cons_complete]
    | next c v =>
      cases k with
      | zero => simp [emitsFrom, sampleWhenStep, Spec.sampleWhen, ih, SampleSt.pending]
      | succ k =>
        by_cases hv : s.hasValue = true
        · cases hl : s.last with
          | none => simp [emitsFrom, sampleWhenStep, hv, hl, Spec.sampleWhen, ih, SampleSt.pending]
          | some p =>
            obtain ⟨lc, lv⟩ := p
            simp [emitsFrom, sampleWhenStep, hv, hl, Spec.sampleWhen, ih, SampleSt.pending, gate_cons_next]
        · have hv' : s.hasValue = false := by simpa using hv
          simp [emitsFrom, sampleWhenStep, hv', Spec.sampleWhen, ih, SampleSt.pending]

/-- SampleWhen delivers what its definition assigns to the arrival order — every arrival order -/
theorem sampleWhen_spec (cfg : Sources α) (hhot : ∀ k, cfg.sync k = false) (sub : Ctx) (evs : List (MEvent α)) :
    (feedAll sampleWhenM cfg (bootSt sampleWhenM cfg sub) evs).out = Spec.sampleWhen none (heard2 evs) := by
  have hb := sampleWhen_boot cfg hhot sub
  rw [(emitOnly2_run (sampleWhen_emitOnly cfg) _ hb.1 hb.2.1 evs).1, sampleWhen_emits]
  simp [SampleSt.pending, hb.2.2]

def throttleWhenStep (s : ThrottleSt) (k : Nat) (n : Notif α) : ThrottleSt × List (Notif α) :=
  match n with
  | .error c e => (s, [.error c e])
  | .complete c => (s, [.complete c])
  | .next c v =>
    if k = 0 then (if s.send then ({ s with send := false }, [.next c v]) else (s, []))
    else ({ s with send := true }, [])

theorem throttleWhen_emitOnly (cfg : Sources α) : EmitOnly (throttleWhenM (α := α)) cfg (fun s => s.comp.holds2) two throttleWhenStep where
  react := by
    intro rec r k n _ _
    rcases k with _ | k <;> cases n
    case zero.next => cases h : r.st.send <;> simp [throttleWhenM, throttleWhenStep, phases, phase, emits, act, h]
    all_goals rfl
  inv := by
    intro s k n _ hI
    unfold throttleWhenStep
    cases n <;> dsimp only <;> (repeat' split) <;> exact hI
  teardown := fun _ _ hI hk => hI.teardown hk

theorem throttleWhen_boot (cfg : Sources α) (hhot : ∀ k, cfg.sync k = false) (sub : Ctx) :
    Booted2 (bootSt (throttleWhenM (α := α)) cfg sub) ∧ (bootSt (throttleWhenM (α := α)) cfg sub).st.comp.holds2 ∧
    (bootSt (throttleWhenM (α := α)) cfg sub).st.send = false := by
  have h := boot2 (throttleWhenM (α := α)) cfg hhot (·.comp) (fun s c => { s with comp := c }) (fun _ _ => rfl) 1 0 sub rfl rfl (.inr ⟨rfl, rfl⟩)
  rw [h.2]
  exact ⟨h.1, ⟨rfl, by simp, by simp⟩, rfl⟩

theorem throttleWhen_emits (g : List (MEvent α)) (s : ThrottleSt) :
    gate (emitsFrom throttleWhenStep s g) = Spec.throttleWhen s.send g := by
  induction g generalizing s with
  | nil => simp [emitsFrom, Spec.throttleWhen]
  | cons e es ih =>
    obtain ⟨k, n⟩ := e
    cases n with
    | error c e => simp [emitsFrom, throttleWhenStep, Spec.throttleWhen, gate_cons_error]
    | complete c => simp [emitsFrom, throttleWhenStep, Spec.throttleWhen, gate_cons_complete]
    | next c v =>
      cases k with
      | zero =>
        by_cases hs : s.send = true
        · simp [emitsFrom, throttleWhenStep, hs, Spec.throttleWhen, ih, gate_cons_next]
        · have hs' : s.send = false := by simpa using hs
          simp [emitsFrom, throttleWhenStep, hs', Spec.throttleWhen, ih]
      | succ k => simp [emitsFrom, throttleWhenStep, Spec.throttleWhen, ih]

/-- ThrottleWhen delivers what its definition assigns to the arrival order — every arrival order -/
theorem throttleWhen_spec (cfg : Sources α) (hhot : ∀ k, cfg.sync k = false) (sub : Ctx) (evs : List (MEvent α)) :
    (feedAll throttleWhenM cfg (bootSt throttleWhenM cfg sub) evs).out = Spec.throttleWhen false (heard2 evs) := by
  have hb := throttleWhen_boot cfg hhot sub
  rw [(emitOnly2_run (throttleWhen_emitOnly cfg) _ hb.1 hb.2.1 evs).1, throttleWhen_emits, hb.2.2]

end Ro.Multi
