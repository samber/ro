/-
  RoProofs.ChanFrom — invariants of the `From` transition system (FromChannel,
  operator_creation.go:340-364) of RoModel/Chan.lean, for every schedule of the user of the input
  channel, the FromChannel goroutine (both branches of its select) and the unsubscribing thread.
-/
import RoModel.Chan
import RoProofs.Gate
namespace Ro.Chan
open Ro
variable {α : Type}

def ufin : UPc α → Bool
  | .fin => true
  | _ => false

/-- the consumer has not yet seen the channel closed -/
def freading : FPc α → Bool
  | .sel | .hold _ | .complete => true
  | _ => false

def FCpcOK (s : FSt α) : Prop :=
  match s.cpc with
  | .complete => s.closed = true ∧ s.q = []
  | _ => True

def b2n (b : Bool) : Nat := if b then 1 else 0

def fAtClose : FPc α → Bool
  | .closeDone => true
  | _ => false

structure FInv (inp₀ : List α) (s : FSt α) : Prop where
  /-- FIFO, nothing lost, nothing invented -/
  cons : inp₀ = s.recvd ++ s.q ++ uhand s.upc ++ s.inp
  handledPre : s.recvd = s.handled ++ fhold s.cpc
  room : s.q.length ≤ s.cap
  closedFin : s.closed = true → ufin s.upc = true ∧ s.inp = []
  finClosed : ufin s.upc = true → s.willClose = true → s.closed = true
  cpc : FCpcOK s
  /-- while the downstream is open everything handled was delivered -/
  outOpen : s.downOpen = true → s.out = s.handled.map (Notif.next s.sub)
  /-- nobody unsubscribed and the downstream is closed: the stream was completed after everything
      had been read and delivered -/
  outDone : s.tpc = .cas → s.downOpen = false →
    s.out = s.handled.map (Notif.next s.sub) ++ [.complete s.sub] ∧ s.inp = [] ∧ s.q = [] ∧
      uhand s.upc = [] ∧ fhold s.cpc = []
  outPre : ∃ t, s.out ++ t = inp₀.map (Notif.next s.sub) ++ [.complete s.sub]
  readingOpen : s.tpc = .cas → freading s.cpc = true → s.downOpen = true
  leftClosed : s.tpc = .cas → freading s.cpc = false → s.downOpen = false
  doneExited : s.tpc = .cas → s.doneClosed = true → freading s.cpc = false
  /-- `close(done)` is guarded by the test-and-set of `Subscription.done` -/
  once : s.doneCloses + b2n (fAtClose s.cpc) + b2n (s.tpc == .closeDone) = b2n s.subDone
  doneSub : s.doneClosed = true → s.subDone = true
  /-- nobody unsubscribed: the goroutine stops reading only because the channel was closed -/
  leftCh : s.tpc = .cas → freading s.cpc = false → s.closed = true

theorem finv_init (cap : Nat) (sub : Ctx) (inp₀ : List α) (wc : Bool) : FInv inp₀ (finit cap sub inp₀ wc) := by
  constructor <;> simp [finit, uhand, fhold, ufin, freading, FCpcOK, b2n, fAtClose]

variable {inp₀ : List α} {s s' : FSt α}

@[simp] theorem b2n_true : b2n true = 1 := rfl
@[simp] theorem b2n_false : b2n false = 0 := rfl

theorem uhand_of_ufin {u : UPc α} (h : ufin u = true) : uhand u = [] := by
  cases u <;> first | rfl | cases h

/-- the invariant read at known program counters: what it says about `uhand`, `fhold`, `freading`
    … then computes, so that a step only has to name the fields whose content it changes -/
theorem FInv.at (h : FInv inp₀ s) {u : UPc α} {c : FPc α} {t : FTPc} (hu : s.upc = u) (hc : s.cpc = c)
    (ht : s.tpc = t) : FInv inp₀ { s with upc := u, cpc := c, tpc := t } := by
  cases s; cases hu; cases hc; cases ht; exact h

theorem FCpcOK.mono (h : FCpcOK s) (hc : s'.cpc = s.cpc)
    (hx : s.closed = true ∧ s.q = [] → s'.closed = true ∧ s'.q = []) : FCpcOK s' := by
  revert h; unfold FCpcOK; rw [hc]
  cases s.cpc with
  | complete => exact hx
  | _ => exact id

/-- everything read or held so far, then what is still on its way -/
theorem FInv.script (h : FInv inp₀ s) :
    inp₀ = s.handled ++ (fhold s.cpc ++ s.q ++ uhand s.upc ++ s.inp) := by
  rw [h.cons, h.handledPre]; simp only [List.append_assoc]

theorem finv_user (h : FInv inp₀ s) (hs : fstepUser s = some s') : FInv inp₀ s' := by
  unfold fstepUser at hs
  split at hs
  next hpc =>
    have h' := h.at hpc rfl rfl
    split at hs
    next v r hi =>
      cases hs
      exact { h' with
        cons := by simpa [hi, uhand] using h'.cons
        closedFin := fun hc => nomatch (h'.closedFin hc).1
        outDone := fun ht hd => by have := (h.outDone ht hd).2.1; rw [hi] at this; cases this }
    next hi =>
      split at hs <;> cases hs
      next hw =>
        exact { h' with
          closedFin := fun _ => ⟨rfl, hi⟩
          finClosed := fun _ _ => rfl
          cpc := h.cpc.mono rfl fun hx => ⟨rfl, hx.2⟩
          leftCh := fun _ _ => rfl }
      next hw =>
        exact { h' with
          closedFin := fun _ => ⟨rfl, hi⟩
          finClosed := fun _ e => absurd e hw }
  next v hpc =>
    -- a value in the user's hand: the channel is open, and nobody has completed the stream
    have h' := h.at hpc rfl rfl
    have open_ {P : Prop} (hc : s.closed = true) : P := nomatch (h'.closedFin hc).1
    have busy {P : Prop} (ht : s.tpc = .cas) (hd : s.downOpen = false) : P := nomatch (h'.outDone ht hd).2.2.2.1
    split at hs
    next hq =>
      cases hs
      exact { h' with
        cons := by simpa [uhand] using h'.cons
        room := by simpa using Nat.succ_le_of_lt hq
        closedFin := open_
        cpc := h.cpc.mono rfl fun hx => open_ hx.1
        outDone := busy }
    next hq =>
      split at hs <;> cases hs
      next hcp hq =>
        have h' := h.at hpc hcp rfl
        exact { h' with
          cons := by simpa [hq, uhand] using h'.cons
          handledPre := by simpa [fhold] using h'.handledPre
          closedFin := open_
          outDone := busy }
  next hpc => cases hs

theorem finv_cons (h : FInv inp₀ s) (hs : fstepCons s = some s') : FInv inp₀ s' := by
  unfold fstepCons at hs
  split at hs
  next hpc =>
    have h' := h.at rfl hpc rfl
    split at hs
    next v q' hq =>
      cases hs
      exact { h' with
        cons := by simpa [hq] using h'.cons
        handledPre := by simpa [fhold] using h'.handledPre
        room := Nat.le_of_succ_le (by simpa [hq] using h.room)
        outDone := fun ht hd => by have := (h.outDone ht hd).2.2.1; rw [hq] at this; cases this }
    next hq =>
      split at hs <;> cases hs
      next hcl => exact { h' with cpc := ⟨hcl, hq⟩ }
  next v hpc =>
    have h' := h.at rfl hpc rfl
    have hp : s.recvd = s.handled ++ [v] ++ [] := by simpa [fhold] using h'.handledPre
    split at hs <;> cases hs
    next hd =>
      exact { h' with
        handledPre := hp
        outOpen := fun _ => by simp [h.outOpen hd]
        outDone := fun _ e => Bool.noConfusion (hd.symm.trans e)
        outPre := ⟨(s.q ++ uhand s.upc ++ s.inp).map (Notif.next s.sub) ++ [.complete s.sub], by
          simp [h.outOpen hd, h'.script, fhold]⟩ }
    next hd =>
      exact { h' with
        handledPre := hp
        outOpen := fun e => absurd e hd
        outDone := fun ht hd => nomatch (h'.outDone ht hd).2.2.2.2 }
  next hpc =>
    -- the channel is closed and drained, so the user is finished: everything has been handled
    have h' := h.at rfl hpc rfl
    have hc : s.closed = true ∧ s.q = [] := h'.cpc
    have hu := h.closedFin hc.1
    have hall : inp₀ = s.handled := by simpa [fhold, hc.2, uhand_of_ufin hu.1, hu.2] using h'.script
    split at hs <;> cases hs
    next hd =>
      have ho : s.out ++ [.complete s.sub] = inp₀.map (Notif.next s.sub) ++ [.complete s.sub] := by
        rw [h.outOpen hd, hall]
      exact { h' with
        cpc := trivial
        outOpen := nofun
        outDone := fun _ _ => ⟨hall ▸ ho, hu.2, hc.2, uhand_of_ufin hu.1, rfl⟩
        outPre := ⟨[], by simp [ho]⟩
        readingOpen := fun _ e => nomatch e
        leftClosed := fun _ _ => rfl
        doneExited := fun _ _ => rfl
        leftCh := fun _ _ => hc.1 }
    next hd =>
      exact { h' with
        cpc := trivial
        outDone := fun ht _ => absurd (h'.readingOpen ht rfl) hd
        readingOpen := fun _ e => nomatch e
        leftClosed := fun _ _ => by simpa using hd
        doneExited := fun _ _ => rfl
        leftCh := fun _ _ => hc.1 }
  next hpc =>
    have h' := h.at rfl hpc rfl
    split at hs <;> cases hs
    next hsd => exact { h' with cpc := trivial }
    next hsd =>
      exact { h' with
        once := by have := h'.once; simp [fAtClose, hsd] at this ⊢; omega
        doneSub := fun _ => rfl }
  next hpc =>
    have h' := h.at rfl hpc rfl
    have ho := h'.once
    cases hs
    exact { h' with
      doneExited := fun _ _ => rfl
      once := by simp [fAtClose] at ho ⊢; omega
      doneSub := fun _ => by cases hsd : s.subDone <;> simp [fAtClose, hsd] at ho ⊢ }
  next hpc => cases hs

theorem finv_quit (h : FInv inp₀ s) (hs : fstepQuit s = some s') : FInv inp₀ s' := by
  unfold fstepQuit at hs
  split at hs
  next hpc =>
    split at hs <;> cases hs
    next hdc =>
      -- `done` is closed only by an unsubscription
      have h' := h.at rfl hpc rfl
      have unsub {P : Prop} (ht : s.tpc = .cas) : P := nomatch h'.doneExited ht hdc
      exact { h' with
        readingOpen := fun _ e => nomatch e
        leftClosed := fun ht => unsub ht
        doneExited := fun _ _ => rfl
        leftCh := fun ht => unsub ht }
  next => cases hs

/-- the unsubscribing thread beyond its CAS: what holds "as long as nobody unsubscribed" is void,
    the rest is the accounting of `close(done)` -/
theorem FInv.ctl (h : FInv inp₀ s) {t : FTPc} {d dc sd : Bool} {n : Nat} (hn : t ≠ .cas)
    (hd : d = true → s.downOpen = true)
    (ho : n + b2n (fAtClose s.cpc) + b2n (t == .closeDone) = b2n sd) (hs : dc = true → sd = true) :
    FInv inp₀ { s with downOpen := d, doneClosed := dc, doneCloses := n, subDone := sd, tpc := t } :=
  { h with
    outOpen := fun e => h.outOpen (hd e)
    outDone := fun e => absurd e hn
    readingOpen := fun e => absurd e hn
    leftClosed := fun e => absurd e hn
    doneExited := fun e => absurd e hn
    once := ho
    doneSub := hs
    leftCh := fun e => absurd e hn }

theorem finv_ctl (h : FInv inp₀ s) (hs : fstepCtl s = some s') : FInv inp₀ s' := by
  have ho := h.once
  unfold fstepCtl at hs
  split at hs
  next hpc =>
    rw [hpc] at ho
    split at hs <;> cases hs
    · exact h.ctl nofun nofun ho h.doneSub
    · exact h.ctl nofun id ho h.doneSub
  next hpc =>
    rw [hpc] at ho
    split at hs <;> cases hs
    next hsd => exact h.ctl nofun id ho h.doneSub
    next hsd => exact h.ctl nofun id (by simp [hsd] at ho ⊢; omega) fun _ => rfl
  next hpc =>
    rw [hpc] at ho
    cases hs
    exact h.ctl nofun id (by change _ + 1 = _ at ho; change _ + 0 = _; omega) fun _ => by
      cases hsd : s.subDone <;> simp [hsd] at ho ⊢
  next hpc => cases hs

theorem finv_step (h : FInv inp₀ s) (t : Tid) (hs : fstep s t = some s') : FInv inp₀ s' := by
  cases t
  · exact finv_user h hs
  · exact finv_cons h hs
  · exact finv_ctl h hs
  · exact finv_quit h hs

/-- what every enabled step preserves holds after every schedule -/
theorem frun_induction {P : FSt α → Prop} (hstep : ∀ {s s'} t, P s → fstep s t = some s' → P s') :
    ∀ (sched : List Tid) {s}, P s → P (frun s sched)
  | [], _, h => h
  | t :: ts, s, h => frun_induction hstep ts <| by
    unfold fnext
    cases hs : fstep s t
    · exact h
    · exact hstep t h hs

/-- the invariant holds after every schedule, for every capacity, input and closing behaviour -/
theorem finv_run (cap : Nat) (sub : Ctx) (inp₀ : List α) (wc : Bool) (sched : List Tid) :
    FInv inp₀ (frun (finit cap sub inp₀ wc) sched) :=
  frun_induction (fun t h => finv_step h t) sched (finv_init cap sub inp₀ wc)

/-- `sub` is the subscription context, never changed -/
theorem fstep_sub (t : Tid) (hs : fstep s t = some s') : s'.sub = s.sub := by
  cases t <;> simp only [fstep, fstepUser, fstepCons, fstepCtl, fstepQuit] at hs
  all_goals (repeat' split at hs) <;> cases hs <;> rfl

theorem frun_sub (s : FSt α) (sched : List Tid) : (frun s sched).sub = s.sub :=
  frun_induction (P := fun s' => s'.sub = s.sub) (fun t h hs => (fstep_sub t hs).trans h) sched rfl

/-! ### exactness -/

/-- nobody unsubscribed: every value whose delivery call has returned is in the trace, in order,
    and Complete is there iff the downstream was completed -/
theorem from_values (h : FInv inp₀ s) (ht : s.tpc = .cas) :
    s.out = s.handled.map (Notif.next s.sub) ++ (if s.downOpen then [] else [.complete s.sub]) := by
  cases hd : s.downOpen
  · simpa using (h.outDone ht hd).1
  · simpa using h.outOpen hd

/-- the user cannot move: finished, or a send that finds the channel full and no receiver waiting -/
theorem fuser_blocked (h : fstepUser s = none) :
    s.upc = .fin ∨ ∃ v, s.upc = .send v ∧ (s.cpc = .sel → s.q = [] → False) := by
  unfold fstepUser at h
  split at h
  · (repeat' split at h) <;> cases h
  next v hpc =>
    refine .inr ⟨v, hpc, fun hc hq => ?_⟩
    rw [hc, hq] at h
    split at h <;> cases h
  next hpc => exact .inl hpc

/-- the goroutine cannot move on the input channel: it waits at the empty open channel, or has left -/
theorem fcons_blocked (h : fstepCons s = none) :
    s.cpc = .sel ∧ s.q = [] ∧ s.closed = false ∨ s.cpc = .exited := by
  unfold fstepCons at h
  split at h
  next hpc =>
    split at h
    · cases h
    next hq => exact .inl ⟨hpc, hq, by simpa using h⟩
  next => split at h <;> cases h
  next => split at h <;> cases h
  next => split at h <;> cases h
  next => cases h
  next hpc => exact .inr hpc

/-- the user closes the channel, nobody unsubscribes, both goroutines have nothing left to do:
    exactly every value, in order, then Complete -/
theorem from_exact (h : FInv inp₀ s) (ht : s.tpc = .cas) (hw : s.willClose = true)
    (hp : fstep s .prod = none) (hc : fstep s .cons = none) :
    s.out = inp₀.map (Notif.next s.sub) ++ [.complete s.sub] := by
  -- waiting at the open channel the goroutine would meet the user's send, or its close
  have hx : s.cpc = .exited := by
    rcases fcons_blocked hc with ⟨hs, hq, hcl⟩ | hx
    · rcases fuser_blocked hp with hf | ⟨v, _, hb⟩
      · have := h.finClosed (by rw [hf]; rfl) hw
        rw [hcl] at this; cases this
      · exact (hb hs hq).elim
    · exact hx
  obtain ⟨ho, hi, hq, hu, hh⟩ := h.outDone ht (h.leftClosed ht (by rw [hx]; rfl))
  rw [ho, h.script, hh, hq, hu, hi]; simp

/-- the user abandons the channel (never closes it), nobody unsubscribes: everything received and
    handled so far has been delivered, and no Complete -/
theorem from_abandoned {inp₀ : List α} {s : FSt α} (h : FInv inp₀ s) (ht : s.tpc = .cas)
    (hcl : s.closed = false) : s.out = s.handled.map (Notif.next s.sub) := by
  have hr : freading s.cpc = true := by
    cases hf : freading s.cpc
    · have := h.leftCh ht hf
      rw [hcl] at this; exact Bool.noConfusion this
    · rfl
  exact h.outOpen (h.readingOpen ht hr)

/-- after `Unsubscribe()` (or the completion) nothing more is delivered, whatever is still read -/
theorem from_frozen {t : Tid} (hd : s.downOpen = false) (hs : fstep s t = some s') :
    s'.out = s.out ∧ s'.downOpen = false := by
  cases t <;> simp only [fstep, fstepUser, fstepCons, fstepCtl, fstepQuit, hd, Bool.false_eq_true, ↓reduceIte] at hs
  all_goals (repeat' split at hs) <;> cases hs <;> exact ⟨rfl, rfl⟩

/-- `close(done)` runs at most once -/
theorem from_done_once (h : FInv inp₀ s) : s.doneCloses ≤ 1 := by
  have := h.once
  have : b2n s.subDone ≤ 1 := by cases s.subDone <;> decide
  omega

/-- select on `done`: once the teardown has closed `done`, the goroutine can leave at its next
    select, whether or not the input channel ever delivers or closes (it is never stuck in a
    receive) -/
theorem from_quit_enabled (s : FSt α) (hd : s.doneClosed = true) (hc : s.cpc = .sel) :
    (fstep s .quit).isSome := by
  simp [fstep, fstepQuit, hc, hd]

/-- … and the unsubscribing thread is never blocked -/
theorem from_ctl_enabled (s : FSt α) (h : s.tpc ≠ .done) : (fstep s .ctl).isSome := by
  simp only [fstep, fstepCtl]
  cases ht : s.tpc <;> simp_all <;> split <;> simp

end Ro.Chan
