/-
  RoProofs.ResubGen — lemmas about the meaning of loop programs (RoModel/ResubGen.lean) shared by the
  per-operator proofs of RoProps/C15gen.lean: the fold from the list of happenings to a `Result` is a
  homomorphism; a `Next` callback that hands the value on, over the values of an attempt; the `return`
  after a loop.
-/
import RoModel.ResubGen
namespace Ro.Resub.Gen
open Ro Ro.Resub

theorem rawsOf_append (a b : List Out) : rawsOf (a ++ b) = rawsOf a ++ rawsOf b := by
  induction a with
  | nil => rfl
  | cons x xs ih => cases x <;> simp [rawsOf, ih]

theorem evsOf_append (a b : List Out) : evsOf (a ++ b) = evsOf a ++ evsOf b := by
  induction a with
  | nil => rfl
  | cons x xs ih => cases x <;> simp [evsOf, ih]

theorem attemptsOf_append (a b : List Out) : attemptsOf (a ++ b) = attemptsOf a + attemptsOf b := by
  induction a with
  | nil => simp [attemptsOf]
  | cons x xs ih =>
    cases x with
    | ev e => cases e <;> simp [attemptsOf, ih] <;> omega
    | _ => simp [attemptsOf, ih]

theorem evalsOf_append (a b : List Out) : evalsOf (a ++ b) = evalsOf a + evalsOf b := by
  induction a with
  | nil => simp [evalsOf]
  | cons x xs ih => cases x <;> simp [evalsOf, ih] <;> omega

@[simp] theorem rawsOf_feed (l : List (Notif Int)) : rawsOf (feedOuts l) = l := by
  induction l with
  | nil => rfl
  | cons x xs ih => simp [feedOuts, rawsOf] at *; exact ih

@[simp] theorem evsOf_feed (l : List (Notif Int)) : evsOf (feedOuts l) = [] := by
  induction l with
  | nil => rfl
  | cons x xs ih => simp [feedOuts, evsOf] at *; exact ih

@[simp] theorem attemptsOf_feed (l : List (Notif Int)) : attemptsOf (feedOuts l) = 0 := by
  induction l with
  | nil => rfl
  | cons x xs ih => simp [feedOuts, attemptsOf] at *; exact ih

@[simp] theorem evalsOf_feed (l : List (Notif Int)) : evalsOf (feedOuts l) = 0 := by
  induction l with
  | nil => rfl
  | cons x xs ih => simp [feedOuts, evalsOf] at *; exact ih

theorem feedOuts_append (a b : List (Notif Int)) : feedOuts (a ++ b) = feedOuts a ++ feedOuts b := by
  simp [feedOuts]

/-- a whole attempt in the list of happenings is `Result.after` -/
theorem ofOuts_round (raw : List (Notif Int)) (i : Nat) (rest : List Out) :
    Result.ofOuts (Out.ev (.s i) :: (feedOuts raw ++ Out.ev (.t i) :: rest)) = Result.after raw i (Result.ofOuts rest) := by
  simp [Result.ofOuts, Result.after, rawsOf, evsOf, attemptsOf, evalsOf, rawsOf_append, evsOf_append,
    attemptsOf_append, evalsOf_append]

/-- the same when the completion callback evaluates the loop condition (DoWhile) -/
theorem ofOuts_round_eval (raw : List (Notif Int)) (i : Nat) (rest : List Out) :
    Result.ofOuts (Out.ev (.s i) :: (feedOuts raw ++ Out.eval :: Out.ev (.t i) :: rest))
      = (Result.after raw i (Result.ofOuts rest)).evaluated := by
  simp [Result.ofOuts, Result.after, Result.evaluated, rawsOf, evsOf, attemptsOf, evalsOf, rawsOf_append, evsOf_append,
    attemptsOf_append, evalsOf_append]

theorem ofOuts_eval (rest : List Out) : Result.ofOuts (Out.eval :: rest) = (Result.ofOuts rest).evaluated := by
  simp [Result.ofOuts, Result.evaluated, rawsOf, evsOf, attemptsOf, evalsOf]

theorem feedB_append (b : Option Nat) (x y : List (Notif Int)) : feedB b (x ++ y) = feedB (feedB b x) y := by
  simp [feedB, List.foldl_append]

/-- a `Next` callback that is `destination.NextWithContext`, over the values of an attempt -/
theorem playVals_emit {σ : Type} (c : Ctx) (vals : List (Nat × Int)) : ∀ (l : σ) (w : World),
    playVals c (fun x v s => (Sig.normal, (s.1, { s.2 with b := pushB s.2.b (.next x v) }), [Out.raw (.next x v)])) vals (l, w)
      = ((l, { w with b := feedB w.b (vals.map (fun p => Notif.next (tagM c p.1) p.2)) }),
         feedOuts (vals.map (fun p => Notif.next (tagM c p.1) p.2))) := by
  induction vals with
  | nil => intro l w; rfl
  | cons p ps ih => intro l w; simp only [playVals, ih]; simp [feedB, feedOuts]

/-- a loop that ends normally or by `return`, followed by the final `return` -/
theorem loop_then_ret {σ : Type} (lp : Den σ) (s : St σ) (R : Result) (h1 : (lp s).1 = .normal ∨ (lp s).1 = .ret)
    (h2 : Result.ofOuts (lp s).2.2 = R) :
    ((dseq lp (fun s => (Sig.ret, s, [])) s).1, Result.ofOuts (dseq lp (fun s => (Sig.ret, s, [])) s).2.2) = (Sig.ret, R) := by
  unfold dseq
  revert h1 h2
  generalize lp s = r
  obtain ⟨g, s, o⟩ := r
  rintro (h1 | h1) h2 <;> simp at h1 <;> subst h1 <;> simp at h2 ⊢ <;> exact h2

end Ro.Resub.Gen
