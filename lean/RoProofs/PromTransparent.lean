/-
  RoProofs.PromTransparent — the instrumented composition delivers what the plain one delivers.

  `ChainSim msI msP T`: a relation `T` between the configurations of two chains that is kept by
  every operation a run performs and under which both chains deliver the same notifications up
  to the plugin's private context key. Three constructors:
    `sink`       the two final subscribers;
    `forwarder`  a stage in front of the left chain only, which forwards every notification
                 one-to-one (the counting / timing operators on non-nil contexts);
    `stage`      a pair of stages that cannot be told apart from outside the plugin's package
                 (`Pair`: same reactions up to the private key, never a nil context).
  `instrument` is `forwarder (stage (forwarder (… (forwarder sink))))`.
-/
import RoProofs.PromChain
import RoModel.Spec.Prom
namespace Ro.Prom
open Ro

variable {α : Type}

@[simp] theorem ctx_next (c : Ctx) (v : α) : (Notif.next c v).ctx = c := rfl
@[simp] theorem ctx_error (c : Ctx) (e : Err) : (Notif.error c e : Notif α).ctx = c := rfl
@[simp] theorem ctx_complete (c : Ctx) : (Notif.complete c : Notif α).ctx = c := rfl

@[simp] theorem eraseN_next (c : Ctx) (v : α) : eraseN (Notif.next c v) = Notif.next (eraseCtx c) v := rfl
@[simp] theorem eraseN_error (c : Ctx) (e : Err) : eraseN (Notif.error c e : Notif α) = Notif.error (eraseCtx c) e := rfl
@[simp] theorem eraseN_complete (c : Ctx) : eraseN (Notif.complete c : Notif α) = Notif.complete (eraseCtx c) := rfl

@[simp] theorem eraseN_isTerminal (n : Notif α) : (eraseN n).isTerminal = n.isTerminal := by
  cases n <;> rfl

@[simp] theorem eraseCtx_isNil (c : Ctx) : (eraseCtx c).isNil = c.isNil := rfl

theorem isTerminal_of_erase {n n' : Notif α} (h : eraseN n = eraseN n') : n.isTerminal = n'.isTerminal := by
  have := congrArg Notif.isTerminal h
  simpa using this

@[simp] theorem eraseL_nil : eraseL ([] : List (Notif α)) = [] := rfl
@[simp] theorem eraseL_cons (n : Notif α) (l) : eraseL (n :: l) = eraseN n :: eraseL l := rfl
@[simp] theorem eraseL_append (a b : List (Notif α)) : eraseL (a ++ b) = eraseL a ++ eraseL b := by
  simp [eraseL]

theorem eraseCtx_idem (c : Ctx) : eraseCtx (eraseCtx c) = eraseCtx c := by
  simp [eraseCtx, List.filter_filter]

@[simp] theorem eraseCtx_stamp (c : Ctx) : eraseCtx (stamp c) = eraseCtx c := by
  simp [eraseCtx, stamp, Ctx.tag, List.filter_append, List.filter]

/-- every notification of the list carries a non-nil context -/
def NonNil (l : List (Notif α)) : Prop := ∀ x ∈ l, x.ctx.isNil = false

@[simp] theorem nonNil_nil_iff : NonNil ([] : List (Notif α)) ↔ True := ⟨fun _ => trivial, fun _ _ h => nomatch h⟩

@[simp] theorem nonNil_cons_iff {x : Notif α} {l : List (Notif α)} :
    NonNil (x :: l) ↔ x.ctx.isNil = false ∧ NonNil l := List.forall_mem_cons

@[simp] theorem nonNil_append_iff {a b : List (Notif α)} : NonNil (a ++ b) ↔ NonNil a ∧ NonNil b :=
  List.forall_mem_append

theorem NonNil.take {l : List (Notif α)} (h : NonNil l) (k : Nat) : NonNil (l.take k) :=
  fun y hy => h y (List.mem_of_mem_take hy)
theorem NonNil.drop {l : List (Notif α)} (h : NonNil l) (k : Nat) : NonNil (l.drop k) :=
  fun y hy => h y (List.mem_of_mem_drop hy)

structure ChainSim (msI msP : List (AnyM α)) (T : Cfg msI → Cfg msP → Prop) : Prop where
  init : T (initCfg msI) (initCfg msP)
  head : ∀ cI cP, T cI cP → headOpen msI cI = headOpen msP cP
  all : ∀ cI cP, T cI cP → allOpen msI cI = allOpen msP cP
  push : ∀ hot cI cP n n', T cI cP → eraseN n = eraseN n' → n.ctx.isNil = false →
    T (push hot msI cI n).1 (push hot msP cP n').1 ∧
    eraseL (push hot msI cI n).2 = eraseL (push hot msP cP n').2
  settle : ∀ cI cP, T cI cP → T (settle msI cI) (settle msP cP)
  close : ∀ cI cP, T cI cP → T (closeAll msI cI) (closeAll msP cP)
  subPhase : ∀ sub cI cP, sub.isNil = false → T cI cP →
    T (subscribePhase sub msI cI).cfg (subscribePhase sub msP cP).cfg ∧
    eraseL (subscribePhase sub msI cI).out = eraseL (subscribePhase sub msP cP).out ∧
    (subscribePhase sub msI cI).reached = (subscribePhase sub msP cP).reached

variable {msI msP : List (AnyM α)} {T : Cfg msI → Cfg msP → Prop}

theorem ChainSim.feed (h : ChainSim msI msP T) (hot : Bool) (l l' : List (Notif α)) (cI : Cfg msI) (cP : Cfg msP)
    (hT : T cI cP) (hl : eraseL l = eraseL l') (hn : NonNil l) :
    T (feedAll (Prom.push hot msI) cI l).1 (feedAll (Prom.push hot msP) cP l').1 ∧
    eraseL (feedAll (Prom.push hot msI) cI l).2 = eraseL (feedAll (Prom.push hot msP) cP l').2 := by
  induction l generalizing l' cI cP with
  | nil =>
    cases l' with
    | nil => exact ⟨hT, rfl⟩
    | cons x xs => simp at hl
  | cons x xs ih =>
    cases l' with
    | nil => simp at hl
    | cons x' xs' =>
      simp only [eraseL_cons, List.cons.injEq] at hl
      rw [nonNil_cons_iff] at hn
      have hp := h.push hot cI cP x x' hT hl.1 hn.1
      have hr := ih xs' _ _ hp.1 hl.2 hn.2
      rw [feedAll_cons, feedAll_cons]
      exact ⟨hr.1, by simp only [eraseL_append, hp.2, hr.2]⟩

/-- the two final subscribers -/
theorem ChainSim.sink : ChainSim (α := α) [] [] (fun cI cP => SinkSt.gate cI = SinkSt.gate cP) where
  init := rfl
  head := fun _ _ h => h
  all := fun _ _ h => h
  push := by
    intro hot cI cP n n' hT hn _
    have hg : SinkSt.gate cI = SinkSt.gate cP := hT
    have ht := isTerminal_of_erase hn
    simp only [Prom.push, hg]
    split
    · exact ⟨by simp [ht], by simp [hn]⟩
    · exact ⟨hg, rfl⟩
  settle := fun _ _ h => h
  close := fun _ _ _ => rfl
  subPhase := fun _ _ _ _ h => ⟨h, rfl, rfl⟩

/-- a stage that forwards every notification one-to-one, keeping everything but the private
    key, as long as contexts are not nil -/
structure Forwarder (a : AnyM α) : Prop where
  subscribes : a.m.subscribes = true
  sub : ∀ s c, (a.m.onSubscribe s c).2 = []
  step : ∀ s n, n.ctx.isNil = false →
    ∃ n1, (a.m.step s n).2 = [n1] ∧ eraseN n1 = eraseN n ∧ n1.ctx.isNil = false

theorem headOpen_init (ms : List (AnyM α)) : headOpen ms (initCfg ms) = true := by
  cases ms <;> rfl

theorem ChainSim.forwarder (h : ChainSim msI msP T) {f : AnyM α} (hf : Forwarder f) :
    ChainSim (f :: msI) msP (fun cI cP => cI.1.gate = headOpen msP cP ∧ T cI.2 cP) where
  init := ⟨(headOpen_init msP).symm, h.init⟩
  head := fun _ _ hT => hT.1
  all := by
    intro cI cP hT
    simp only [allOpen, hT.1, h.all _ _ hT.2]
    cases ha : allOpen msP cP
    · simp
    · simp [allOpen_headOpen msP cP ha]
  push := by
    intro hot cI cP n n' hT hn hnil
    obtain ⟨hg, hT2⟩ := hT
    cases hgate : cI.1.gate
    · -- both closed
      have hcI : headOpen (f :: msI) cI = false := hgate
      rw [push_closed hot (f :: msI) cI n hcI, push_closed hot msP cP n' (by rw [← hg]; exact hgate)]
      exact ⟨⟨hg, hT2⟩, rfl⟩
    · obtain ⟨n1, h1, he, hnil1⟩ := hf.step cI.1.st n hnil
      simp only [Prom.push, hgate, if_true, h1, feedAll_cons, feedAll_nil, List.append_nil]
      have hp := h.push hot cI.2 cP n1 n' hT2 (he.trans hn) hnil1
      refine ⟨⟨?_, hp.1⟩, hp.2⟩
      -- the forwarder's gate follows the gate after it
      have hh := h.head _ _ hp.1
      rw [hh]
      have ht := isTerminal_of_erase hn
      cases hg' : headOpen msP (Prom.push hot msP cP n').1
      · cases hot
        · -- no teardown registered: the next gate closed because of a terminal
          have hopen : headOpen msP cP = true := by rw [← hg, hgate]
          have := push_headOpen_sync msP cP n' hopen
          rw [hg'] at this
          simp [ht, ← this]
        · simp
      · have := (push_headOpen_le hot msP cP n' hg').2
        simp [ht, this]
  settle := by
    intro cI cP hT
    refine ⟨?_, h.settle _ _ hT.2⟩
    simp only [Prom.settle]
    rw [h.head _ _ (h.settle _ _ hT.2), hT.1]
    cases hs : headOpen msP (Prom.settle msP cP)
    · simp
    · simp [settle_headOpen_le msP cP hs]
  close := by
    intro cI cP hT
    exact ⟨by simp [closeAll, closeAll_headOpen], h.close _ _ hT.2⟩
  subPhase := by
    intro sub cI cP hs hT
    have hb := h.subPhase sub cI.2 cP hs hT.2
    simp only [subscribePhase]
    cases hr : (subscribePhase sub msI cI.2).reached
    · simp only [Bool.false_eq_true, if_false]
      refine ⟨⟨?_, hb.1⟩, hb.2.1, ?_⟩
      · rw [subscribePhase_headOpen]; exact hT.1
      · rw [← hb.2.2, hr]
    · simp only [if_true, hf.sub, feedAll_nil, List.append_nil]
      refine ⟨⟨?_, hb.1⟩, hb.2.1, ?_⟩
      · rw [subscribePhase_headOpen]; exact hT.1
      · rw [← hb.2.2, hr, hf.subscribes]

/-- two stages that cannot be told apart from outside the plugin's package: related states
    react to notifications that agree up to the private key with emissions that agree up to the
    private key, and never emit a nil context -/
structure Pair (α : Type) : Type 1 where
  I : AnyM α
  P : AnyM α
  R : I.σ → P.σ → Prop
  init : R I.m.init P.m.init
  subscribes : I.m.subscribes = P.m.subscribes
  sub : ∀ s s' c, R s s' → c.isNil = false →
    R (I.m.onSubscribe s c).1 (P.m.onSubscribe s' c).1 ∧
    eraseL (I.m.onSubscribe s c).2 = eraseL (P.m.onSubscribe s' c).2 ∧ NonNil (I.m.onSubscribe s c).2
  step : ∀ s s' n n', R s s' → eraseN n = eraseN n' → n.ctx.isNil = false →
    R (I.m.step s n).1 (P.m.step s' n').1 ∧
    eraseL (I.m.step s n).2 = eraseL (P.m.step s' n').2 ∧ NonNil (I.m.step s n).2

theorem ChainSim.stage (h : ChainSim msI msP T) (p : Pair α) :
    ChainSim (p.I :: msI) (p.P :: msP)
      (fun cI cP => p.R cI.1.st cP.1.st ∧ cI.1.gate = cP.1.gate ∧ T cI.2 cP.2) where
  init := ⟨p.init, rfl, h.init⟩
  head := fun _ _ hT => hT.2.1
  all := by
    intro cI cP hT
    simp only [allOpen, hT.2.1, h.all _ _ hT.2.2]
  push := by
    intro hot cI cP n n' hT hn hnil
    obtain ⟨hR, hg, hT2⟩ := hT
    cases hgate : cP.1.gate
    · have hcP : headOpen (p.P :: msP) cP = false := hgate
      have hcI : headOpen (p.I :: msI) cI = false := by rw [← hgate, ← hg]; rfl
      rw [push_closed hot _ cI n hcI, push_closed hot _ cP n' hcP]
      exact ⟨⟨hR, hg, hT2⟩, rfl⟩
    · have hgI : cI.1.gate = true := by rw [hg, hgate]
      simp only [Prom.push, hgate, hgI, if_true]
      have hs := p.step cI.1.st cP.1.st n n' hR hn hnil
      have hfd := h.feed hot _ _ cI.2 cP.2 hT2 hs.2.1 hs.2.2
      refine ⟨⟨hs.1, ?_, hfd.1⟩, hfd.2⟩
      rw [h.head _ _ hfd.1, isTerminal_of_erase hn]
  settle := by
    intro cI cP hT
    refine ⟨hT.1, ?_, h.settle _ _ hT.2.2⟩
    simp only [Prom.settle]
    rw [h.head _ _ (h.settle _ _ hT.2.2), hT.2.1]
  close := fun cI cP hT => ⟨hT.1, rfl, h.close _ _ hT.2.2⟩
  subPhase := by
    intro sub cI cP hs hT
    obtain ⟨hR, hg, hT2⟩ := hT
    have hb := h.subPhase sub cI.2 cP.2 hs hT2
    simp only [subscribePhase]
    rw [← hb.2.2]
    cases hr : (subscribePhase sub msI cI.2).reached
    · exact ⟨⟨hR, hg, hb.1⟩, hb.2.1, rfl⟩
    · simp only [if_true]
      have hsb := p.sub cI.1.st cP.1.st sub hR hs
      have hfd := h.feed false _ _ _ _ hb.1 hsb.2.1 hsb.2.2
      exact ⟨⟨hsb.1, hg, hfd.1⟩, by simp only [eraseL_append, hb.2.1, hfd.2], p.subscribes⟩

theorem eraseL_take (l : List (Notif α)) (k : Nat) : eraseL (l.take k) = (eraseL l).take k := by
  simp [eraseL, List.map_take]
theorem eraseL_drop (l : List (Notif α)) (k : Nat) : eraseL (l.drop k) = (eraseL l).drop k := by
  simp [eraseL, List.map_drop]

/-- related chains deliver the same notifications (up to the private key), subscribe the source
    equally often and release it equally often: every source mode, script and cut -/
theorem ChainSim.run (h : ChainSim msI msP T) (hot : Bool) (sub : Ctx) (raw : List (Notif α)) (cut : Option Nat)
    (hs : sub.isNil = false) (hn : NonNil raw) :
    Spec.SameObservation (Prom.run hot sub msI raw cut) (Prom.run hot sub msP raw cut) := by
  have h0 := h.subPhase sub _ _ hs h.init
  cases hr : (subscribePhase sub msI (initCfg msI)).reached
  · rw [run_unreached hot sub msI raw cut hr, run_unreached hot sub msP raw cut (h0.2.2 ▸ hr)]
    exact ⟨h0.2.1, rfl, rfl⟩
  · have hr' : (subscribePhase sub msP (initCfg msP)).reached = true := h0.2.2 ▸ hr
    cases hot
    · rw [run_sync sub msI raw cut hr, run_sync sub msP raw cut hr']
      have hf := h.feed false raw raw _ _ h0.1 rfl hn
      have hst := h.settle _ _ hf.1
      refine ⟨by simp only [eraseL_append, h0.2.1, hf.2], rfl, ?_⟩
      simp only [h.all _ _ hst]
    · have hst := h.settle _ _ h0.1
      cases cut with
      | none =>
        rw [run_hot_none sub msI raw hr, run_hot_none sub msP raw hr']
        have hf := h.feed true raw raw _ _ hst rfl hn
        refine ⟨by simp only [eraseL_append, h0.2.1, hf.2], rfl, ?_⟩
        simp only [h.all _ _ hf.1]
      | some k =>
        rw [run_hot_some sub msI raw k hr, run_hot_some sub msP raw k hr']
        have hf1 := h.feed true (raw.take k) (raw.take k) _ _ hst rfl (hn.take k)
        have hf2 := h.feed true (raw.drop k) (raw.drop k) _ _ (h.close _ _ hf1.1) rfl (hn.drop k)
        exact ⟨by simp only [eraseL_append, h0.2.1, hf1.2, hf2.2], rfl, rfl⟩

theorem before_forwarder : Forwarder (AnyM.before (α := α)) where
  subscribes := rfl
  sub := fun _ _ => rfl
  step := by
    intro s n hn
    cases n with
    | next c v =>
      have hc : c.isNil = false := hn
      exact ⟨.next (stamp c) v, by simp [AnyM.before, Machine.step, beforeM, hc], by simp [eraseN], hc⟩
    | error c e => exact ⟨.error c e, rfl, rfl, hn⟩
    | complete c => exact ⟨.complete c, rfl, rfl, hn⟩

theorem proc_forwarder : Forwarder (AnyM.proc (α := α)) where
  subscribes := rfl
  sub := fun _ _ => rfl
  step := by
    intro s n hn
    cases n with
    | next c v =>
      have hc : c.isNil = false := hn
      exact ⟨.next (stamp c) v, by simp [AnyM.proc, Machine.step, procM, hc], by simp [eraseN], hc⟩
    | error c e => exact ⟨.error c e, rfl, rfl, hn⟩
    | complete c => exact ⟨.complete c, rfl, rfl, hn⟩

theorem after_forwarder : Forwarder (AnyM.after (α := α)) where
  subscribes := rfl
  sub := fun _ _ => rfl
  step := by
    intro s n hn
    cases n with
    | next c v => exact ⟨.next c v, rfl, rfl, hn⟩
    | error c e => exact ⟨.error c e, rfl, rfl, hn⟩
    | complete c => exact ⟨.complete c, rfl, rfl, hn⟩

def chainI : List (Pair α) → List (AnyM α)
  | [] => []
  | p :: ps => p.I :: chainI ps

def chainP : List (Pair α) → List (AnyM α)
  | [] => []
  | p :: ps => p.P :: chainP ps

theorem plain_sim (ws : List (Pair α)) : ∃ T, ChainSim (chainI ws) (chainP ws) T := by
  induction ws with
  | nil => exact ⟨_, ChainSim.sink⟩
  | cons p ps ih =>
    obtain ⟨T, h⟩ := ih
    exact ⟨_, h.stage p⟩

theorem tail_sim (ws : List (Pair α)) : ∃ T, ChainSim (tailI (chainI ws)) (chainP ws) T := by
  induction ws with
  | nil => exact ⟨_, ChainSim.sink.forwarder after_forwarder⟩
  | cons p ps ih =>
    obtain ⟨T, h⟩ := ih
    exact ⟨_, (h.forwarder proc_forwarder).stage p⟩

theorem instrument_sim (ws : List (Pair α)) : ∃ T, ChainSim (instrument (chainI ws)) (chainP ws) T := by
  obtain ⟨T, h⟩ := tail_sim ws
  exact ⟨_, h.forwarder before_forwarder⟩

end Ro.Prom
