/-
  RoProofs.ShareInv — the invariant `Inv` of RoModel.Share is preserved by every event
  (any configuration: connector, flags, synchronous prefixes).
-/
import RoProofs.ShareBasic
namespace Ro.Share
attribute [local simp] St.modGen_eq St.modSub_eq St.drop ite_else_same

/-! ### steps that only touch traces, stored values and the drop log -/

theorem sim_drop (x : Ev) (s : St) : Sim s (s.drop x) := by constructor <;> intros <;> rfl

theorem dNext_sim (i : Nat) (v : Int) (s : St) : Sim s (dNext i v s) := by
  unfold dNext
  split
  · constructor <;> intros <;> first | rfl | (simp only [St.modSub]; split <;> rfl)
  · exact sim_drop _ s

theorem foldl_sim {α : Type} (f : St → α → St) (hf : ∀ s a, Sim s (f s a)) (l : List α) (s : St) :
    Sim s (l.foldl f s) := foldl_rel Sim.refl Sim.trans f hf l s

theorem sim_modGen (g : Nat) (f : Gen → Gen)
    (hf : ∀ x, (f x).subj.status = x.subj.status ∧ (f x).subj.obs = x.subj.obs ∧ (f x).ssDone = x.ssDone ∧
      (f x).ssFins = x.ssFins ∧ (f x).pStatus = x.pStatus ∧ (f x).pDone = x.pDone ∧ (f x).pFin = x.pFin ∧
      (f x).upSub = x.upSub ∧ (f x).upTorn = x.upTorn) (s : St) : Sim s (s.modGen g f) :=
  have p : ∀ {α : Type} (q : Gen → α), (∀ x, q (f x) = q x) → ∀ k, q ((s.modGen g f).gens k) = q (s.gens k) := fun q hq k => by
    simp only [St.modGen]; split <;> first | exact hq _ | rfl
  { refCount := rfl, subject := rfl, sourceSubscription := rfl, flagE := rfl, flagC := rfl, ngens := rfl, nsubs := rfl,
    status := fun _ => rfl, done := fun _ => rfl, delFin := fun _ => rfl, tearFin := fun _ => rfl,
    gStatus := p (·.subj.status) fun x => (hf x).1, gObs := p (·.subj.obs) fun x => (hf x).2.1,
    ssDone := p (·.ssDone) fun x => (hf x).2.2.1, ssFins := p (·.ssFins) fun x => (hf x).2.2.2.1,
    pStatus := p (·.pStatus) fun x => (hf x).2.2.2.2.1, pDone := p (·.pDone) fun x => (hf x).2.2.2.2.2.1,
    pFin := p (·.pFin) fun x => (hf x).2.2.2.2.2.2.1, upSub := p (·.upSub) fun x => (hf x).2.2.2.2.2.2.2.1,
    upTorn := p (·.upTorn) fun x => (hf x).2.2.2.2.2.2.2.2 }

theorem subjStore_sim (conn : Conn) (g : Nat) (v : Int) (s : St) : Sim s (subjStore conn g v s) := by
  cases conn <;> first | exact Sim.refl s | (unfold subjStore; exact sim_modGen g _ (fun _ => by simp) s)

theorem bcastNext_sim (g : Nat) (v : Int) (s : St) : Sim s (bcastNext g v s) :=
  foldl_sim _ (fun s i => dNext_sim i v s) _ s

theorem subjBuffer_sim (conn : Conn) (g : Nat) (v : Int) (s : St) : Sim s (subjBuffer conn g v s) := by
  cases conn
  · exact Sim.refl s
  · exact Sim.refl s
  · unfold subjBuffer
    simp only []
    split
    · exact (sim_drop _ s).trans (sim_modGen g _ (fun _ => by simp) _)
    · exact sim_modGen g _ (fun _ => by simp) s
  · unfold subjBuffer
    exact sim_modGen g _ (fun _ => by simp) s

theorem subjNext_sim (conn : Conn) (g : Nat) (v : Int) (s : St) : Sim s (subjNext conn g v s) := by
  unfold subjNext
  split
  · exact ((subjStore_sim conn g v s).trans (bcastNext_sim g v _)).trans (subjBuffer_sim conn g v _)
  · exact sim_drop _ s

theorem pNext_sim (cfg : Cfg) (g : Nat) (v : Int) (s : St) : Sim s (pNext cfg g v s) := by
  unfold pNext
  split
  · exact subjNext_sim _ g v s
  · exact sim_drop _ s

theorem subjReplay_sim (conn : Conn) (g i : Nat) (s : St) : Sim s (subjReplay conn g i s) := by
  cases conn <;> first | exact Sim.refl s | exact foldl_sim _ (fun s v => dNext_sim i v s) _ s

theorem subjLast_sim (conn : Conn) (g i : Nat) (s : St) : Sim s (subjLast conn g i s) := by
  cases conn <;> first | exact Sim.refl s | exact dNext_sim i _ s

/-- the proxy's `Subscription.Unsubscribe` in one piece: the upstream teardown runs iff it is registered -/
theorem pSubnUnsub_eq (g : Nat) (s : St) :
    pSubnUnsub g s = if (s.gens g).pDone then s
      else s.modGen g fun x => { x with pDone := true, pFin := false, upTorn := x.pFin || x.upTorn } := by
  unfold pSubnUnsub
  split
  · rfl
  · split <;> simp <;> funext k <;> split <;> simp_all

/-- on a generation whose `sourceSubscription` is already done and that is not the shared one,
    `reset` changes nothing -/
theorem reset_stale {s : St} {g : Nat} (h1 : (s.gens g).ssDone = true) (h2 : s.subject ≠ some g)
    (h3 : s.sourceSubscription ≠ some g) : reset g s = s := by
  simp [reset, ssUnsub, h1, clearShared, h2, h3]

/-- effect of `reset g` on the live current generation: upstream released, shared pair cleared -/
def resetState (g : Nat) (s : St) : St :=
  { s with subject := none, sourceSubscription := none,
           gens := fun k => if k = g then { (s.gens g) with ssDone := true, ssFins := [], pStatus := 2, pDone := true, pFin := false, upTorn := true } else s.gens k }

theorem reset_active {s : St} {g : Nat} (h1 : (s.gens g).pStatus = 0) (h2 : (s.gens g).pDone = false)
    (h3 : (s.gens g).pFin = true) (h4 : (s.gens g).ssFins = [g]) (h5 : (s.gens g).ssDone = false)
    (h6 : s.subject = some g) (h7 : s.sourceSubscription = some g) : reset g s = resetState g s := by
  simp [reset, clearShared, ssUnsub, h5, h4, pUnsubscribe, h1, pSubnUnsub, h2, h3, h6, h7, resetState]

/-! ### a downstream subscriber of generation g ends or leaves -/

/-- subscriber `i` (open, attached to `g`) after its finalizers ran, up to the reset test -/
def closeState (c : Nat) (tr : List Ev) (i g : Nat) (s : St) : St :=
  { s with subs := fun k => if k = i then { status := c, trace := tr, done := true, delFin := none, tearFin := none } else s.subs k,
           gens := fun k => if k = g then { (s.gens g) with subj := { (s.gens g).subj with obs := (s.gens g).subj.obs.erase i } } else s.gens k,
           refCount := s.refCount - 1 }

theorem dUnsubscribe_open {s : St} {i g : Nat} (fl : Flags) (ho : SubOpen g (s.subs i)) :
    dUnsubscribe fl i s = zeroReset fl g (closeState 2 (s.subs i).trace i g s) := by
  simp [dUnsubscribe, ho.status, dSubnUnsub, ho.done, ho.delFin, ho.tearFin, runDel, runTear, teardownT, casClose, decRef, closeState]

theorem dTerm_open {s : St} {i g : Nat} (fl : Flags) (t : Ev) (ho : SubOpen g (s.subs i)) :
    dTerm fl i t s = zeroReset fl g (closeState t.code ((s.subs i).trace ++ [t]) i g s) := by
  have hc := t.code_ne_zero
  simp [dTerm, dDeliver, ho.status, dSubnUnsub, ho.done, ho.delFin, ho.tearFin, runDel, runTear, teardownT, casClose, decRef, closeState, hc]

theorem dTerm_closed {s : St} {i : Nat} (fl : Flags) (t : Ev) (hc : SubClosed (s.subs i)) :
    dTerm fl i t s = s.drop t := by
  simp [dTerm, dDeliver, hc.status, dSubnUnsub, hc.done]

theorem openSubs_closeState {s : St} {c : Nat} {tr : List Ev} {i g : Nat} (hc : c ≠ 0) :
    openSubs (closeState c tr i g s) = (openSubs s).erase i := by
  apply openSubs_close (s := s) (s' := closeState c tr i g s) (i := i) rfl
  · simp [closeState, hc]
  · intro k hk
    simp [closeState, hk]

theorem length_erase_open {s : St} {i : Nat} (hlt : i < s.nsubs) (hs : (s.subs i).status = 0) :
    ((openSubs s).erase i).length + 1 = (openSubs s).length := by
  have hmem : i ∈ openSubs s := mem_openSubs.mpr ⟨hlt, hs⟩
  rw [List.length_erase_of_mem hmem]
  have := List.length_pos_of_mem hmem
  omega

/-- leaving without reset: the generation stays active -/
theorem inv_closeState {P : Pend} {s : St} {c : Nat} {tr : List Ev} {i g : Nat} (hi : Inv P s) (hc : c ≠ 0) (hlt : i < s.nsubs)
    (hsub : s.subject = some g) (ha : GenActive P s g) (hs : (s.subs i).status = 0) (hna : P.ua ≠ some i) :
    Inv P (closeState c tr i g s) ∧ GenActive P (closeState c tr i g s) g := by
  have hos := openSubs_closeState (s := s) (c := c) (tr := tr) (i := i) (g := g) hc
  have hlen := length_erase_open hlt hs
  have hsi : (closeState c tr i g s).subs i = { status := c, trace := tr, done := true, delFin := none, tearFin := none } :=
    if_pos rfl
  have hother : ∀ k, k ≠ i → (closeState c tr i g s).subs k = s.subs k := fun k hk => if_neg hk
  have hgother : ∀ k, k ≠ g → (closeState c tr i g s).gens k = s.gens k := fun k hk => if_neg hk
  have hact : GenActive P (closeState c tr i g s) g := by
    refine ha.of_obs (o := (s.gens g).subj.obs.erase i) (if_pos rfl) rfl rfl (by rw [hos, ha.obs]) (Nat.le_refl _)
      (fun A hA _ => hother A (fun h => hna (by rw [← h]; exact hA))) (fun k hk hks hne => ?_)
    by_cases hki : k = i
    · subst hki; rw [hsi] at hks; exact absurd hks hc
    · rw [hother k hki] at hks ⊢
      exact ha.subs k hk hks hne
  refine ⟨Inv.of_cur hsub hi.shared (hi.cur g hsub).1 (Or.inl hact) ?_ (fun k hk hkg => ?_) ?_ hi.ugb
    (fun A hA => (hi.uab A hA).1.trans hsub), hact⟩
  · intro k hk hks
    by_cases hki : k = i
    · subst hki; rw [hsi]; exact ⟨hc, rfl, rfl, rfl⟩
    · rw [hother k hki] at hks ⊢
      exact hi.closed k hk hks
  · rw [hgother k hkg]
    exact hi.rest hsub hk hkg
  · rw [hos]
    have := hi.count
    simp only [closeState]
    omega

/-- the last one leaves and `ResetOnRefCountZero` fires: upstream released -/
theorem inv_resetState {P : Pend} {s : St} {g : Nat} (hi : Inv P s) (hsub : s.subject = some g) (ha : GenActive P s g)
    (hfin : P.ug ≠ some g) (hno : openSubs s = []) : Inv P (resetState g s) := by
  have hua := hi.ua_none hsub hfin
  refine Inv.of_none rfl rfl ha.flagE ha.flagC hno hi.closed (fun k hk => ?_)
    (by have := hi.count; rw [hno] at this; simp at this; exact this) hi.ugb hua
  by_cases hkg : k = g
  · subst hkg
    refine ⟨fun _ => ?_, fun hu => absurd hu hfin⟩
    constructor <;> simp [resetState]
    · exact ha.upSub
    · rw [ha.obs, hno]
  · have : (resetState g s).gens k = s.gens k := if_neg hkg
    rw [this]
    exact ⟨(hi.rest hsub hk hkg).1, fun hu => ((hi.rest hsub hk hkg).2 hu).1⟩

theorem zeroReset_noop {fl : Flags} {g : Nat} {s : St} (h : (fl.onZero && s.refCount == 0 && !s.flagE && !s.flagC) = false) :
    zeroReset fl g s = s := by
  simp [zeroReset, h]

/-- an open subscriber is attached to the live current generation -/
theorem open_active {P : Pend} {s : St} (hi : Inv P s) {i : Nat} (hlt : i < s.nsubs) (hs : (s.subs i).status = 0) :
    ∃ g, s.subject = some g ∧ GenActive P s g := by
  have hmem : i ∈ openSubs s := mem_openSubs.mpr ⟨hlt, hs⟩
  cases hsub : s.subject with
  | none => rw [(hi.idle hsub).2.2] at hmem; cases hmem
  | some g =>
    rcases (hi.cur g hsub).2 with ha | hl
    · exact ⟨g, rfl, ha⟩
    · rw [hl.noOpen] at hmem; cases hmem

/-- an open subscriber leaves: it is closed; if no reference is left and `ResetOnRefCountZero` is
    set, the generation — live, since the subscriber was open — is reset as well -/
theorem dUnsubscribe_cases (fl : Flags) {P : Pend} {s : St} {i : Nat} (hi : Inv P s) (hlt : i < s.nsubs)
    (hs : (s.subs i).status = 0) (hna : P.ua ≠ some i) :
    ∃ g, s.subject = some g ∧ Inv P (closeState 2 (s.subs i).trace i g s) ∧ GenActive P (closeState 2 (s.subs i).trace i g s) g ∧
      ((dUnsubscribe fl i s = closeState 2 (s.subs i).trace i g s ∧ (fl.onZero = false ∨ s.refCount - 1 ≠ 0)) ∨
       (dUnsubscribe fl i s = resetState g (closeState 2 (s.subs i).trace i g s) ∧ fl.onZero = true ∧ s.refCount - 1 = 0 ∧
          openSubs (closeState 2 (s.subs i).trace i g s) = [] ∧ P.ug ≠ some g)) := by
  obtain ⟨g, hsub, ha⟩ := open_active hi hlt hs
  obtain ⟨hi', ha'⟩ := inv_closeState (c := 2) (tr := (s.subs i).trace) hi (by decide) hlt hsub ha hs hna
  refine ⟨g, hsub, hi', ha', ?_⟩
  rw [dUnsubscribe_open fl (ha.subs i hlt hs hna)]
  unfold zeroReset
  split
  next hcond =>
    simp at hcond
    have hrc : s.refCount - 1 = 0 := hcond.1.1.2
    have hcount := hi'.count
    have hno : openSubs (closeState 2 (s.subs i).trace i g s) = [] := by
      apply List.eq_nil_of_length_eq_zero
      have : (closeState 2 (s.subs i).trace i g s).refCount = s.refCount - 1 := rfl
      omega
    have hfin : P.ug ≠ some g := by
      intro he
      obtain ⟨_, _, A, _, hltA, hu⟩ := ha'.unf he
      have : A ∈ openSubs (closeState 2 (s.subs i).trace i g s) := mem_openSubs.mpr ⟨hltA, hu.status⟩
      rw [hno] at this; cases this
    exact Or.inr ⟨reset_active ha'.pStatus ha'.pDone (ha'.fin hfin).1 (ha'.fin hfin).2 ha'.ssDone hsub (hi'.shared.trans hsub),
      hcond.1.1.1, hrc, hno, hfin⟩
  next hcond =>
    refine Or.inl ⟨rfl, ?_⟩
    cases hz : fl.onZero
    · exact Or.inl rfl
    · refine Or.inr fun h0 => hcond ?_
      have : (closeState 2 (s.subs i).trace i g s).refCount = 0 := h0
      simp [hz, this, ha'.flagE, ha'.flagC]

theorem inv_dUnsubscribe (fl : Flags) {P : Pend} {s : St} (hi : Inv P s) (i : Nat) (hlt : i < s.nsubs) (hna : P.ua ≠ some i) :
    Inv P (dUnsubscribe fl i s) := by
  by_cases hs : (s.subs i).status = 0
  · obtain ⟨g, hsub, hi', ha', ⟨e, _⟩ | ⟨e, _, _, hno, hfin⟩⟩ := dUnsubscribe_cases fl hi hlt hs hna
    · rw [e]; exact hi'
    · rw [e]; exact inv_resetState hi' hsub ha' hfin hno
  · simp [dUnsubscribe, hs]
    exact hi

/-! ### a source terminal reaches the proxy of the live current generation -/

/-- `reset g` from inside the proxy's own terminal callback: the proxy is already closed, so the
    `sourceSubscription`'s finalizer finds nothing to do; the shared pair is cleared -/
def termResetState (g : Nat) (s : St) : St :=
  { s with subject := none, sourceSubscription := none,
           gens := fun k => if k = g then { (s.gens g) with ssDone := true, ssFins := [] } else s.gens k }

theorem reset_terminated {s : St} {g : Nat} (h1 : (s.gens g).pStatus ≠ 0)
    (h4 : (s.gens g).ssFins = [g] ∨ (s.gens g).ssFins = []) (h5 : (s.gens g).ssDone = false)
    (h6 : s.subject = some g) (h7 : s.sourceSubscription = some g) : reset g s = termResetState g s := by
  rcases h4 with h4 | h4 <;> simp [reset, clearShared, ssUnsub, h5, h4, pUnsubscribe, h1, h6, h7, termResetState]

/-- the pending creator (Share's teardown not registered) is closed: like `closeState`, but its
    reference is not given back -/
def closeStateU (c : Nat) (tr : List Ev) (i g : Nat) (s : St) : St :=
  { closeState c tr i g s with refCount := s.refCount }

theorem dTerm_openU {s : St} {i g : Nat} (fl : Flags) (t : Ev) (ho : SubOpenU g (s.subs i)) :
    dTerm fl i t s = closeStateU t.code ((s.subs i).trace ++ [t]) i g s := by
  simp [dTerm, dDeliver, ho.status, dSubnUnsub, ho.done, ho.delFin, ho.tearFin, runDel, runTear, closeStateU, closeState]

/-- references held by the pending creator `xa` once it has been closed -/
def pendClosed (xa : Option Nat) (s : St) : Nat :=
  match xa with
  | some A => if (s.subs A).status = 0 then 0 else 1
  | none => 0

/-- what holds while the subject of generation `g` broadcasts a terminal; `xa` = the pending creator
    of `g` (registered, its teardown not), `c` = references pending from elsewhere -/
structure TInv (xa : Option Nat) (c : Nat) (g : Nat) (s : St) : Prop where
  shared : s.sourceSubscription = s.subject
  quiet : (s.flagE = true ∨ s.flagC = true) ∨ ((s.gens g).ssDone = true ∧ s.subject = none)
  closed : ∀ i, i < s.nsubs → (s.subs i).status ≠ 0 → SubClosed (s.subs i)
  opened : ∀ i, i < s.nsubs → (s.subs i).status = 0 → xa ≠ some i → SubOpen g (s.subs i)
  openedU : ∀ A, xa = some A → A < s.nsubs ∧ ((s.subs A).status = 0 → SubOpenU g (s.subs A))
  obs : (s.gens g).subj.obs = openSubs s
  count : s.refCount = ((openSubs s).length + c + pendClosed xa s : Nat)

/-- what a terminal delivery leaves alone -/
structure TFrame (g : Nat) (s s' : St) : Prop where
  subject : s'.subject = s.subject
  sourceSubscription : s'.sourceSubscription = s.sourceSubscription
  flagE : s'.flagE = s.flagE
  flagC : s'.flagC = s.flagC
  ngens : s'.ngens = s.ngens
  nsubs : s'.nsubs = s.nsubs
  gens : ∀ k, k ≠ g → s'.gens k = s.gens k
  ssDone : (s'.gens g).ssDone = (s.gens g).ssDone
  ssFins : (s'.gens g).ssFins = (s.gens g).ssFins
  pStatus : (s'.gens g).pStatus = (s.gens g).pStatus
  pDone : (s'.gens g).pDone = (s.gens g).pDone
  pFin : (s'.gens g).pFin = (s.gens g).pFin
  upSub : (s'.gens g).upSub = (s.gens g).upSub
  upTorn : (s'.gens g).upTorn = (s.gens g).upTorn
  gStatus : (s'.gens g).subj.status = (s.gens g).subj.status
  mono : ∀ k, (s.subs k).status ≠ 0 → (s'.subs k).status ≠ 0

theorem TFrame.refl (g : Nat) (s : St) : TFrame g s s := by
  constructor <;> intros <;> first | rfl | assumption

theorem TFrame.trans {g : Nat} {a b c : St} (h1 : TFrame g a b) (h2 : TFrame g b c) : TFrame g a c where
  subject := h2.subject.trans h1.subject
  sourceSubscription := h2.sourceSubscription.trans h1.sourceSubscription
  flagE := h2.flagE.trans h1.flagE
  flagC := h2.flagC.trans h1.flagC
  ngens := h2.ngens.trans h1.ngens
  nsubs := h2.nsubs.trans h1.nsubs
  gens := fun k hk => (h2.gens k hk).trans (h1.gens k hk)
  ssDone := h2.ssDone.trans h1.ssDone
  ssFins := h2.ssFins.trans h1.ssFins
  pStatus := h2.pStatus.trans h1.pStatus
  pDone := h2.pDone.trans h1.pDone
  pFin := h2.pFin.trans h1.pFin
  upSub := h2.upSub.trans h1.upSub
  upTorn := h2.upTorn.trans h1.upTorn
  gStatus := h2.gStatus.trans h1.gStatus
  mono := fun k hk => h2.mono k (h1.mono k hk)

theorem zeroReset_quiet {fl : Flags} {g : Nat} {s : St} (hsh : s.sourceSubscription = s.subject)
    (hq : (s.flagE = true ∨ s.flagC = true) ∨ ((s.gens g).ssDone = true ∧ s.subject = none)) :
    zeroReset fl g s = s := by
  unfold zeroReset
  split
  next hcond =>
    simp at hcond
    rcases hq with hf | ⟨hd, hn⟩
    · rcases hf with hf | hf <;> simp [hf] at hcond
    · exact reset_stale hd (by simp [hn]) (by simp [hsh, hn])
  next => rfl

/-- the broadcast closes the open subscriber `i`; `r` is the reference count afterwards: one less —
    unless `i` is the pending creator, whose reference stays counted -/
theorem tinv_close {xa : Option Nat} {c g : Nat} {s : St} (h : TInv xa c g s) {i : Nat} (hlt : i < s.nsubs)
    (hs : (s.subs i).status = 0) {c' : Nat} (hc : c' ≠ 0) (tr : List Ev) (r : Int)
    (hr : r = if xa = some i then s.refCount else s.refCount - 1) :
    TInv xa c g { closeState c' tr i g s with refCount := r } ∧ TFrame g s { closeState c' tr i g s with refCount := r } ∧
      (({ closeState c' tr i g s with refCount := r } : St).subs i).status ≠ 0 := by
  have hlen := length_erase_open hlt hs
  have hsi : ({ closeState c' tr i g s with refCount := r } : St).subs i =
      { status := c', trace := tr, done := true, delFin := none, tearFin := none } := if_pos rfl
  have hother : ∀ k, k ≠ i → ({ closeState c' tr i g s with refCount := r } : St).subs k = s.subs k :=
    fun k hk => if_neg hk
  have hos : openSubs { closeState c' tr i g s with refCount := r } = (openSubs s).erase i :=
    openSubs_close (s := s) (i := i) rfl (by rw [hsi]; exact hc) (fun k hk => by rw [hother k hk])
  have hg : ({ closeState c' tr i g s with refCount := r } : St).gens g =
      { (s.gens g) with subj := { (s.gens g).subj with obs := (s.gens g).subj.obs.erase i } } := if_pos rfl
  refine ⟨⟨h.shared, ?_, ?_, ?_, ?_, ?_, ?_⟩, ?_, by rw [hsi]; exact hc⟩
  · rcases h.quiet with hf | ⟨hd, hn⟩
    · exact Or.inl hf
    · exact Or.inr ⟨by rw [hg]; exact hd, hn⟩
  · intro k hk hks
    by_cases hki : k = i
    · subst hki; rw [hsi]; exact ⟨hc, rfl, rfl, rfl⟩
    · rw [hother k hki] at hks ⊢
      exact h.closed k hk hks
  · intro k hk hks hne
    by_cases hki : k = i
    · subst hki; rw [hsi] at hks; exact absurd hks hc
    · rw [hother k hki] at hks ⊢
      exact h.opened k hk hks hne
  · intro A hA
    by_cases hAi : A = i
    · subst hAi
      exact ⟨hlt, fun h0 => by rw [hsi] at h0; exact absurd h0 hc⟩
    · rw [hother A hAi]
      exact h.openedU A hA
  · rw [hos, hg, ← h.obs]
  · -- the pending creator's reference moves from the open subscribers to `pendClosed`
    rw [hos]
    have hcount := h.count
    by_cases hxa : xa = some i
    · have hp0 : pendClosed xa s = 0 := by simp [pendClosed, hxa, hs]
      have hp1 : pendClosed xa { closeState c' tr i g s with refCount := r } = 1 := by simp [pendClosed, hxa, closeState, hc]
      rw [hp1]
      rw [hp0] at hcount
      simp only [hr, if_pos hxa]
      omega
    · have hp : pendClosed xa { closeState c' tr i g s with refCount := r } = pendClosed xa s := by
        cases hx : xa with
        | none => rfl
        | some A =>
          have hAi : A ≠ i := fun hh => hxa (by rw [hx, hh])
          simp only [pendClosed]
          rw [hother A hAi]
      rw [hp]
      simp only [hr, if_neg hxa]
      omega
  · refine ⟨rfl, rfl, rfl, rfl, rfl, rfl, fun k hk => if_neg hk, ?_, ?_, ?_, ?_, ?_, ?_, ?_, ?_, fun k hk => ?_⟩
    iterate 8 rw [hg]
    by_cases hki : k = i
    · subst hki; rw [hsi]; exact hc
    · rw [hother k hki]; exact hk

theorem dTerm_tinv {fl : Flags} {xa : Option Nat} {c : Nat} {g : Nat} {s : St} (t : Ev) (h : TInv xa c g s)
    (i : Nat) (hlt : i < s.nsubs) :
    TInv xa c g (dTerm fl i t s) ∧ TFrame g s (dTerm fl i t s) ∧ ((dTerm fl i t s).subs i).status ≠ 0 := by
  by_cases hs : (s.subs i).status = 0
  · by_cases hxa : xa = some i
    · -- the pending creator: closed without giving its reference back
      rw [dTerm_openU fl t ((h.openedU i hxa).2 hs)]
      exact tinv_close h hlt hs t.code_ne_zero _ _ (by rw [if_pos hxa])
    · -- the state after the teardown is quiet like `s`, so `zeroReset` does nothing
      have hc := tinv_close h hlt hs t.code_ne_zero ((s.subs i).trace ++ [t]) (s.refCount - 1) (by rw [if_neg hxa])
      rw [dTerm_open fl t (h.opened i hlt hs hxa),
        zeroReset_quiet (s := closeState t.code ((s.subs i).trace ++ [t]) i g s) hc.1.shared hc.1.quiet]
      exact hc
  · rw [dTerm_closed fl t (h.closed i hlt hs)]
    exact ⟨⟨h.shared, h.quiet, h.closed, h.opened, h.openedU, h.obs, h.count⟩, by constructor <;> intros <;> first | rfl | assumption, hs⟩

theorem bcast_tinv {fl : Flags} {xa : Option Nat} {c : Nat} {g : Nat} (t : Ev) (l : List Nat) {s : St}
    (h : TInv xa c g s) (hl : ∀ i, i ∈ l → i < s.nsubs) :
    TInv xa c g (l.foldl (fun s i => dTerm fl i t s) s) ∧ TFrame g s (l.foldl (fun s i => dTerm fl i t s) s) ∧
      ∀ i, i ∈ l → ((l.foldl (fun s i => dTerm fl i t s) s).subs i).status ≠ 0 := by
  induction l generalizing s with
  | nil => exact ⟨h, TFrame.refl g s, fun _ hi => by cases hi⟩
  | cons a l ih =>
    obtain ⟨h1, f1, c1⟩ := dTerm_tinv (fl := fl) t h a (hl a (List.mem_cons_self))
    obtain ⟨h2, f2, c2⟩ := ih h1 (fun i hi => by rw [f1.nsubs]; exact hl i (List.mem_cons_of_mem _ hi))
    refine ⟨h2, f1.trans f2, ?_⟩
    intro i hi
    rcases List.mem_cons.mp hi with rfl | hi
    · exact f2.mono _ c1
    · exact c2 i hi

/-- the decision in terms of the specification's `resetsOn` -/
theorem pDecide_eq (fl : Flags) (g : Nat) (t : Ev) (ht : t.isTerminal = true) (u : St) :
    pDecide fl g t u = if fl.resetsOn t then reset g u
      else match t with
        | .error _ => { u with flagE := true }
        | _ => { u with flagC := true } := by
  cases t with
  | next v => simp [Ev.isTerminal] at ht
  | error e => simp only [pDecide, Flags.resetsOn]; by_cases h : fl.onError = true <;> simp [h]
  | complete => simp only [pDecide, Flags.resetsOn]; by_cases h : fl.onComplete = true <;> simp [h]

theorem pDecide_cases' (fl : Flags) (g : Nat) (t : Ev) (ht : t.isTerminal = true) (u : St) :
    (fl.resetsOn t = true ∧ pDecide fl g t u = reset g u) ∨
    (fl.resetsOn t = false ∧ pDecide fl g t u = { u with flagE := true }) ∨
    (fl.resetsOn t = false ∧ pDecide fl g t u = { u with flagC := true }) := by
  rw [pDecide_eq fl g t ht u]
  cases hr : fl.resetsOn t with
  | true => exact Or.inl ⟨rfl, by simp⟩
  | false =>
    cases t with
    | next v => simp [Ev.isTerminal] at ht
    | error e => exact Or.inr (Or.inl ⟨rfl, by simp⟩)
    | complete => exact Or.inr (Or.inr ⟨rfl, by simp⟩)

/-- the open proxy of the shared generation `g` takes status `t.code` and decides; its `sourceSubscription`
    holds at most that proxy, closed by then, so `reset` only clears the shared pair. `r`: it reset -/
theorem pDecide_closed (fl : Flags) {g : Nat} (t : Ev) (ht : t.isTerminal = true) {s : St}
    (h4 : (s.gens g).ssFins = [g] ∨ (s.gens g).ssFins = []) (h5 : (s.gens g).ssDone = false)
    (h6 : s.subject = some g) (h7 : s.sourceSubscription = some g) :
    ∃ (D : St) (r : Bool), pDecide fl g t (s.modGen g fun x => { x with pStatus := t.code }) = D ∧ r = fl.resetsOn t ∧
      D.sourceSubscription = D.subject ∧
      D.ngens = s.ngens ∧ D.nsubs = s.nsubs ∧ D.refCount = s.refCount ∧ D.subs = s.subs ∧ (∀ k, k ≠ g → D.gens k = s.gens k) ∧
      D.gens g = { (s.gens g) with pStatus := t.code, ssDone := r, ssFins := if r then [] else (s.gens g).ssFins } ∧
      D.subject = (if r then none else some g) ∧
      (if r then D.flagE = s.flagE ∧ D.flagC = s.flagC else D.flagE = true ∨ D.flagC = true) := by
  have hr := reset_terminated (s := s.modGen g fun x => { x with pStatus := t.code }) (g := g) (by simp [t.code_ne_zero])
    (by simpa using h4) (by simp [h5]) h6 h7
  have hg : (s.modGen g fun x => { x with pStatus := t.code }).gens g =
      { (s.gens g) with pStatus := t.code, ssDone := false, ssFins := (s.gens g).ssFins } := by
    simp only [St.modGen, if_pos]; rw [← h5]
  have ho : ∀ k, k ≠ g → (s.modGen g fun x => { x with pStatus := t.code }).gens k = s.gens k := fun k hk => if_neg hk
  rcases pDecide_cases' fl g t ht (s.modGen g fun x => { x with pStatus := t.code }) with ⟨hf, e⟩ | ⟨hf, e⟩ | ⟨hf, e⟩
  · exact ⟨_, true, e.trans hr, hf.symm, rfl, rfl, rfl, rfl, rfl, fun k hk => (if_neg hk).trans (ho k hk),
      by simp [termResetState], rfl, rfl, rfl⟩
  · exact ⟨_, false, e, hf.symm, h7.trans h6.symm, rfl, rfl, rfl, rfl, ho, hg, h6, Or.inl rfl⟩
  · exact ⟨_, false, e, hf.symm, h7.trans h6.symm, rfl, rfl, rfl, rfl, ho, hg, h6, Or.inr rfl⟩

/-- the pending creator of the live generation `g`, if `g` is the pending generation -/
def Pend.xa (P : Pend) (g : Nat) : Option Nat := if P.ug = some g then P.ua else none

/-- the pending state after a terminal on the live generation `g` -/
def Pend.afterTerm (P : Pend) (g : Nat) : Pend := if P.ug = some g then P.drop else P

@[simp] theorem Pend.afterTerm_idle (g : Nat) : Pend.idle.afterTerm g = Pend.idle := rfl
@[simp] theorem Pend.xa_idle (g : Nat) : Pend.idle.xa g = none := rfl

/-- the invariant of the broadcast holds when it starts: `D` is the state after the proxy closed and
    decided and the subject stored the terminal; the subscribers' bookkeeping reads only the fields below -/
theorem tinv_start {P : Pend} {s : St} {g : Nat} (hi : Inv P s) (hsub : s.subject = some g) (ha : GenActive P s g) {D : St}
    (hshared : D.sourceSubscription = D.subject)
    (hquiet : (D.flagE = true ∨ D.flagC = true) ∨ ((D.gens g).ssDone = true ∧ D.subject = none))
    (hsubs : D.subs = s.subs) (hns : D.nsubs = s.nsubs) (hrc : D.refCount = s.refCount)
    (hobs : (D.gens g).subj.obs = (s.gens g).subj.obs) : TInv (P.xa g) P.c g D := by
  have hos : openSubs D = openSubs s := openSubs_congr hns (fun i _ => by rw [hsubs])
  -- the pending creator, if this is the pending generation, is open: nothing pending-closed yet
  have hpend : pendClosed (P.xa g) D = 0 := by
    unfold Pend.xa
    split
    next he =>
      obtain ⟨_, _, A, hA, _, hu⟩ := ha.unf he
      simp [pendClosed, hA, hsubs, hu.status]
    next => rfl
  refine ⟨hshared, hquiet, ?_, ?_, ?_, by rw [hos, hobs]; exact ha.obs, by rw [hos, hrc, hpend]; exact hi.count⟩
  · rw [hsubs, hns]; exact hi.closed
  · intro i hlt hs hne
    rw [hsubs] at hs ⊢
    apply ha.subs i (by rw [hns] at hlt; exact hlt) hs
    intro hua
    by_cases he : P.ug = some g
    · exact hne (by simp [Pend.xa, he, hua])
    · rw [hi.ua_none hsub he] at hua; cases hua
  · intro A hA
    unfold Pend.xa at hA
    split at hA
    next he =>
      obtain ⟨_, _, A', hA', hltA, hu⟩ := ha.unf he
      rw [hA] at hA'
      cases hA'
      rw [hsubs, hns]
      exact ⟨hltA, fun _ => hu⟩
    next => cases hA

theorem inv_pTerm {cfg : Cfg} {P : Pend} {s : St} {g : Nat} (t : Ev) (ht : t.isTerminal = true) (hi : Inv P s)
    (hsub : s.subject = some g) (ha : GenActive P s g) :
    Inv (P.afterTerm g) (pTerm cfg g t s) ∧ (pTerm cfg g t s).ngens = s.ngens ∧ (pTerm cfg g t s).nsubs = s.nsubs ∧
      (P.ug ≠ some g → ((pTerm cfg g t s).gens g).upTorn = true) ∧ (∀ k, k ≠ g → (pTerm cfg g t s).gens k = s.gens k) ∧
      (pTerm cfg g t s).subject = (if cfg.flags.resetsOn t then none else some g) ∧
      openSubs (pTerm cfg g t s) = [] := by
  have hc := t.code_ne_zero
  have hss : s.sourceSubscription = some g := by rw [hi.shared]; exact hsub
  have hg := (hi.cur g hsub).1
  have hssf : (s.gens g).ssFins = [g] ∨ (s.gens g).ssFins = [] := by
    by_cases he : P.ug = some g
    · exact Or.inr (ha.unf he).2.1
    · exact Or.inl (ha.fin he).2
  -- whatever the proxy decided (state `s2`; `r`: it reset), the terminal is broadcast from a quiet state
  obtain ⟨s2, r, hD, hrr, d1, (hng2 : s2.ngens = s.ngens), (hns2 : s2.nsubs = s.nsubs), (d4 : s2.refCount = s.refCount),
      (d5 : s2.subs = s.subs), hgens2, d7, hsubj2, d9'⟩ := pDecide_closed cfg.flags (g := g) t ht hssf ha.ssDone hsub hss
  have d9 : if r then s2.flagE = false ∧ s2.flagC = false else s2.flagE = true ∨ s2.flagC = true := by
    cases r
    · exact d9'
    · exact ⟨d9'.1.trans ha.flagE, d9'.2.trans ha.flagC⟩
  rw [← hrr]
  obtain ⟨s3, hs3⟩ : ∃ s3, s3 = s2.modGen g fun x => { x with subj := { x.subj with status := Status.ofTerminal t } } := ⟨_, rfl⟩
  have hp : pTerm cfg g t s = pSubnUnsub g (subjClear g (bcastTerm cfg.flags g t s3)) := by
    unfold pTerm subjTerm
    rw [if_pos ha.pStatus, hD, d7, hs3]
    exact congrArg _ (by rw [show ({ (s.gens g) with pStatus := t.code, ssDone := r, ssFins := if r then [] else (s.gens g).ssFins } : Gen).subj.status = .open from ha.isOpen])
  rw [hp]
  have hG3 : s3.gens g =
      { (s.gens g) with pStatus := t.code, ssDone := r, ssFins := if r then [] else (s.gens g).ssFins,
                        subj := { (s.gens g).subj with status := Status.ofTerminal t } } := by
    simp [hs3, d7]
  have hT : TInv (P.xa g) P.c g s3 :=
    tinv_start hi hsub ha (hs3 ▸ d1) (by
      cases r
      · exact Or.inl (hs3 ▸ d9)
      · exact Or.inr ⟨by rw [hG3], hs3 ▸ hsubj2⟩) (hs3 ▸ d5) (hs3 ▸ hns2) (hs3 ▸ d4) (by rw [hG3])
  have hgens : ∀ k, k ≠ g → s3.gens k = s.gens k := fun k hk => by simp [hs3, hk, hgens2 k hk]
  have hsubj3 : s3.subject = s2.subject := by rw [hs3]; rfl
  have hfl3 : s3.flagE = s2.flagE ∧ s3.flagC = s2.flagC := by rw [hs3]; exact ⟨rfl, rfl⟩
  have hng : s3.ngens = s.ngens := hs3 ▸ hng2
  have hns : s3.nsubs = s.nsubs := hs3 ▸ hns2
  clear hs3
  obtain ⟨h4, f4, c4⟩ := bcast_tinv (fl := cfg.flags) t ((s3.gens g).subj.obs) hT
    (fun i hi' => by rw [hT.obs] at hi'; exact (mem_openSubs.mp hi').1)
  unfold bcastTerm
  generalize ((s3.gens g).subj.obs).foldl (fun s i => dTerm cfg.flags i t s) s3 = s4 at *
  have hps : (s3.gens g).pStatus = t.code := by rw [hG3]
  have hpd : (s3.gens g).pDone = false := by rw [hG3]; exact ha.pDone
  have hpf : (s3.gens g).pFin = (s.gens g).pFin := by rw [hG3]
  have hup : (s3.gens g).upSub = true := by rw [hG3]; exact ha.upSub
  have hut : (s3.gens g).upTorn = false := by rw [hG3]; exact ha.upTorn
  have hst3 : (s3.gens g).subj.status = Status.ofTerminal t := by rw [hG3]
  have hallclosed : ∀ k, k < s4.nsubs → (s4.subs k).status ≠ 0 := by
    intro k hk
    by_cases hk3 : (s3.subs k).status = 0
    · apply c4
      rw [hT.obs]
      exact mem_openSubs.mpr ⟨by rw [← f4.nsubs]; exact hk, hk3⟩
    · exact f4.mono k hk3
  have hno4 : openSubs s4 = [] := openSubs_eq_nil.mpr hallclosed
  -- the pending creator (if any) is closed now: its reference is counted with the pending ones
  have hpc : (P.c + pendClosed (P.xa g) s4 : Nat) = (P.afterTerm g).c := by
    unfold Pend.xa Pend.afterTerm
    split
    next he =>
      obtain ⟨_, _, A, hA, _, _⟩ := ha.unf he
      have hltA := (h4.openedU A (by simp [Pend.xa, he, hA])).1
      simp [pendClosed, hA, hallclosed A hltA, Pend.c, Pend.drop, he]
    next he => simp [pendClosed, he]
  have hug' : (P.afterTerm g).ug = P.ug := by unfold Pend.afterTerm; split <;> rfl
  have hua' : (P.afterTerm g).ua = none := by
    unfold Pend.afterTerm
    split
    · rfl
    next he => exact hi.ua_none hsub he
  -- the final state: the subject forgets its observers, the proxy's subscription ends
  obtain ⟨F, hF⟩ : ∃ F, F = s4.modGen g fun x =>
      { x with subj := { x.subj with obs := [] }, pDone := true, pFin := false, upTorn := x.pFin || x.upTorn } := ⟨_, rfl⟩
  have e : pSubnUnsub g (subjClear g s4) = F := by
    rw [hF, pSubnUnsub_eq]; simp [subjClear, f4.pDone, hpd]
  rw [e]
  have hFg : F.gens g =
      { (s4.gens g) with subj := { (s4.gens g).subj with obs := [] }, pDone := true, pFin := false,
                         upTorn := (s4.gens g).pFin || (s4.gens g).upTorn } := by rw [hF]; simp only [St.modGen, if_pos]
  have hFo : ∀ k, k ≠ g → F.gens k = s.gens k := fun k hkg => by
    rw [hF]; simp only [St.modGen, if_neg hkg]; rw [f4.gens k hkg, hgens k hkg]
  have hFs : F.subs = s4.subs ∧ F.nsubs = s4.nsubs ∧ F.ngens = s4.ngens ∧ F.refCount = s4.refCount ∧ F.subject = s4.subject ∧
      F.sourceSubscription = s4.sourceSubscription ∧ F.flagE = s4.flagE ∧ F.flagC = s4.flagC := by
    rw [hF]; exact ⟨rfl, rfl, rfl, rfl, rfl, rfl, rfl, rfl⟩
  obtain ⟨hFsubs, hFns, hFng, hFrc, hFsj, hFss, hFfe, hFfc⟩ := hFs
  have hos : openSubs F = [] := by
    rw [← hno4]; exact openSubs_congr hFns (fun i _ => by rw [hFsubs])
  have gut : (F.gens g).upTorn = (s.gens g).pFin := by rw [hFg]; simp [f4.pFin, hpf, f4.upTorn, hut]
  have hng' : F.ngens = s.ngens := hFng.trans (f4.ngens.trans hng)
  have hFsj' : F.subject = if r = true then none else some g := hFsj.trans (f4.subject.trans (hsubj3.trans hsubj2))
  have hFsh : F.sourceSubscription = F.subject := hFss.trans (h4.shared.trans hFsj.symm)
  refine ⟨?_, hng', hFns.trans (f4.nsubs.trans hns), fun hne => gut.trans (ha.fin hne).1, hFo, hFsj', hos⟩
  have hclosed : ∀ i, i < F.nsubs → (F.subs i).status ≠ 0 → SubClosed (F.subs i) := by
    rw [hFsubs, hFns]; exact h4.closed
  have hrest : ∀ k, k < F.ngens → k ≠ g → ((P.afterTerm g).ug ≠ some k → GenStale (F.gens k)) ∧
      ((P.afterTerm g).ug = some k → GenEnded (F.gens k) ∧ (P.afterTerm g).ua = none) := by
    intro k hk hkg
    rw [hFo k hkg, hug']
    have := hi.rest hsub (hng' ▸ hk) hkg
    exact ⟨this.1, fun hu => ⟨(this.2 hu).1, hua'⟩⟩
  have hcount : F.refCount = ((openSubs F).length + (P.afterTerm g).c : Nat) := by
    have := h4.count
    rw [hno4] at this
    rw [hos, ← hpc, hFrc, this]
    simp [Nat.add_assoc]
  have hugb : ∀ k, (P.afterTerm g).ug = some k → k < F.ngens := by
    rw [hug', hng']; exact hi.ugb
  have hends : (F.gens g).pStatus ≠ 0 ∧ (F.gens g).pDone = true ∧ (F.gens g).pFin = false ∧ (F.gens g).upSub = true ∧
      (F.gens g).subj.obs = [] := by
    rw [hFg]; exact ⟨by rw [f4.pStatus, hps]; exact hc, rfl, rfl, f4.upSub.trans hup, rfl⟩
  obtain ⟨g1, g2, g3, g4, g5⟩ := hends
  cases r
  case true =>
    -- reset: the generation is stale, or — still pending — ended
    have hsd : (s3.gens g).ssDone = true := by rw [hG3]
    have hsf : (s3.gens g).ssFins = [] := by rw [hG3]; rfl
    have gsf : (F.gens g).ssFins = [] := by rw [hFg]; exact f4.ssFins.trans hsf
    have gsd : (F.gens g).ssDone = true := by rw [hFg]; exact f4.ssDone.trans hsd
    refine Inv.of_none hFsj' (hFsh.trans hFsj')
      (hFfe.trans (f4.flagE.trans (hfl3.1.trans d9.1))) (hFfc.trans (f4.flagC.trans (hfl3.2.trans d9.2))) hos hclosed (fun k hk => ?_)
      (by rw [hcount, hos]; simp) hugb hua'
    by_cases hkg : k = g
    · subst hkg
      rw [hug']
      exact ⟨fun hu => ⟨g1, g2, g3, g4, gut.trans (ha.fin hu).1, gsf, gsd, g5⟩,
        fun hu => ⟨g1, g2, g3, g4, gut.trans (ha.unf hu).1, gsf, gsd, g5⟩⟩
    · exact ⟨(hrest k hk hkg).1, fun hu => ((hrest k hk hkg).2 hu).1⟩
  case false =>
    -- latched
    have hsd : (s3.gens g).ssDone = false := by rw [hG3]
    have hsf : (s3.gens g).ssFins = (s.gens g).ssFins := by rw [hG3]; rfl
    have gsf : (F.gens g).ssFins = (s.gens g).ssFins := by rw [hFg]; exact f4.ssFins.trans hsf
    refine Inv.of_cur hFsj' hFsh (hng' ▸ hg) (Or.inr ?_) hclosed hrest hcount hugb
      (fun A hA => by rw [hua'] at hA; cases hA)
    exact { pStatus := g1, pDone := g2, pFin := g3, upSub := g4,
            ssDone := by rw [hFg]; exact f4.ssDone.trans hsd,
            closed := by rw [hFg]; show (s4.gens g).subj.status ≠ _; rw [f4.gStatus, hst3]; exact Status.ofTerminal_ne_open t,
            obs := g5, flag := by rw [hFfe, hFfc, f4.flagE, f4.flagC, hfl3.1, hfl3.2]; exact d9, noOpen := hos,
            fin := fun hne => by rw [hug'] at hne; exact ⟨gut.trans (ha.fin hne).1, gsf.trans (ha.fin hne).2⟩,
            unf := fun he => by rw [hug'] at he; exact ⟨gut.trans (ha.unf he).1, gsf.trans (ha.unf he).2.1, hua'⟩ }

/-! ### the probe pushes a notification -/

/-- a notification reaches the proxy of the live current generation -/
theorem inv_pEmit {cfg : Cfg} {P : Pend} {s : St} {g : Nat} (x : Ev) (hi : Inv P s) (hsub : s.subject = some g) (ha : GenActive P s g) :
    ((Inv P (pEmit cfg g x s) ∧ (openSubs s = [] → openSubs (pEmit cfg g x s) = [])) ∨
     (Inv (P.afterTerm g) (pEmit cfg g x s) ∧ openSubs (pEmit cfg g x s) = [])) ∧
      (pEmit cfg g x s).ngens = s.ngens ∧ (pEmit cfg g x s).nsubs = s.nsubs ∧
      (∀ k, k ≠ g → (pEmit cfg g x s).upLive k = s.upLive k) := by
  cases x with
  | next v =>
    have hs := pNext_sim cfg g v s
    exact ⟨Or.inl ⟨hi.sim hs, fun h => by show openSubs (pNext cfg g v s) = []; rw [hs.openSubs]; exact h⟩, hs.ngens, hs.nsubs,
      fun k _ => by simp [St.upLive, pEmit, hs.upSub, hs.upTorn]⟩
  | error e =>
    obtain ⟨h1, h2, h3, _, h5, _, h7⟩ := inv_pTerm (cfg := cfg) (.error e) rfl hi hsub ha
    exact ⟨Or.inr ⟨h1, h7⟩, h2, h3, fun k hk => by simp [St.upLive, pEmit, h5 k hk]⟩
  | complete =>
    obtain ⟨h1, h2, h3, _, h5, _, h7⟩ := inv_pTerm (cfg := cfg) .complete rfl hi hsub ha
    exact ⟨Or.inr ⟨h1, h7⟩, h2, h3, fun k hk => by simp [St.upLive, pEmit, h5 k hk]⟩

/-- a closed proxy only feeds the drop hook -/
theorem pEmit_closed_sim (cfg : Cfg) (g : Nat) (x : Ev) {u : St} (h1 : (u.gens g).pStatus ≠ 0) (h2 : (u.gens g).pDone = true) :
    Sim u (pEmit cfg g x u) := by
  cases x <;> simp [pEmit, pNext, pTerm, h1, pSubnUnsub, h2] <;> exact sim_drop _ u

/-- which upstream subscriptions the probe still pushes to: the live current generation, and the
    pending generation (its teardown is not even registered) -/
theorem upLive_cases {P : Pend} {s : St} (hi : Inv P s) (k : Nat) (hk : k < s.ngens) (hl : s.upLive k = true) :
    (s.subject = some k ∧ GenActive P s k) ∨
    (P.ug = some k ∧ (s.gens k).pStatus ≠ 0 ∧ (s.gens k).pDone = true) := by
  by_cases hsub : s.subject = some k
  · rcases (hi.cur k hsub).2 with ha | hl'
    · exact Or.inl ⟨hsub, ha⟩
    · by_cases he : P.ug = some k
      · exact Or.inr ⟨he, hl'.pStatus, hl'.pDone⟩
      · simp [St.upLive, (hl'.fin he).1] at hl
  · by_cases he : P.ug = some k
    · have := (hi.ended k hk hsub he).1
      exact Or.inr ⟨he, this.pStatus, this.pDone⟩
    · have := hi.stale k hk hsub he
      simp [St.upLive, this.upTorn] at hl

/-- the invariant survives a push; a terminal on the pending generation closes its creator (and
    everybody else) -/
theorem inv_push (cfg : Cfg) (x : Ev) {P : Pend} {s : St} (hi : Inv P s) :
    Inv P (push cfg x s) ∨ (Inv P.drop (push cfg x s) ∧ openSubs (push cfg x s) = []) := by
  unfold push
  refine (foldl_inv (I := fun u => (Inv P u ∨ (Inv P.drop u ∧ openSubs u = [])) ∧ u.ngens = s.ngens) _ (List.range s.ngens)
    (fun u a hmem ⟨hu, hn⟩ => ?_) ⟨Or.inl hi, rfl⟩).1
  have ha : a < u.ngens := by rw [hn]; exact List.mem_range.mp hmem
  split
  next hlive =>
    -- one step from a state satisfying `Inv Q`, Q ∈ {P, P.drop}
    have step : ∀ Q : Pend, Inv Q u →
        ((Inv Q (pEmit cfg a x u) ∧ (openSubs u = [] → openSubs (pEmit cfg a x u) = [])) ∨
         (Inv Q.drop (pEmit cfg a x u) ∧ openSubs (pEmit cfg a x u) = [])) ∧ (pEmit cfg a x u).ngens = u.ngens := by
      intro Q hq
      rcases upLive_cases hq a ha hlive with ⟨hsub, hact⟩ | ⟨_, h1, h2⟩
      · obtain ⟨h, hng, _, _⟩ := inv_pEmit (cfg := cfg) x hq hsub hact
        refine ⟨?_, hng⟩
        rcases h with h | ⟨h, hno⟩
        · exact Or.inl h
        · unfold Pend.afterTerm at h
          split at h
          · exact Or.inr ⟨h, hno⟩
          · exact Or.inl ⟨h, fun _ => hno⟩
      · have hsim := pEmit_closed_sim cfg a x h1 h2
        exact ⟨Or.inl ⟨hq.sim hsim, fun h => by rw [hsim.openSubs]; exact h⟩, hsim.ngens⟩
    rcases hu with hu | ⟨hu, hno⟩
    · obtain ⟨h, hng⟩ := step P hu
      refine ⟨?_, hng.trans hn⟩
      rcases h with ⟨h, _⟩ | h
      · exact Or.inl h
      · exact Or.inr h
    · obtain ⟨h, hng⟩ := step P.drop hu
      refine ⟨?_, hng.trans hn⟩
      rcases h with ⟨h, hk⟩ | ⟨h, hk⟩
      · exact Or.inr ⟨h, hk hno⟩
      · exact Or.inr ⟨by simpa [Pend.drop] using h, hk⟩
  next => exact ⟨hu, hn⟩

/-! ### with nothing pending: the probe reaches exactly the live current generation -/

theorem upLive_iff {s : St} (hi : Inv Pend.idle s) (k : Nat) (hk : k < s.ngens) :
    s.upLive k = true ↔ (s.subject = some k ∧ GenActive Pend.idle s k) := by
  constructor
  · intro hl
    rcases upLive_cases hi k hk hl with h | ⟨h, _⟩
    · exact h
    · simp at h
  · intro ⟨_, ha⟩
    simp [St.upLive, ha.upSub, ha.upTorn]

theorem push_fold_none (cfg : Cfg) (x : Ev) (s : St) (n : Nat) (h : ∀ k, k < n → s.upLive k = false) :
    (List.range n).foldl (fun s g => if s.upLive g then pEmit cfg g x s else s) s = s := by
  induction n with
  | zero => rfl
  | succ n ih =>
    rw [List.range_succ, List.foldl_append, ih (fun k hk => h k (Nat.lt_succ_of_lt hk))]
    simp [h n (Nat.lt_succ_self n)]

theorem push_fold_one (cfg : Cfg) (x : Ev) (s : St) (g n : Nat) (hg : g < n) (hl : s.upLive g = true)
    (h : ∀ k, k < n → k ≠ g → s.upLive k = false)
    (h' : ∀ k, k < n → k ≠ g → (pEmit cfg g x s).upLive k = false) :
    (List.range n).foldl (fun s g => if s.upLive g then pEmit cfg g x s else s) s = pEmit cfg g x s := by
  induction n with
  | zero => omega
  | succ n ih =>
    rw [List.range_succ, List.foldl_append]
    by_cases hgn : g = n
    · subst hgn
      rw [push_fold_none cfg x s g (fun k hk => h k (Nat.lt_succ_of_lt hk) (by omega))]
      simp [hl]
    · rw [ih (by omega) (fun k hk => h k (Nat.lt_succ_of_lt hk)) (fun k hk => h' k (Nat.lt_succ_of_lt hk))]
      simp [h' n (Nat.lt_succ_self n) (fun h => hgn h.symm)]

/-- the probe reaches at most the proxy of the live current generation -/
theorem push_eq (cfg : Cfg) (x : Ev) {s : St} (hi : Inv Pend.idle s) :
    (∃ g, s.subject = some g ∧ GenActive Pend.idle s g ∧ push cfg x s = pEmit cfg g x s) ∨
    ((∀ k, k < s.ngens → s.upLive k = false) ∧ push cfg x s = s) := by
  by_cases hex : ∃ g, s.subject = some g ∧ GenActive Pend.idle s g
  · obtain ⟨g, hsub, ha⟩ := hex
    refine Or.inl ⟨g, hsub, ha, ?_⟩
    have hg := (hi.cur g hsub).1
    have hother : ∀ k, k < s.ngens → k ≠ g → s.upLive k = false := by
      intro k hk hkg
      cases hl : s.upLive k with
      | false => rfl
      | true =>
        have := ((upLive_iff hi k hk).mp hl).1
        rw [hsub] at this
        exact absurd (Option.some.inj this).symm hkg
    obtain ⟨_, _, _, hfr⟩ := inv_pEmit (cfg := cfg) x hi hsub ha
    exact push_fold_one cfg x s g s.ngens hg ((upLive_iff hi g hg).mpr ⟨hsub, ha⟩) hother
      (fun k hk hkg => by rw [hfr k hkg]; exact hother k hk hkg)
  · have hno : ∀ k, k < s.ngens → s.upLive k = false := by
      intro k hk
      cases hl : s.upLive k with
      | false => rfl
      | true => exact absurd ⟨k, (upLive_iff hi k hk).mp hl⟩ hex
    exact Or.inr ⟨hno, push_fold_none cfg x s _ hno⟩

end Ro.Share
