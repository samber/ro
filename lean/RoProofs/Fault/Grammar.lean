/-
  RoProofs.Fault.Grammar — C01's grammar under faults, at full generality: for EVERY operator
  machine and EVERY fault plan in which the final observer's *next* callback does not panic
  (everything else may: operator callbacks in all positions, the source's subscribe function and
  teardown, the final observer's error and complete callbacks; any number of faults), what the
  final observer's callbacks see is values, then at most one terminal, then nothing.
  This is the `_partial` statement for deviation (i); `final_onNext_panic_witness` is the witness.
-/
import RoModel.Fault
import RoProofs.Gate
namespace Ro.Fault
open Ro
variable {σ α β : Type}

/-- the trace obeys the grammar and a delivered terminal has closed the downstream subscriber -/
structure GI (s : St σ α β) : Prop where
  gram : Grammar s.trace
  closed : hasTerm s.trace = true → s.dOpen = false

/-- `s'` did not touch the trace and did not reopen the downstream subscriber -/
structure Quiet (s s' : St σ α β) : Prop where
  trace : s'.trace = s.trace
  dOpen : s'.dOpen = true → s.dOpen = true

theorem GI.quiet {s s' : St σ α β} (h : GI s) (q : Quiet s s') : GI s' := by
  refine ⟨by rw [q.trace]; exact h.gram, ?_⟩
  intro ht
  rw [q.trace] at ht
  have := h.closed ht
  cases hd : s'.dOpen
  · rfl
  · rw [q.dOpen hd] at this; cases this

/-- a state that differs from a `GI` state only in fields other than the trace and D's status -/
theorem GI.congr {s s' : St σ α β} (h : GI s) (h1 : s'.trace = s.trace := by rfl) (h2 : s'.dOpen = s.dOpen := by rfl) : GI s' :=
  h.quiet ⟨h1, fun hd => h2 ▸ hd⟩

theorem Quiet.refl (s : St σ α β) : Quiet s s := ⟨rfl, id⟩
theorem Quiet.trans {s s1 s2 : St σ α β} (a : Quiet s s1) (b : Quiet s1 s2) : Quiet s s2 :=
  ⟨by rw [b.trace, a.trace], fun h => a.dOpen (b.dOpen h)⟩

theorem uUnsub_quiet (P : Plan) (s : St σ α β) : Quiet s (uUnsub P s).1 := by
  unfold uUnsub
  cases s.uDone <;> cases s.uReg <;> cases P.srcTd.bind Fault.recovered <;> exact ⟨rfl, id⟩

theorem opTeardown_quiet (P : Plan) (s : St σ α β) : Quiet s (opTeardown P s).1 := by
  unfold opTeardown
  split
  · have := uUnsub_quiet P { s with uOpen := false }
    exact ⟨this.trace, this.dOpen⟩
  · exact Quiet.refl s

theorem dUnsub_quiet (P : Plan) (w : Nat) (s : St σ α β) : Quiet s (dUnsub P w s).1 := by
  unfold dUnsub
  split
  · exact Quiet.refl s
  · split
    · have := opTeardown_quiet P { s with dDone := true }
      generalize opTeardown P { s with dDone := true } = q at this
      obtain ⟨q1, q2⟩ := q
      cases q2 <;> exact ⟨this.trace, this.dOpen⟩
    · exact ⟨rfl, id⟩

theorem dUnsubscribe_quiet (P : Plan) (w : Nat) (s : St σ α β) : Quiet s (dUnsubscribe P w s).1 := by
  unfold dUnsubscribe
  split
  · have := dUnsub_quiet P w { s with dOpen := false }
    exact ⟨this.trace, fun h => by have := this.dOpen h; cases this⟩
  · exact Quiet.refl s

section
variable (P : Plan) (hN : ∀ k, panicAt P.fN k = none)
include hN

theorem dPush_gi (w : Nat) (s : St σ α β) (n : Notif β) (h : GI s) : GI (dPush P w s n).1 := by
  have hopen : s.dOpen = true → hasTerm s.trace = false := by
    intro hd
    cases ht : hasTerm s.trace
    · rfl
    · rw [h.closed ht] at hd; cases hd
  cases n with
  | next c v =>
    simp only [dPush]
    split
    · rename_i hd
      simp only [fNext, hN]
      exact ⟨grammar_snoc _ _ (hopen hd), fun ht => by simp [hopen hd] at ht⟩
    · exact h.congr
  | error c e =>
    simp only [dPush]
    split
    · rename_i hd
      refine GI.quiet ?_ (dUnsub_quiet P w _)
      unfold fTryError
      cases panicAt P.fE s.fnE <;>
        exact ⟨grammar_snoc _ _ (hopen hd), fun _ => rfl⟩
    · have h1 : GI ({ s with drops := s.drops ++ [.down (.error c e)] } : St σ α β) := h.congr
      exact h1.quiet (dUnsub_quiet P w _)
  | complete c =>
    simp only [dPush]
    split
    · rename_i hd
      refine GI.quiet ?_ (dUnsub_quiet P w _)
      unfold fComplete
      cases panicAt P.fC s.fnC <;>
        exact ⟨grammar_snoc _ _ (hopen hd), fun _ => rfl⟩
    · have h1 : GI ({ s with drops := s.drops ++ [.down (.complete c)] } : St σ α β) := h.congr
      exact h1.quiet (dUnsub_quiet P w _)

theorem dPushAll_gi (w : Nat) (ns : List (Notif β)) : ∀ s : St σ α β, GI s → GI (dPushAll P w s ns).1 := by
  induction ns with
  | nil => intro s h; exact h
  | cons n ns ih =>
    intro s h
    have := dPush_gi P hN w s n h
    rw [dPushAll]
    generalize dPush P w s n = q at this
    obtain ⟨q1, q2⟩ := q
    cases q2 with
    | some x => exact this
    | none => exact ih q1 this

theorem opError_gi (fm : FMachine σ α β) (s : St σ α β) (c : Ctx) (e : Err) (h : GI s) :
    GI (opError fm P s c e).1 := by
  unfold opError
  split
  · cases panicAt P.cbE s.nE with
    | some q => exact h.congr
    | none => exact dPushAll_gi P hN fm.tdWraps _ _ (h.congr)
  · exact dPushAll_gi P hN fm.tdWraps _ _ (h.congr)

theorem oTryError_gi (fm : FMachine σ α β) (s : St σ α β) (c : Ctx) (e : Err) (h : GI s) :
    GI (oTryError fm P s c e) := by
  unfold oTryError
  have := opError_gi P hN fm s c e h
  generalize opError fm P s c e = q at this
  obtain ⟨q1, q2⟩ := q
  cases q2 with
  | some x => exact this.congr
  | none => exact this

theorem opComplete_gi (fm : FMachine σ α β) (s : St σ α β) (c : Ctx) (h : GI s) :
    GI (opComplete fm P s c).1 := by
  unfold opComplete
  split
  · cases panicAt P.cbC s.nC with
    | some q => exact h.congr
    | none => exact dPushAll_gi P hN fm.tdWraps _ _ (h.congr)
  · exact dPushAll_gi P hN fm.tdWraps _ _ (h.congr)

theorem oTryComplete_gi (fm : FMachine σ α β) (s : St σ α β) (c : Ctx) (h : GI s) :
    GI (oTryComplete fm P s c) := by
  unfold oTryComplete
  have := opComplete_gi P hN fm s c h
  generalize opComplete fm P s c = q at this
  obtain ⟨q1, q2⟩ := q
  cases q2 with
  | some x => exact this.congr
  | none => exact this

theorem opNextOk_gi (fm : FMachine σ α β) (s : St σ α β) (c : Ctx) (v : α) (h : GI s) :
    GI (opNextOk fm P s c v).1 := by
  unfold opNextOk
  have := dPushAll_gi P hN fm.tdWraps (fm.base.onNext s.ms c v).2 { s with ms := (fm.base.onNext s.ms c v).1 } (h.congr)
  generalize dPushAll P fm.tdWraps { s with ms := (fm.base.onNext s.ms c v).1 } (fm.base.onNext s.ms c v).2 = q at this
  obtain ⟨q1, q2⟩ := q
  cases q2 <;> exact this.congr

theorem opNext_gi (fm : FMachine σ α β) (s : St σ α β) (c : Ctx) (v : α) (h : GI s) :
    GI (opNext fm P s c v).1 := by
  unfold opNext
  split
  · cases P.cbN s.nN with
    | none => exact opNextOk_gi P hN fm _ c v (h.congr)
    | some f =>
      cases f with
      | panicErr p => exact h.congr
      | panicVal n => exact h.congr
      | errRet e =>
        simp only
        cases fm.onErrRet with
        | none => exact opNextOk_gi P hN fm _ c v (h.congr)
        | some hf =>
          simp only
          exact dPushAll_gi P hN fm.tdWraps _ _ (h.congr)
  · exact opNextOk_gi P hN fm s c v h

theorem oTryNext_gi (fm : FMachine σ α β) (s : St σ α β) (c : Ctx) (v : α) (h : GI s) :
    GI (oTryNext fm P s c v) := by
  unfold oTryNext
  have := opNext_gi P hN fm s c v h
  generalize opNext fm P s c v = q at this
  obtain ⟨q1, q2⟩ := q
  cases q2 with
  | none => exact this
  | some p => exact oTryError_gi P hN fm q1 c _ this

theorem uFeed_gi (fm : FMachine σ α β) (s : St σ α β) (x : Notif α) (h : GI s) : GI (uFeed fm P s x).1 := by
  have hc : GI ({ s with uOpen := false } : St σ α β) := h.congr
  have hd : GI ({ s with drops := s.drops ++ [.up x] } : St σ α β) := h.congr
  cases x with
  | next c v =>
    simp only [uFeed]
    split
    · exact oTryNext_gi P hN fm s c v h
    · exact hd
  | error c e =>
    simp only [uFeed]
    split
    · exact (oTryError_gi P hN fm _ c e hc).quiet (uUnsub_quiet P _)
    · exact hd.quiet (uUnsub_quiet P _)
  | complete c =>
    simp only [uFeed]
    split
    · exact (oTryComplete_gi P hN fm _ c hc).quiet (uUnsub_quiet P _)
    · exact hd.quiet (uUnsub_quiet P _)

theorem srcBody_gi (fm : FMachine σ α β) (raw : List (Notif α)) :
    ∀ (i : Nat) (s : St σ α β), GI s → GI (srcBody fm P i raw s).1 := by
  induction raw with
  | nil =>
    intro i s h
    simp only [srcBody]
    cases srcPanicAt P i true <;> exact h.congr
  | cons x xs ih =>
    intro i s h
    simp only [srcBody]
    cases srcPanicAt P i false with
    | some p => exact h.congr
    | none =>
      simp only
      have := uFeed_gi P hN fm s x h
      generalize uFeed fm P s x = q at this
      obtain ⟨q1, q2⟩ := q
      cases q2 with
      | some p => exact this
      | none => exact ih (i + 1) q1 this

theorem srcCatch_gi (fm : FMachine σ α β) (sub : Ctx) (s : St σ α β) (p : Err) (h : GI s) :
    GI (srcCatch fm P sub s p).1 := by
  unfold srcCatch
  have := uFeed_gi P hN fm s (.error sub (.observable p)) h
  generalize uFeed fm P s (.error sub (.observable p)) = q at this
  obtain ⟨q1, q2⟩ := q
  cases q2 with
  | some x => exact this
  | none => exact this.quiet (opTeardown_quiet P q1)

theorem srcSubscribe_gi (fm : FMachine σ α β) (sub : Ctx) (inside : List (Notif α)) (s : St σ α β) (h : GI s) :
    GI (srcSubscribe fm P sub inside s).1 := by
  unfold srcSubscribe
  have := srcBody_gi P hN fm inside 0 { s with subs := s.subs + 1 } (h.congr)
  generalize srcBody fm P 0 inside { s with subs := s.subs + 1 } = q at this
  obtain ⟨q1, q2⟩ := q
  cases q2 with
  | some p => exact srcCatch_gi P hN fm sub q1 p this
  | none =>
    simp only
    split
    · cases P.srcTd.bind Fault.recovered with
      | none => exact this.congr
      | some t => exact srcCatch_gi P hN fm sub _ t (this.congr)
    · exact this.congr

theorem opCatch_gi (w : Nat) (sub : Ctx) (s : St σ α β) (p : Err) (h : GI s) : GI (opCatch P w sub s p).1 := by
  unfold opCatch
  have := dPush_gi P hN w s (.error sub (.observable p)) h
  generalize dPush P w s (.error sub (.observable p)) = q at this
  obtain ⟨q1, q2⟩ := q
  cases q2 with
  | some x => exact this
  | none => exact this.quiet (dUnsubscribe_quiet P w q1)

theorem opSubscribe_gi (fm : FMachine σ α β) (sub : Ctx) (inside : List (Notif α)) :
    GI (opSubscribe fm P sub inside).1 := by
  have h0 : GI ({ ms := fm.base.init } : St σ α β) := ⟨trivial, fun h => by cases h⟩
  have hbody : GI (opBody fm P sub inside { ms := fm.base.init }).1 := by
    unfold opBody
    cases (if fm.callsS then P.cbS.bind Fault.recovered else none) with
    | some p => exact h0.congr
    | none =>
      simp only
      have := dPushAll_gi P hN fm.tdWraps (fm.base.onSubscribe fm.base.init sub).2
        { ({ ms := fm.base.init } : St σ α β) with ms := (fm.base.onSubscribe fm.base.init sub).1 } (h0.congr)
      generalize dPushAll P fm.tdWraps { ({ ms := fm.base.init } : St σ α β) with ms := (fm.base.onSubscribe fm.base.init sub).1 }
        (fm.base.onSubscribe fm.base.init sub).2 = q at this
      obtain ⟨q1, q2⟩ := q
      cases q2 with
      | some x => exact this
      | none =>
        simp only
        split
        · exact srcSubscribe_gi P hN fm sub inside q1 this
        · exact this
  unfold opSubscribe
  generalize opBody fm P sub inside { ms := fm.base.init } = q at hbody
  obtain ⟨q1, q2⟩ := q
  cases q2 with
  | some p => exact opCatch_gi P hN _ sub q1 p hbody
  | none =>
    simp only
    split
    · exact hbody
    · split
      · have := hbody.quiet (opTeardown_quiet P q1)
        generalize opTeardown P q1 = t at this
        obtain ⟨t1, t2⟩ := t
        cases t2 with
        | some x => exact opCatch_gi P hN _ sub t1 x this
        | none => exact this
      · exact hbody.congr

theorem pushAfter_gi (fm : FMachine σ α β) (raw : List (Notif α)) :
    ∀ (s : St σ α β) (esc : List Err), GI s → GI (pushAfter fm P (s, esc) raw).1 := by
  induction raw with
  | nil => intro s esc h; exact h
  | cons x xs ih =>
    intro s esc h
    simp only [pushAfter]
    split
    · exact ih s esc h
    · exact ih _ _ (uFeed_gi P hN fm s x h)

theorem runScript_gi (fm : FMachine σ α β) (mode : SrcMode) (sub : Ctx) (raw : List (Notif α)) :
    GI (runScript fm P mode sub raw).1 := by
  cases mode with
  | sync => exact opSubscribe_gi P hN fm sub raw
  | hot => exact pushAfter_gi P hN fm raw _ _ (opSubscribe_gi P hN fm sub [])

/-- **C01 under faults.** -/
theorem grammar_unless_final_next_panics (fm : FMachine σ α β) (mode : SrcMode) (sub : Ctx) (raw : List (Notif α))
    (fu : Notif α) :
    Grammar (runScript fm P mode sub raw).1.trace ∧ Grammar (run fm P mode sub raw fu).fin.trace := by
  have h1 := runScript_gi P hN fm mode sub raw
  refine ⟨h1.gram, ?_⟩
  simp only [run]
  exact ((pushAfter_gi P hN fm [fu] _ _ h1).quiet (dUnsubscribe_quiet P _ _)).gram

end
end Ro.Fault
