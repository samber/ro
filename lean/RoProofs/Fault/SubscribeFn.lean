/-
  RoProofs.Fault.SubscribeFn — a panic in the subscribe function of the source.

  For every machine, every plan, every script: a subscribe function that panics with `p` right
  before its `j`-th notification behaves exactly like a source that delivers its first `j`
  notifications, then `Error(subscriberCtx, observable(p))` to the same subscriber, then calls
  `Unsubscribe()` (observable.go:303-321) — whatever else the plan injects.
-/
import RoModel.Fault
namespace Ro.Fault
open Ro
variable {σ α β : Type}

/-- the producer delivers a list of notifications; a panic coming back out of one stops it -/
def feedAll (fm : FMachine σ α β) (P : Plan) : St σ α β → List (Notif α) → St σ α β × Option Err
  | s, [] => (s, none)
  | s, x :: xs =>
    match uFeed fm P s x with
    | (s1, some q) => (s1, some q)
    | (s1, none) => feedAll fm P s1 xs

/-- what follows the delivered prefix: the panic `p` of the subscribe function itself, unless a
    panic `q` already came back out of a delivery -/
def thenPanics (p : Err) : St σ α β × Option Err → St σ α β × Option Err
  | (s1, some q) => (s1, some q)
  | (s1, none) => (s1.fire p, some p)

theorem srcBody_split (fm : FMachine σ α β) (P : Plan) (j : Nat) (f : Fault) (p : Err)
    (hss : P.srcSub = some (j, f)) (hp : f.recovered = some p) (raw : List (Notif α)) :
    ∀ (i : Nat) (s : St σ α β), i ≤ j →
      srcBody fm P i raw s = thenPanics p (feedAll fm P s (raw.take (j - i))) := by
  induction raw with
  | nil =>
    intro i s hij
    simp [srcBody, srcPanicAt, hss, hp, feedAll, thenPanics, hij]
  | cons x xs ih =>
    intro i s hij
    by_cases hji : j = i
    · subst hji
      simp [srcBody, srcPanicAt, hss, hp, feedAll, thenPanics]
    · have hlt : i + 1 ≤ j := by omega
      have hne : (j == i || (false && decide (j ≥ i))) = false := by simp [hji]
      have htake : (x :: xs).take (j - i) = x :: xs.take (j - (i + 1)) := by
        have : j - i = (j - (i + 1)) + 1 := by omega
        rw [this, List.take_succ_cons]
      rw [htake]
      simp only [srcBody, srcPanicAt, hss, hne, feedAll]
      generalize uFeed fm P s x = q
      obtain ⟨q1, q2⟩ := q
      cases q2 with
      | some e => simp [thenPanics]
      | none => simpa using ih (i + 1) q1 hlt

end Ro.Fault
