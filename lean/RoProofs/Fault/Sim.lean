/-
  RoProofs.Fault.Sim — for plans that only touch the operator's Next-position callback, the
  fault interpreter `Fault.runScript` and `runOp (Fault.inject …)` agree (trace, drops, gates), nothing
  escapes, nothing reaches the unhandled hook … (`runScript_agree`, RoProofs/Fault/Run.lean).
  U, O, D, F are the layers of the pipeline  source ─U─O─[closure]─D─F,  see RoModel/Fault.lean.
-/
import RoProofs.Fault.NoEscape
import RoProofs.Gate
namespace Ro.Fault
open Ro
variable {σ α β : Type}

/-- the plan that only touches the operator's Next-position callback -/
def nextPlan (cbN : Nat → Option Fault) : Plan := { cbN := cbN }

section
variable (cbN : Nat → Option Fault)
@[simp] theorem nextPlan_cbN : (nextPlan cbN).cbN = cbN := rfl
@[simp] theorem nextPlan_cbE (k) : (nextPlan cbN).cbE k = none := rfl
@[simp] theorem nextPlan_cbC (k) : (nextPlan cbN).cbC k = none := rfl
@[simp] theorem nextPlan_cbS : (nextPlan cbN).cbS = none := rfl
@[simp] theorem nextPlan_srcSub : (nextPlan cbN).srcSub = none := rfl
@[simp] theorem nextPlan_srcTd : (nextPlan cbN).srcTd = none := rfl
@[simp] theorem nextPlan_fN (k) : (nextPlan cbN).fN k = none := rfl
@[simp] theorem nextPlan_fE (k) : (nextPlan cbN).fE k = none := rfl
@[simp] theorem nextPlan_fC (k) : (nextPlan cbN).fC k = none := rfl
end

/-- what the downstream layers see of the two states -/
structure SimD (reg : Bool) (s : St σ α β) (r : RunSt (σ × Nat) α β) : Prop where
  down : r.downOpen = s.dOpen
  out : r.out = s.trace
  drops : r.drops = s.drops
  ddone : s.dDone = !s.dOpen
  ureg : s.uReg = reg
  dreg : s.dReg = reg
  closed : reg = true → s.dOpen = false → s.uOpen = false
  udone : s.uOpen = true → s.uDone = false

/-- the two states while O handles one notification of the producer. `u0` is U's status word as U itself left it:
    still set during a value, cleared before a terminal is handed to O. In between only D's teardown can close U,
    and only once it is registered. -/
structure SimU (reg u0 : Bool) (k : Nat) (s : St σ α β) (r : RunSt (σ × Nat) α β) : Prop where
  d : SimD reg s r
  st : r.st = (s.ms, s.nN)
  unh : s.unhandled = []
  subs : s.subs = k
  uOpen : s.uOpen = (u0 && (!reg || s.dOpen))
  uDone : s.uDone = (u0 && !s.uOpen)
  rel : s.rel = if s.uDone then 1 else 0

/-- D has handed a terminal to F and disposes of its subscription: with the operator's teardown registered this
    closes U, if U is still open, and runs the source's teardown -/
theorem dClose_sim (cbN : Nat → Option Fault) (w : Nat) {reg u0 : Bool} {k : Nat} {s : St σ α β}
    {r : RunSt (σ × Nat) α β} (hu : SimU reg u0 k s r) (ho : s.dOpen = true) (n : Notif β) (a b : Nat) :
    ∃ s', dUnsub (nextPlan cbN) w { s with dOpen := false, trace := s.trace ++ [n], fnE := a, fnC := b } = (s', none) ∧
      SimU reg u0 k s' { r with out := r.out ++ [n], downOpen := false } := by
  obtain ⟨⟨h1, h2, h3, h4, h5, h6, h7, h8⟩, g1, g2, g3, g4, g5, g6⟩ := hu
  have hdd : s.dDone = false := by rw [h4, ho]; rfl
  have huo : s.uOpen = u0 := by rw [g4, ho]; simp
  have hud : s.uDone = false := by rw [g5, huo]; simp
  have hrel : s.rel = 0 := by rw [g6, hud]; rfl
  cases reg
  · refine ⟨{ s with dOpen := false, trace := s.trace ++ [n], fnE := a, fnC := b, dDone := true }, ?_, ?_⟩
    · simp only [dUnsub, hdd, h6, Bool.false_eq_true, if_false]
    · exact ⟨⟨rfl, by rw [h2], h3, rfl, h5, h6, nofun, h8⟩, g1, g2, g3, by rw [huo]; simp, g5, g6⟩
  · cases u0
    · refine ⟨{ s with dOpen := false, trace := s.trace ++ [n], fnE := a, fnC := b, dDone := true }, ?_, ?_⟩
      · simp only [dUnsub, hdd, h6, opTeardown, huo, Bool.false_eq_true, if_false, if_true]
      · exact ⟨⟨rfl, by rw [h2], h3, rfl, h5, h6, fun _ _ => huo, h8⟩, g1, g2, g3, huo, g5, g6⟩
    · refine ⟨{ s with dOpen := false, trace := s.trace ++ [n], fnE := a, fnC := b, dDone := true,
                        uOpen := false, uDone := true, rel := s.rel + 1 }, ?_, ?_⟩
      · simp only [dUnsub, hdd, h6, opTeardown, huo, uUnsub, hud, h5, Bool.false_eq_true, if_false, if_true]
        rfl
      · exact ⟨⟨rfl, by rw [h2], h3, rfl, h5, h6, fun _ _ => rfl, nofun⟩, g1, g2, g3, rfl, rfl, congrArg (· + 1) hrel⟩

theorem dPush_sim (cbN : Nat → Option Fault) (w : Nat) {reg u0 : Bool} {k : Nat} {s : St σ α β}
    {r : RunSt (σ × Nat) α β} (hu : SimU reg u0 k s r) (n : Notif β) :
    ∃ s', dPush (nextPlan cbN) w s n = (s', none) ∧ SimU reg u0 k s' (r.push n) := by
  have hd := hu.d
  cases ho : s.dOpen
  · -- D is closed: the notification is refused (after a terminal `unsubscribe()` is called again: a no-op)
    have hdd : s.dDone = true := by rw [hd.ddone, ho]; rfl
    have hr : r.push n = { r with drops := r.drops ++ [.down n] } := by
      simp only [RunSt.push, hd.down, ho, Bool.false_eq_true, if_false]
    rw [hr]
    refine ⟨{ s with drops := s.drops ++ [.down n] }, ?_,
      ⟨hd.down, hd.out, by rw [hd.drops], hd.ddone, hd.ureg, hd.dreg, hd.closed, hd.udone⟩,
      hu.st, hu.unh, hu.subs, hu.uOpen, hu.uDone, hu.rel⟩
    cases n <;> simp only [dPush, dUnsub, ho, hdd, Bool.false_eq_true, if_false, if_true]
  · have hr : r.push n = { r with out := r.out ++ [n], downOpen := !n.isTerminal } := by
      simp only [RunSt.push, hd.down, ho, if_true]
    rw [hr]
    cases n with
    | next c v =>
      exact ⟨{ s with trace := s.trace ++ [.next c v], fnN := s.fnN + 1 }, by rw [dPush, if_pos ho]; rfl,
        ⟨ho.symm, by rw [hd.out], hd.drops, hd.ddone, hd.ureg, hd.dreg, hd.closed, hd.udone⟩,
        hu.st, hu.unh, hu.subs, hu.uOpen, hu.uDone, hu.rel⟩
    | error c e =>
      simp only [dPush, ho, if_true]
      exact dClose_sim cbN w hu ho (.error c e) (s.fnE + 1) s.fnC
    | complete c =>
      simp only [dPush, ho, if_true]
      exact dClose_sim cbN w hu ho (.complete c) s.fnE (s.fnC + 1)

theorem dPushAll_sim (cbN : Nat → Option Fault) (w : Nat) {reg u0 : Bool} {k : Nat} (ns : List (Notif β)) :
    ∀ {s : St σ α β} {r : RunSt (σ × Nat) α β}, SimU reg u0 k s r →
      ∃ s', dPushAll (nextPlan cbN) w s ns = (s', none) ∧ SimU reg u0 k s' (r.pushAll ns) := by
  induction ns with
  | nil => intro s r hu; exact ⟨s, rfl, hu⟩
  | cons n ns ih =>
    intro s r hu
    obtain ⟨s1, e1, hu1⟩ := dPush_sim cbN w hu n
    obtain ⟨s2, e2, h2⟩ := ih hu1
    exact ⟨s2, by rw [dPushAll, e1]; exact e2, h2⟩

/-! ### the operator layer -/

/-- a reaction of the closure: it assigns its locals and counters, then emits -/
theorem emit_sim (cbN : Nat → Option Fault) (w : Nat) {reg u0 : Bool} {k : Nat} {s : St σ α β}
    {r : RunSt (σ × Nat) α β} (hu : SimU reg u0 k s r) (m : σ) (a b c : Nat) (f : List Err) (ns : List (Notif β)) :
    ∃ s', dPushAll (nextPlan cbN) w { s with ms := m, nN := a, nE := b, nC := c, fired := f } ns = (s', none) ∧
      SimU reg u0 k s' (({ r with st := (m, a) } : RunSt (σ × Nat) α β).pushAll ns) :=
  dPushAll_sim cbN w ns ⟨⟨hu.d.down, hu.d.out, hu.d.drops, hu.d.ddone, hu.d.ureg, hu.d.dreg, hu.d.closed, hu.d.udone⟩,
    rfl, hu.unh, hu.subs, hu.uOpen, hu.uDone, hu.rel⟩

theorem opError_eq (fm : FMachine σ α β) (cbN : Nat → Option Fault) (s : St σ α β) (c : Ctx) (e : Err) :
    opError fm (nextPlan cbN) s c e =
      dPushAll (nextPlan cbN) fm.tdWraps
        { s with ms := (fm.base.onError s.ms c e).1, nN := s.nN, nE := if fm.callsE s.ms then s.nE + 1 else s.nE, nC := s.nC }
        (fm.base.onError s.ms c e).2 := by
  unfold opError
  cases fm.callsE s.ms <;> simp [panicAt]

theorem opComplete_eq (fm : FMachine σ α β) (cbN : Nat → Option Fault) (s : St σ α β) (c : Ctx) :
    opComplete fm (nextPlan cbN) s c =
      dPushAll (nextPlan cbN) fm.tdWraps
        { s with ms := (fm.base.onComplete s.ms c).1, nN := s.nN, nE := s.nE, nC := if fm.callsC s.ms then s.nC + 1 else s.nC }
        (fm.base.onComplete s.ms c).2 := by
  unfold opComplete
  cases fm.callsC s.ms <;> simp [panicAt]

/-- the Error callback of O -/
theorem oTryError_sim (fm : FMachine σ α β) (cbN : Nat → Option Fault) {reg u0 : Bool} {k : Nat} {s : St σ α β}
    {r : RunSt (σ × Nat) α β} (hu : SimU reg u0 k s r) (c : Ctx) (e : Err) :
    SimU reg u0 k (oTryError fm (nextPlan cbN) s c e)
      (({ r with st := ((fm.base.onError s.ms c e).1, s.nN) } : RunSt (σ × Nat) α β).pushAll (fm.base.onError s.ms c e).2) := by
  obtain ⟨s', e', h'⟩ := emit_sim cbN fm.tdWraps hu (fm.base.onError s.ms c e).1 s.nN
    (if fm.callsE s.ms then s.nE + 1 else s.nE) s.nC s.fired (fm.base.onError s.ms c e).2
  rw [oTryError, opError_eq, e']
  exact h'

/-- the Complete callback of O -/
theorem oTryComplete_sim (fm : FMachine σ α β) (cbN : Nat → Option Fault) {reg u0 : Bool} {k : Nat} {s : St σ α β}
    {r : RunSt (σ × Nat) α β} (hu : SimU reg u0 k s r) (c : Ctx) :
    SimU reg u0 k (oTryComplete fm (nextPlan cbN) s c)
      (({ r with st := ((fm.base.onComplete s.ms c).1, s.nN) } : RunSt (σ × Nat) α β).pushAll (fm.base.onComplete s.ms c).2) := by
  obtain ⟨s', e', h'⟩ := emit_sim cbN fm.tdWraps hu (fm.base.onComplete s.ms c).1 s.nN s.nE
    (if fm.callsC s.ms then s.nC + 1 else s.nC) s.fired (fm.base.onComplete s.ms c).2
  rw [oTryComplete, opComplete_eq, e']
  exact h'

/-- the Next callback of O against one step of the injected machine -/
theorem oTryNext_sim (fm : FMachine σ α β) (cbN : Nat → Option Fault) {reg u0 : Bool} {k : Nat} {s : St σ α β}
    {r : RunSt (σ × Nat) α β} (hu : SimU reg u0 k s r) (c : Ctx) (v : α) :
    SimU reg u0 k (oTryNext fm (nextPlan cbN) s c v)
      (({ r with st := ((inject fm cbN).onNext (s.ms, s.nN) c v).1 } : RunSt (σ × Nat) α β).pushAll
        ((inject fm cbN).onNext (s.ms, s.nN) c v).2) := by
  -- the user callback returned (or was not called): the closure reacts as the base machine does
  have ok : ∀ (s0 : St σ α β) (a : Nat), s0 = { s with nN := a } →
      SimU reg u0 k (oRecoverNext fm (nextPlan cbN) c (opNextOk fm (nextPlan cbN) s0 c v))
        (({ r with st := ((fm.base.onNext s.ms c v).1, a) } : RunSt (σ × Nat) α β).pushAll (fm.base.onNext s.ms c v).2) := by
    intro s0 a hs0
    obtain ⟨s', e', h'⟩ := emit_sim cbN fm.tdWraps hu (fm.base.onNext s.ms c v).1 a s.nE s.nC s.fired
      (fm.base.onNext s.ms c v).2
    simp only [hs0, opNextOk, e', oRecoverNext]
    exact h'
  -- it panicked: `tryNext` hands `observer(p)` to O's own error callback
  have panic : ∀ p : Err,
      SimU reg u0 k (oTryError fm (nextPlan cbN) (({ s with nN := s.nN + 1 } : St σ α β).fire p) c (.observer p))
        (({ r with st := ((fm.base.onError s.ms c (.observer p)).1, s.nN + 1) } : RunSt (σ × Nat) α β).pushAll
          (fm.base.onError s.ms c (.observer p)).2) := fun p =>
    oTryError_sim fm cbN (s := ({ s with nN := s.nN + 1 } : St σ α β).fire p) (r := { r with st := (s.ms, s.nN + 1) })
      ⟨⟨hu.d.down, hu.d.out, hu.d.drops, hu.d.ddone, hu.d.ureg, hu.d.dreg, hu.d.closed, hu.d.udone⟩,
        rfl, hu.unh, hu.subs, hu.uOpen, hu.uDone, hu.rel⟩ c (.observer p)
  unfold oTryNext opNext
  cases hc : fm.callsN s.ms c v
  · simpa only [inject, hc, Bool.false_eq_true, if_false] using ok s s.nN rfl
  · cases hp : cbN s.nN with
    | none => simpa only [inject, hc, hp, if_true, nextPlan_cbN] using ok { s with nN := s.nN + 1 } (s.nN + 1) rfl
    | some f =>
      cases f with
      | panicErr p => simpa only [inject, hc, hp, if_true, nextPlan_cbN, oRecoverNext] using panic p
      | panicVal n => simpa only [inject, hc, hp, if_true, nextPlan_cbN, oRecoverNext] using panic (.panicVal n)
      | errRet e =>
        cases hh : fm.onErrRet with
        | none => simpa only [inject, hc, hp, hh, if_true, nextPlan_cbN] using ok { s with nN := s.nN + 1 } (s.nN + 1) rfl
        | some hf =>
          obtain ⟨s', e', h'⟩ := emit_sim cbN fm.tdWraps hu (hf s.ms c v e).1 (s.nN + 1) s.nE s.nC s.fired (hf s.ms c v e).2
          simp only [inject, hc, hp, hh, if_true, nextPlan_cbN, e', oRecoverNext]
          exact h'

/-! ### one notification from the producer -/

/-- the two states as a whole, between two notifications of the producer -/
structure Sim (reg : Bool) (s : St σ α β) (r : RunSt (σ × Nat) α β) : Prop where
  d : SimD reg s r
  st : r.st = (s.ms, s.nN)
  up : r.upOpen = s.uOpen
  unh : s.unhandled = []
  udone : s.uDone = !s.uOpen
  rel : s.rel = if s.uDone && reg then 1 else 0
  subs : s.subs = 1

def modeOf (reg : Bool) : SrcMode := if reg then .hot else .sync

theorem uUnsub_eq (cbN : Nat → Option Fault) (s : St σ α β) :
    uUnsub (nextPlan cbN) s =
      (if s.uDone then s else { s with uDone := true, rel := if s.uReg then s.rel + 1 else s.rel }, none) := by
  unfold uUnsub
  cases s.uDone <;> cases s.uReg <;> rfl

theorem SimD.settle {reg : Bool} {s : St σ α β} {r : RunSt (σ × Nat) α β} (h : SimD reg s r) (b : Bool) (t : List Nat) :
    SimD reg s { r with upOpen := b, steps := t } :=
  ⟨h.down, h.out, h.drops, h.ddone, h.ureg, h.dreg, h.closed, h.udone⟩

theorem inject_step_next (fm : FMachine σ α β) (cbN : Nat → Option Fault) (t : σ × Nat) (c : Ctx) (v : α) :
    (inject fm cbN).step t (.next c v) = (inject fm cbN).onNext t c v := rfl
theorem inject_step_error (fm : FMachine σ α β) (cbN : Nat → Option Fault) (t : σ × Nat) (c : Ctx) (e : Err) :
    (inject fm cbN).step t (.error c e) = (((fm.base.onError t.1 c e).1, t.2), (fm.base.onError t.1 c e).2) := rfl
theorem inject_step_complete (fm : FMachine σ α β) (cbN : Nat → Option Fault) (t : σ × Nat) (c : Ctx) :
    (inject fm cbN).step t (.complete c) = (((fm.base.onComplete t.1 c).1, t.2), (fm.base.onComplete t.1 c).2) := rfl

/-- O has handled a value: only D's teardown may have closed U -/
theorem Sim.ofNext {reg : Bool} {s : St σ α β} {r : RunSt (σ × Nat) α β} (hu : SimU reg true 1 s r) (b : Nat) :
    Sim reg s (r.settle (modeOf reg) false b) := by
  have ho : s.uOpen = (!reg || s.dOpen) := hu.uOpen
  have hud : s.uDone = !s.uOpen := hu.uDone
  refine ⟨hu.d.settle _ _, hu.st, ?_, hu.unh, hud, ?_, hu.subs⟩
  · simp only [RunSt.settle, Bool.false_or]
    rw [ho, hu.d.down]
    cases reg <;> cases s.dOpen <;> rfl
  · rw [hu.rel, hud, ho]
    cases reg <;> cases s.dOpen <;> rfl

/-- O has handled the source's terminal: U runs its finalizers -/
theorem Sim.ofTerminal (cbN : Nat → Option Fault) {reg : Bool} {s : St σ α β} {r : RunSt (σ × Nat) α β}
    (hu : SimU reg false 1 s r) (b : Nat) :
    (uUnsub (nextPlan cbN) s).2 = none ∧ Sim reg (uUnsub (nextPlan cbN) s).1 (r.settle (modeOf reg) true b) := by
  have hd := hu.d
  have ho : s.uOpen = false := hu.uOpen
  have hud : s.uDone = false := hu.uDone
  have hrel : s.rel = 0 := by rw [hu.rel, hud]; rfl
  rw [uUnsub_eq, hud]
  exact ⟨rfl, ⟨hd.down, hd.out, hd.drops, hd.ddone, hd.ureg, hd.dreg, fun _ _ => ho, fun h => by rw [ho] at h; cases h⟩,
    hu.st, ho.symm, hu.unh, by rw [ho]; rfl, by rw [hd.ureg, hrel]; cases reg <;> rfl, hu.subs⟩

theorem uFeed_sim (fm : FMachine σ α β) (cbN : Nat → Option Fault) (reg : Bool) (s : St σ α β)
    (r : RunSt (σ × Nat) α β) (h : Sim reg s r) (x : Notif α) :
    (uFeed fm (nextPlan cbN) s x).2 = none ∧
      Sim reg (uFeed fm (nextPlan cbN) s x).1 (r.feed (inject fm cbN) (modeOf reg) x) := by
  cases hu : s.uOpen
  · -- U is closed: the notification is refused (and a terminal calls `unsubscribe()` again, a no-op)
    have hud : s.uDone = true := by rw [h.udone, hu]; rfl
    have e1 : r.feed (inject fm cbN) (modeOf reg) x = { r with drops := r.drops ++ [.up x], steps := r.steps ++ [0] } := by
      simp only [RunSt.feed, h.up, hu, Bool.false_eq_true, if_false]
    have e2 : uFeed fm (nextPlan cbN) s x = ({ s with drops := s.drops ++ [.up x] }, none) := by
      cases x <;> simp only [uFeed, hu, uUnsub_eq, hud, Bool.false_eq_true, if_false, if_true]
    rw [e1, e2]
    exact ⟨rfl, ⟨h.d.down, h.d.out, by rw [h.d.drops], h.d.ddone, h.d.ureg, h.d.dreg, h.d.closed, h.d.udone⟩,
      h.st, h.up, h.unh, h.udone, h.rel, h.subs⟩
  · have hud : s.uDone = false := by rw [h.udone, hu]; rfl
    have hrel : s.rel = 0 := by rw [h.rel, hud]; rfl
    -- the state in which O's callback runs: U's status word is cleared before a terminal is handed over
    have hN : SimU reg true 1 s r := by
      refine ⟨h.d, h.st, h.unh, h.subs, ?_, by rw [hud, hu]; rfl, by rw [hrel, hud]; rfl⟩
      cases reg
      · exact hu
      · cases hd : s.dOpen
        · rw [h.d.closed rfl hd] at hu; cases hu
        · exact hu
    have hT : SimU reg false 1 { s with uOpen := false } r :=
      ⟨⟨h.d.down, h.d.out, h.d.drops, h.d.ddone, h.d.ureg, h.d.dreg, fun _ _ => rfl, nofun⟩,
        h.st, h.unh, h.subs, rfl, hud, by rw [hrel, hud]; rfl⟩
    have hr : r.upOpen = true := h.up.trans hu
    rw [RunSt.feed, if_pos hr, h.st]
    cases x with
    | next c v =>
      simp only [uFeed, hu, if_true]
      exact ⟨trivial, Sim.ofNext (oTryNext_sim fm cbN hN c v) _⟩
    | error c e =>
      simp only [uFeed, hu, if_true]
      exact Sim.ofTerminal cbN (oTryError_sim fm cbN hT c e) _
    | complete c =>
      simp only [uFeed, hu, if_true]
      exact Sim.ofTerminal cbN (oTryComplete_sim fm cbN hT c) _

/-! ### whole scripts -/

theorem srcBody_sim (fm : FMachine σ α β) (cbN : Nat → Option Fault) (raw : List (Notif α)) :
    ∀ (i : Nat) (s : St σ α β) (r : RunSt (σ × Nat) α β), Sim false s r →
      (srcBody fm (nextPlan cbN) i raw s).2 = none ∧
      Sim false (srcBody fm (nextPlan cbN) i raw s).1 (raw.foldl (RunSt.feed (inject fm cbN) .sync) r) := by
  induction raw with
  | nil => intro i s r h; exact ⟨rfl, h⟩
  | cons x xs ih =>
    intro i s r h
    obtain ⟨p1, p2⟩ := uFeed_sim fm cbN false s r h x
    rw [srcBody, eq_none p1]
    exact ih (i + 1) _ _ p2

theorem pushAfter_sim (fm : FMachine σ α β) (cbN : Nat → Option Fault) (raw : List (Notif α)) :
    ∀ (s : St σ α β) (r : RunSt (σ × Nat) α β) (esc : List Err), Sim true s r →
      (pushAfter fm (nextPlan cbN) (s, esc) raw).2 = esc ∧
      Sim true (pushAfter fm (nextPlan cbN) (s, esc) raw).1 (raw.foldl (RunSt.feed (inject fm cbN) .hot) r) := by
  induction raw with
  | nil => intro s r esc h; exact ⟨rfl, h⟩
  | cons x xs ih =>
    intro s r esc h
    obtain ⟨p1, p2⟩ := uFeed_sim fm cbN true s r h x
    have hs : s.subs ≠ 0 := by rw [h.subs]; decide
    simp only [pushAfter, hs, if_false, p1, Option.toList, List.append_nil, List.foldl]
    exact ih _ _ esc p2

/-- the state in which the operator's subscribe function subscribes to its source -/
theorem start_sim (fm : FMachine σ α β) (cbN : Nat → Option Fault) (sub : Ctx)
    (hsub : hasTerm (fm.base.onSubscribe fm.base.init sub).2 = false) :
    ∃ s1 : St σ α β,
      dPushAll (nextPlan cbN) fm.tdWraps ({ ({ ms := fm.base.init } : St σ α β) with ms := (fm.base.onSubscribe fm.base.init sub).1 })
        (fm.base.onSubscribe fm.base.init sub).2 = (s1, none) ∧
      SimU false true 0 s1 ((inject fm cbN).start sub) ∧ s1.dOpen = true := by
  obtain ⟨s1, e1, hu⟩ := emit_sim cbN fm.tdWraps (reg := false) (u0 := true) (k := 0) (s := ({ ms := fm.base.init } : St σ α β))
    (r := { st := (fm.base.init, 0) })
    ⟨⟨rfl, rfl, rfl, rfl, rfl, rfl, nofun, fun _ => rfl⟩, rfl, rfl, rfl, rfl, rfl, rfl⟩
    (fm.base.onSubscribe fm.base.init sub).1 0 0 0 [] (fm.base.onSubscribe fm.base.init sub).2
  refine ⟨s1, e1, hu, ?_⟩
  rw [← hu.d.down]
  exact (start_tracks (inject fm cbN) sub).open_.trans (congrArg (!·) hsub)

end Ro.Fault
