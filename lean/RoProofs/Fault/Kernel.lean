/-
  RoProofs.Fault.Kernel — the subscription kernel under panicking finalizers, the `go` wrapper, and
  the per-operator side conditions (`Forwards`) of the catalogue closures.
-/
import RoProofs.Fault.Account
import RoModel.Fault.Ops
namespace Ro.Fault
open Ro
variable {α β κ : Type}

/-! ### `subscriptionImpl.Unsubscribe` with any subset of panicking finalizers -/

theorem runFinalizers_loop (fs : List (Option Err)) (n : Nat) (acc : List Err) :
    fs.foldl finStep (n, acc) = (n + fs.length, acc ++ fs.filterMap execFinalizer) := by
  induction fs generalizing n acc with
  | nil => simp
  | cons f fs ih =>
    simp only [List.foldl, List.length_cons, finStep]
    rw [ih]
    cases h : execFinalizer f <;> simp [h] <;> omega

/-- every finalizer runs, whatever the others do; what is re-raised after the loop is exactly the
    list of `unsubscriptionError`s of the panicking ones, in order -/
theorem runFinalizers_spec (fs : List (Option Err)) :
    (runFinalizers fs).1 = fs.length ∧
    (runFinalizers fs).2 = fs.filterMap (fun f => f.map Err.unsubscription) := by
  unfold runFinalizers
  rw [runFinalizers_loop]
  simp only [Nat.zero_add, List.nil_append, true_and]
  rfl

/-- each panic of a finalizer is still reachable through `Unwrap` from what is re-raised -/
theorem runFinalizers_cause (fs : List (Option Err)) (p : Err) (h : some p ∈ fs) :
    ∃ e ∈ (runFinalizers fs).2, p ∈ e.chain := by
  rw [(runFinalizers_spec fs).2]
  exact ⟨.unsubscription p, List.mem_filterMap.mpr ⟨some p, h, rfl⟩, Err.mem_chain_unsubscription p p (Err.self_mem_chain p)⟩

/-- nothing is raised iff no finalizer panics -/
theorem runFinalizers_quiet (fs : List (Option Err)) :
    (runFinalizers fs).2 = [] ↔ ∀ f ∈ fs, f = none := by
  rw [(runFinalizers_spec fs).2, List.filterMap_eq_nil_iff]
  simp only [Option.map_eq_none_iff]

/-! ### `go` statements -/

/-- a recovered goroutine never crashes the process; its panic goes to the unhandled-error hook -/
theorem goBody_recovered (p : Option Err) : ∀ e, goBody true p ≠ .crash e := by
  intro e; cases p <;> simp [goBody]

/-- a bare goroutine crashes the process exactly when its body panics -/
theorem goBody_bare (p : Option Err) : (∃ e, goBody false p = .crash e) ↔ p.isSome = true := by
  cases p <;> simp [goBody]

/-! ### the catalogue closures forward errors where they call their callback -/

theorem always_forwards {σ : Type} (m : Machine σ α β) (h : ∀ s c e, (m.onError s c e).2 = [.error c e]) :
    Forwards (always m) := ⟨fun s c _ _ e => h s c e, fun _ _ _ _ => rfl⟩

theorem filterF_forwards (p : Pred α) : Forwards (filterF p) := always_forwards _ (fun _ _ _ => rfl)
theorem distinctByF_forwards [DecidableEq κ] (key : Ctx → α → Ctx × κ) : Forwards (distinctByF key) :=
  always_forwards _ (fun _ _ _ => rfl)
theorem firstF_forwards (p : Pred α) : Forwards (firstF p) := always_forwards _ (fun _ _ _ => rfl)
theorem lastF_forwards (p : Pred α) : Forwards (lastF p) := always_forwards _ (fun _ _ _ => rfl)
theorem mapF_forwards (f : Ctx → α → Nat → Ctx × β) : Forwards (mapF f) := always_forwards _ (fun _ _ _ => rfl)
theorem scanF_forwards (f : Ctx → β → α → Nat → Ctx × β) (seed : β) : Forwards (scanF f seed) :=
  always_forwards _ (fun _ _ _ => rfl)
theorem toMapF_forwards [DecidableEq κ] (kv : Ctx → α → Nat → κ × β) : Forwards (toMapF kv) :=
  always_forwards _ (fun _ _ _ => rfl)
theorem containsF_forwards (p : Ctx → α → Nat → Bool) : Forwards (containsF p) := always_forwards _ (fun _ _ _ => rfl)
theorem findF_forwards (p : Ctx → α → Nat → Bool) : Forwards (findF p) := always_forwards _ (fun _ _ _ => rfl)
theorem reduceF_forwards (f : Ctx → β → α → Nat → Ctx × β) (seed : β) : Forwards (reduceF f seed) :=
  always_forwards _ (fun _ _ _ => rfl)
theorem mapErrF_forwards (f : Ctx → α → Nat → β × Ctx × Option Err) : Forwards (mapErrF f) :=
  ⟨fun _ _ _ _ _ => rfl, fun _ _ _ _ => rfl⟩
theorem skipWhileF_forwards (p : Pred α) : Forwards (skipWhileF p) := ⟨fun _ _ _ _ _ => rfl, fun _ _ _ _ => rfl⟩
theorem allF_forwards (p : Ctx → α → Nat → Bool) : Forwards (allF p) := ⟨fun _ _ _ _ _ => rfl, fun _ _ _ _ => rfl⟩
/-- `TakeWhile` forwards an error only while it has not completed downstream — and that is exactly
    when it still calls its predicate -/
theorem takeWhileF_forwards (p : Pred α) : Forwards (takeWhileF p) := by
  refine ⟨?_, fun _ _ _ _ => rfl⟩
  intro s c v h e
  have hs : s.1 = false := by simpa [takeWhileF] using h
  simp [takeWhileF, takeWhileM, hs]
/-- operators without callbacks satisfy the side conditions vacuously -/
theorem plain_forwards {σ : Type} (m : Machine σ α β) : Forwards (plain m) :=
  ⟨fun _ _ _ h => (by cases h), fun _ _ _ h => (by cases h)⟩
theorem throwIfEmptyF_forwards (e : Err) : Forwards (throwIfEmptyF (α := α) e) :=
  ⟨fun _ _ _ h => (by cases h), fun _ _ _ h => (by cases h)⟩
theorem catchF_forwards (fb : Ctx → Err → List (Notif α)) : Forwards (catchF fb) :=
  ⟨fun _ _ _ h => (by cases h), fun _ _ _ h => (by cases h)⟩

end Ro.Fault
