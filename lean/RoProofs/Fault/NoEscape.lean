/-
  RoProofs.Fault.NoEscape — for EVERY fault plan that leaves the source's teardown alone (any
  number of panics, in the operator's callbacks of all positions, in the source's subscribe
  function, in the final observer's three callbacks) and every operator machine, no panic reaches
  the goroutine that called Subscribe / Next / Error / Complete / Unsubscribe.
-/
import RoModel.Fault
namespace Ro.Fault
open Ro
variable {σ α β : Type}

/-- a call that lets no panic through, as a pair -/
theorem eq_none {q : St σ α β × Option Err} (h : q.2 = none) : q = (q.1, none) := by
  obtain ⟨q1, q2⟩ := q; cases h; rfl

section
variable (P : Plan) (htd : P.srcTd = none)
include htd

theorem uUnsub_none (s : St σ α β) : (uUnsub P s).2 = none := by
  unfold uUnsub
  rw [htd]
  cases s.uDone <;> cases s.uReg <;> rfl

theorem opTeardown_none (s : St σ α β) : (opTeardown P s).2 = none := by
  unfold opTeardown
  split
  · exact uUnsub_none P htd _
  · rfl

theorem dUnsub_none (w : Nat) (s : St σ α β) : (dUnsub P w s).2 = none := by
  unfold dUnsub
  rw [eq_none (opTeardown_none P htd _)]
  split
  · rfl
  · split <;> rfl

theorem dUnsubscribe_none (w : Nat) (s : St σ α β) : (dUnsubscribe P w s).2 = none := by
  unfold dUnsubscribe
  split
  · exact dUnsub_none P htd w _
  · rfl

theorem dPush_none (w : Nat) (s : St σ α β) (n : Notif β) : (dPush P w s n).2 = none := by
  cases n <;> simp only [dPush] <;> split <;> first | rfl | exact dUnsub_none P htd w _

theorem dPushAll_none (w : Nat) (ns : List (Notif β)) : ∀ s : St σ α β, (dPushAll P w s ns).2 = none := by
  induction ns with
  | nil => intro s; rfl
  | cons n ns ih => intro s; rw [dPushAll, eq_none (dPush_none P htd w s n)]; exact ih _

theorem uFeed_none (fm : FMachine σ α β) (s : St σ α β) (x : Notif α) : (uFeed fm P s x).2 = none := by
  cases x <;> simp only [uFeed] <;> split <;> first | rfl | exact uUnsub_none P htd _

theorem srcCatch_none (fm : FMachine σ α β) (sub : Ctx) (s : St σ α β) (p : Err) : (srcCatch fm P sub s p).2 = none := by
  rw [srcCatch, eq_none (uFeed_none P htd fm s _)]
  exact opTeardown_none P htd _

theorem srcSubscribe_none (fm : FMachine σ α β) (sub : Ctx) (inside : List (Notif α)) (s : St σ α β) :
    (srcSubscribe fm P sub inside s).2 = none := by
  unfold srcSubscribe
  rw [htd]
  generalize srcBody fm P 0 inside { s with subs := s.subs + 1 } = q
  obtain ⟨q1, q2⟩ := q
  cases q2 with
  | some p => exact srcCatch_none P htd fm sub q1 p
  | none =>
    simp only
    split <;> rfl

theorem opCatch_none (w : Nat) (sub : Ctx) (s : St σ α β) (p : Err) : (opCatch P w sub s p).2 = none := by
  rw [opCatch, eq_none (dPush_none P htd w s _)]
  exact dUnsubscribe_none P htd w _

theorem opSubscribe_none (fm : FMachine σ α β) (sub : Ctx) (inside : List (Notif α)) :
    (opSubscribe fm P sub inside).2 = none := by
  unfold opSubscribe
  generalize opBody fm P sub inside { ms := fm.base.init } = q
  obtain ⟨q1, q2⟩ := q
  cases q2 with
  | some p => exact opCatch_none P htd _ sub q1 p
  | none =>
    simp only
    rw [eq_none (opTeardown_none P htd q1)]
    split
    · rfl
    · split <;> rfl

theorem pushAfter_none (fm : FMachine σ α β) (raw : List (Notif α)) :
    ∀ (s : St σ α β) (esc : List Err), (pushAfter fm P (s, esc) raw).2 = esc := by
  induction raw with
  | nil => intro s esc; rfl
  | cons x xs ih =>
    intro s esc
    simp only [pushAfter]
    split
    · exact ih s esc
    · rw [ih, uFeed_none P htd fm s x]; simp

/-- **C07, "never escapes as a panic".** -/
theorem no_escape (fm : FMachine σ α β) (mode : SrcMode) (sub : Ctx) (raw : List (Notif α)) :
    (runScript fm P mode sub raw).2 = [] := by
  cases mode
  · simp [runScript, opSubscribe_none P htd fm sub raw]
  · simp only [runScript]
    rw [pushAfter_none P htd fm raw, opSubscribe_none P htd fm sub []]
    rfl

/-- … nor from the follow-up notification, nor from the final `Unsubscribe()` -/
theorem no_escape_fin (fm : FMachine σ α β) (mode : SrcMode) (sub : Ctx) (raw : List (Notif α)) (fu : Notif α) :
    (run fm P mode sub raw fu).escaped = [] ∧ (run fm P mode sub raw fu).escapedFin = [] := by
  refine ⟨no_escape P htd fm mode sub raw, ?_⟩
  simp only [run]
  rw [pushAfter_none P htd fm [fu], dUnsubscribe_none P htd]
  rfl

end
end Ro.Fault
