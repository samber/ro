/-
  RoProofs.Fault.Next — a fault in a Next-position callback: what is delivered.

  For every operator machine with its call sites, every plan over the Next-position callback whose
  *first* failing invocation is number `k`, a panic with recovered value `p` or a returned error:
  the final observer receives exactly what the un-faulted operator delivers for the inputs before
  the faulting one, followed by `Error(observer(p))` with the faulting input's context (the
  returned error as it is) — unless the operator had already terminated downstream, in which case
  nothing changes. Later faults have no effect on the trace (`first_fault_run`).
-/
import RoProofs.Fault.Run
import RoProofs.Fault.Grammar
import RoProofs.Script
namespace Ro.Fault
open Ro
variable {σ α β : Type}

/-- number of invocations of the Next-position callback the un-faulted operator makes over a script -/
def countCalls (fm : FMachine σ α β) : σ → List (Notif α) → Nat
  | _, [] => 0
  | s, .next c v :: xs => (if fm.callsN s c v then 1 else 0) + countCalls fm (fm.base.onNext s c v).1 xs
  | s, .error c e :: xs => countCalls fm (fm.base.onError s c e).1 xs
  | s, .complete c :: xs => countCalls fm (fm.base.onComplete s c).1 xs

theorem emits_cons {σ' : Type} (m : Machine σ' α β) (s : σ') (x : Notif α) (xs : List (Notif α)) :
    m.emits s (x :: xs) = (m.step s x).2 ++ m.emits (m.step s x).1 xs := rfl
theorem after_cons {σ' : Type} (m : Machine σ' α β) (s : σ') (x : Notif α) (xs : List (Notif α)) :
    m.after s (x :: xs) = m.after (m.step s x).1 xs := rfl

theorem countCalls_cons (fm : FMachine σ α β) (s : σ) (x : Notif α) (xs : List (Notif α)) :
    countCalls fm s (x :: xs) = countCalls fm s [x] + countCalls fm (fm.base.step s x).1 xs := by
  cases x <;> simp [countCalls, Machine.step]

/-- a step of the injected machine at an invocation that is not planned to fail is the base machine's step; the
    counter advances if the callback was called -/
theorem inject_step_ok (fm : FMachine σ α β) (cbN : Nat → Option Fault) (s : σ) (n : Nat) (x : Notif α)
    (h : 0 < countCalls fm s [x] → cbN n = none) :
    (inject fm cbN).step (s, n) x = (((fm.base.step s x).1, n + countCalls fm s [x]), (fm.base.step s x).2) := by
  cases x with
  | next c v =>
    cases hc : fm.callsN s c v
    · simp [Machine.step, inject, countCalls, hc]
    · simp [Machine.step, inject, countCalls, hc, h (by simp [countCalls, hc])]
  | error c e => rfl
  | complete c => rfl

/-- while no planned invocation is reached, the injected machine is the base machine with a counter -/
theorem inject_before (fm : FMachine σ α β) (cbN : Nat → Option Fault) (pre : List (Notif α)) :
    ∀ (s : σ) (n : Nat), (∀ i, n ≤ i → i < n + countCalls fm s pre → cbN i = none) →
      (inject fm cbN).emits (s, n) pre = fm.base.emits s pre ∧
      (inject fm cbN).after (s, n) pre = (fm.base.after s pre, n + countCalls fm s pre) := by
  induction pre with
  | nil => intro s n _; exact ⟨rfl, rfl⟩
  | cons x xs ih =>
    intro s n h
    rw [countCalls_cons] at h ⊢
    obtain ⟨i1, i2⟩ := ih (fm.base.step s x).1 (n + countCalls fm s [x]) (fun i h1 h2 => h i (by omega) (by omega))
    rw [emits_cons, after_cons, emits_cons, after_cons,
      inject_step_ok fm cbN s n x (fun hp => h n (Nat.le_refl n) (by omega)), i1, i2, Nat.add_assoc]
    exact ⟨rfl, rfl⟩

/-! ### the first failing invocation -/

theorem gate_prefix_noTerm (l pre post : List (Notif α)) (x : Notif α) (h : gate l = pre ++ x :: post) :
    hasTerm pre = false := by
  induction l generalizing pre with
  | nil => simp at h
  | cons y ys ih =>
    cases pre with
    | nil => rfl
    | cons p ps =>
      simp only [gate] at h
      cases hy : y.isTerminal
      · simp only [hy, Bool.false_eq_true, if_false, List.cons_append, List.cons.injEq] at h
        simp only [hasTerm_cons, ← h.1, hy, Bool.false_or]
        exact ih ps h.2
      · simp [hy] at h

/-- The first planned outcome that is not a normal return comes at the invocation made for the input `next c v`
    that follows the prefix `pre` of the gated script, and the faulty operator reacts by emitting `Error(c', e')`
    and nothing else. Then the final observer sees what the un-faulted operator delivers for `pre`, then that
    error — or no change at all when the operator had already ended; nothing escapes, nothing is left for the
    unhandled-error hook, everything is closed and the source's teardown ran exactly once. -/
theorem first_fault_run (fm : FMachine σ α β) (cbN : Nat → Option Fault) (mode : SrcMode) (sub : Ctx)
    (raw pre post : List (Notif α)) (c c' : Ctx) (v : α) (e' : Err) (t : σ × Nat)
    (hs : fm.base.subscribes = true)
    (hsub : hasTerm (fm.base.onSubscribe fm.base.init sub).2 = false)
    (hraw : gate raw = pre ++ .next c v :: post)
    (hfirst : ∀ i, i < countCalls fm (fm.base.onSubscribe fm.base.init sub).1 pre → cbN i = none)
    (hstep : (inject fm cbN).step (fm.base.after (fm.base.onSubscribe fm.base.init sub).1 pre,
        countCalls fm (fm.base.onSubscribe fm.base.init sub).1 pre) (.next c v) = (t, [.error c' e'])) :
    (runScript fm (nextPlan cbN) mode sub raw).2 = [] ∧
    (runScript fm (nextPlan cbN) mode sub raw).1.trace =
      (if hasTerm (runOp fm.base mode sub pre).out then (runOp fm.base mode sub pre).out
        else (runOp fm.base mode sub pre).out ++ [.error c' e']) ∧
    Grammar (runScript fm (nextPlan cbN) mode sub raw).1.trace ∧
    (runScript fm (nextPlan cbN) mode sub raw).1.unhandled = [] ∧
    ((runScript fm (nextPlan cbN) mode sub raw).1.dOpen = false ∧ (runScript fm (nextPlan cbN) mode sub raw).1.uOpen = false ∧
      (runScript fm (nextPlan cbN) mode sub raw).1.rel = 1) := by
  obtain ⟨hesc, hag⟩ := runScript_agree fm cbN mode sub raw hs hsub
  have hsi : (inject fm cbN).subscribes = true := hs
  have hpre : hasTerm pre = false := gate_prefix_noTerm raw pre post _ hraw
  have hbefore : (runOp fm.base mode sub pre).out =
      gate ((fm.base.onSubscribe fm.base.init sub).2 ++ fm.base.emits (fm.base.onSubscribe fm.base.init sub).1 pre) := by
    rw [runOp_out _ _ _ _ hs, gate_of_noTerm pre hpre]
  obtain ⟨i1, i2⟩ := inject_before fm cbN pre (fm.base.onSubscribe fm.base.init sub).1 0
    (by intro i _ h2; exact hfirst i (by omega))
  rw [Nat.zero_add] at i2
  have hshape : (runScript fm (nextPlan cbN) mode sub raw).1.trace =
      if hasTerm (runOp fm.base mode sub pre).out then (runOp fm.base mode sub pre).out
      else (runOp fm.base mode sub pre).out ++ [.error c' e'] := by
    have e0 : (inject fm cbN).onSubscribe (inject fm cbN).init sub =
        (((fm.base.onSubscribe fm.base.init sub).1, 0), (fm.base.onSubscribe fm.base.init sub).2) := rfl
    rw [hag.trace, runOp_out _ _ _ _ hsi, hraw, e0]
    simp only []
    rw [emits_append, i1, i2, emits_cons, hstep, ← List.append_assoc, hbefore, hasTerm_gate]
    generalize (fm.base.onSubscribe fm.base.init sub).2 ++ fm.base.emits (fm.base.onSubscribe fm.base.init sub).1 pre = A
    cases hA : hasTerm A
    · rw [gate_append_of_noTerm _ _ hA, gate_of_noTerm _ hA]
      simp [gate]
    · rw [gate_append_of_term _ _ hA]
      simp
  -- a terminal was delivered, so the downstream subscriber is closed
  have hclosed : (runScript fm (nextPlan cbN) mode sub raw).1.dOpen = false := by
    refine (runScript_gi (nextPlan cbN) (fun _ => rfl) fm mode sub raw).closed ?_
    rw [hshape]
    cases hb : hasTerm (runOp fm.base mode sub pre).out <;> simp [hb]
  exact ⟨hesc, hshape, hag.trace ▸ runOp_grammar _ _ _ _, hag.unh, hclosed, hag.released hclosed⟩

/-- everything C07 asks of one run -/
structure Surfaced (fm : FMachine σ α β) (P : Plan) (mode : SrcMode) (sub : Ctx) (raw : List (Notif α))
    (before : List (Notif β)) (c : Ctx) (p : Err) : Prop where
  /-- nothing escapes into the goroutine that called Subscribe / Next / Error / Complete -/
  escaped : (runScript fm P mode sub raw).2 = []
  /-- the final observer sees what the un-faulted operator delivers for the inputs before the
      faulting one, then the error — or, when the operator had already ended, no change -/
  trace : (runScript fm P mode sub raw).1.trace =
    if hasTerm before then before else before ++ [.error c (.observer p)]
  /-- values, at most one terminal, nothing after it -/
  grammar : Grammar (runScript fm P mode sub raw).1.trace
  /-- the error still matches the original cause -/
  cause : p ∈ (Err.observer p).chain
  /-- nothing is left for the unhandled-error hook -/
  unhandled : (runScript fm P mode sub raw).1.unhandled = []
  /-- the downstream subscriber is closed, the source unsubscribed, its teardown ran exactly once -/
  released : (runScript fm P mode sub raw).1.dOpen = false ∧ (runScript fm P mode sub raw).1.uOpen = false ∧
    (runScript fm P mode sub raw).1.rel = 1

/-! ### an error *returned* by the callback of an error-aware operator (`MapErr` family) -/

structure Returned (fm : FMachine σ α β) (P : Plan) (mode : SrcMode) (sub : Ctx) (raw : List (Notif α))
    (before : List (Notif β)) (c' : Ctx) (e : Err) : Prop where
  escaped : (runScript fm P mode sub raw).2 = []
  /-- the returned error is forwarded as it is (no wrapper), with the context the reaction chose -/
  trace : (runScript fm P mode sub raw).1.trace = if hasTerm before then before else before ++ [.error c' e]
  grammar : Grammar (runScript fm P mode sub raw).1.trace
  unhandled : (runScript fm P mode sub raw).1.unhandled = []
  released : (runScript fm P mode sub raw).1.dOpen = false ∧ (runScript fm P mode sub raw).1.uOpen = false ∧
    (runScript fm P mode sub raw).1.rel = 1

end Ro.Fault
