/-
  RoProofs.Fault.Run — `Fault.runScript` under a Next-position-only plan is `runOp` of the injected
  machine: same trace, same drops, nothing escapes, nothing unhandled, upstream released.
-/
import RoProofs.Fault.Sim
namespace Ro.Fault
open Ro
set_option linter.unusedSimpArgs false
variable {σ α β : Type}

theorem cbS_none (fm : FMachine σ α β) (cbN : Nat → Option Fault) :
    (if fm.callsS then (nextPlan cbN).cbS.bind Fault.recovered else none) = none := by
  cases fm.callsS <;> rfl

theorem opSubscribe_hot (fm : FMachine σ α β) (cbN : Nat → Option Fault) (sub : Ctx)
    (hs : fm.base.subscribes = true) (hsub : hasTerm (fm.base.onSubscribe fm.base.init sub).2 = false) :
    (opSubscribe fm (nextPlan cbN) sub []).2 = none ∧
      Sim true (opSubscribe fm (nextPlan cbN) sub []).1 ((inject fm cbN).start sub) := by
  obtain ⟨s1, e1, hu, hdo⟩ := start_sim fm cbN sub hsub
  have hd := hu.d
  have huo : s1.uOpen = true := hu.uOpen
  have hud : s1.uDone = false := by rw [hu.uDone, huo]; rfl
  have hdd : s1.dDone = false := by rw [hd.ddone, hdo]; rfl
  have hbody : opBody fm (nextPlan cbN) sub [] { ms := fm.base.init } =
      ({ s1 with subs := s1.subs + 1, uReg := true }, none) := by
    simp only [opBody, cbS_none, e1, hs, if_true, srcSubscribe, srcBody, srcPanicAt, nextPlan_srcSub, hud,
      Bool.false_eq_true, if_false]
  simp only [opSubscribe, hbody, hs, Bool.not_true, Bool.false_eq_true, if_false, hdd]
  exact ⟨trivial, ⟨hd.down, hd.out, hd.drops, by rw [hdo]; rfl, rfl, rfl, fun _ h => absurd (hdo.symm.trans h) nofun, fun _ => hud⟩,
    hu.st, by rw [huo]; exact start_upOpen _ _, hu.unh, by rw [hud, huo]; rfl, by rw [hu.rel, hud]; rfl,
    congrArg (· + 1) hu.subs⟩

/-- what the fault interpreter and `runOp` agree on at the end of a script -/
structure Agree (s : St σ α β) (r : RunSt (σ × Nat) α β) : Prop where
  trace : s.trace = r.out
  drops : s.drops = r.drops
  down : s.dOpen = r.downOpen
  st : (s.ms, s.nN) = r.st
  unh : s.unhandled = []
  subs : s.subs = 1
  /-- once the downstream subscriber is closed, the source has been unsubscribed and its teardown
      has run — exactly once -/
  released : s.dOpen = false → s.uOpen = false ∧ s.rel = 1
  relLe : s.rel ≤ 1

theorem Sim.agree_hot {s : St σ α β} {r : RunSt (σ × Nat) α β} (h : Sim true s r) : Agree s r := by
  refine ⟨h.d.out.symm, h.d.drops.symm, h.d.down.symm, h.st.symm, h.unh, h.subs, ?_, ?_⟩
  · intro hd
    have hu := h.d.closed rfl hd
    have hud : s.uDone = true := by simpa [hu] using h.udone
    exact ⟨hu, by simpa [hud] using h.rel⟩
  · rw [h.rel]; split <;> decide

theorem opSubscribe_sync (fm : FMachine σ α β) (cbN : Nat → Option Fault) (sub : Ctx) (raw : List (Notif α))
    (hs : fm.base.subscribes = true) (hsub : hasTerm (fm.base.onSubscribe fm.base.init sub).2 = false) :
    (opSubscribe fm (nextPlan cbN) sub raw).2 = none ∧
      Agree (opSubscribe fm (nextPlan cbN) sub raw).1
        (raw.foldl (RunSt.feed (inject fm cbN) .sync) ((inject fm cbN).start sub)) := by
  obtain ⟨s1, e1, hu, hdo⟩ := start_sim fm cbN sub hsub
  have hd := hu.d
  have huo : s1.uOpen = true := hu.uOpen
  have hud : s1.uDone = false := by rw [hu.uDone, huo]; rfl
  have h1 : Sim false ({ s1 with subs := s1.subs + 1 }) ((inject fm cbN).start sub) :=
    ⟨⟨hd.down, hd.out, hd.drops, hd.ddone, hd.ureg, hd.dreg, hd.closed, hd.udone⟩,
      hu.st, by rw [start_upOpen]; exact huo.symm, hu.unh, by rw [hud, huo]; rfl, by rw [hu.rel, hud]; rfl,
      congrArg (· + 1) hu.subs⟩
  obtain ⟨q1, q2⟩ := srcBody_sim fm cbN raw 0 _ _ h1
  generalize hq : srcBody fm (nextPlan cbN) 0 raw { s1 with subs := s1.subs + 1 } = q at q1 q2
  obtain ⟨s2, o2⟩ := q
  cases q1
  generalize raw.foldl (RunSt.feed (inject fm cbN) .sync) ((inject fm cbN).start sub) = r2 at q2
  have hrel2 : s2.rel = 0 := by simpa using q2.rel
  have hbody : opBody fm (nextPlan cbN) sub raw { ms := fm.base.init } =
      (if s2.uDone then ({ s2 with rel := s2.rel + 1 }, none) else ({ s2 with uReg := true }, none)) := by
    have htd : (nextPlan cbN).srcTd.bind Fault.recovered = none := rfl
    simp only [opBody, cbS_none, e1, hs, if_true, srcSubscribe, hq, htd]
  have hur : s2.uReg = false := q2.d.ureg
  cases hu2 : s2.uOpen <;> cases hdn : s2.dOpen
  all_goals
    have hud2 : s2.uDone = !s2.uOpen := q2.udone
    have hdd2 : s2.dDone = !s2.dOpen := q2.d.ddone
    rw [hu2] at hud2
    rw [hdn] at hdd2
    simp only [Bool.not_false, Bool.not_true] at hud2 hdd2
    simp only [opSubscribe, hbody, hud2, hs, if_true, Bool.not_true, Bool.false_eq_true, if_false, hdd2, opTeardown, hu2,
      uUnsub_eq, hur]
    exact ⟨trivial, q2.d.out.symm, q2.d.drops.symm, q2.d.down.symm, q2.st.symm, q2.unh, q2.subs,
      by simp [hrel2, hdn], by simp [hrel2]⟩

/-- **Simulation theorem.** For every operator machine with its call sites, every plan that only
    touches the Next-position callback (any number of panics and error returns, at any
    invocations), both source modes, every subscription context and every raw script:
    no panic escapes into the goroutine that called `Subscribe` / `Next` / `Error` / `Complete`,
    and the fault interpreter ends in the state `runOp` computes for the injected machine. -/
theorem runScript_agree (fm : FMachine σ α β) (cbN : Nat → Option Fault) (mode : SrcMode) (sub : Ctx)
    (raw : List (Notif α)) (hs : fm.base.subscribes = true)
    (hsub : hasTerm (fm.base.onSubscribe fm.base.init sub).2 = false) :
    (runScript fm (nextPlan cbN) mode sub raw).2 = [] ∧
      Agree (runScript fm (nextPlan cbN) mode sub raw).1 (runOp (inject fm cbN) mode sub raw) := by
  have hsi : (inject fm cbN).subscribes = true := hs
  -- no terminal at subscribe time: the downstream subscriber is open when `Subscribe` returns, so
  -- `RunSt.afterSubscribe` (teardown added to an already closed subscription) changes nothing here;
  -- the fault interpreter has that step too (`opSubscribe`: `if s1.dDone then opTeardown …`)
  have hopen : ((inject fm cbN).start sub).downOpen = true := by
    rw [(start_tracks (inject fm cbN) sub).open_]
    simp only [inject]; rw [hsub]; rfl
  have hafter : ∀ m : SrcMode, ((inject fm cbN).start sub).afterSubscribe m = (inject fm cbN).start sub := by
    intro m; simp [RunSt.afterSubscribe, hopen]
  cases mode with
  | sync =>
    obtain ⟨p1, p2⟩ := opSubscribe_sync fm cbN sub raw hs hsub
    simp only [runScript, runOp, hsi, if_true, p1, Option.toList, hafter]
    exact ⟨trivial, p2⟩
  | hot =>
    obtain ⟨p1, p2⟩ := opSubscribe_hot fm cbN sub hs hsub
    obtain ⟨q1, q2⟩ := pushAfter_sim fm cbN raw _ _ [] p2
    simp only [runScript, runOp, hsi, if_true, p1, Option.toList, hafter]
    exact ⟨q1, q2.agree_hot⟩

end Ro.Fault
