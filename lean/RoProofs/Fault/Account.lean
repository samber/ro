/-
  RoProofs.Fault.Account — every injected panic reaches someone, whatever the plan: the final
  observer's error callback, the dropped-notification hook (a second failure after the stream has
  ended), or the unhandled-error hook (failures no one can receive). Nothing is lost silently.

  Quantifier: every operator machine that forwards errors in the states in which it calls its
  Next-position callback and has no Error-position callback there (every catalogue closure except
  `Tap`, whose error callback is user code too); every plan over the operator's callbacks of all
  positions and the final observer's three callbacks — any number of faults; both source modes;
  every raw script.
-/
import RoProofs.Fault.NoEscape
namespace Ro.Fault
open Ro
variable {σ α β : Type}
set_option linter.unusedSectionVars false

/-- the failure `p` reached someone -/
def Accounted (s : St σ α β) (p : Err) : Prop :=
  (∃ c e, Notif.error c e ∈ s.trace ∧ p ∈ e.chain) ∨
  (∃ c e, Drop.down (Notif.error c e) ∈ s.drops ∧ p ∈ e.chain) ∨
  (∃ e, e ∈ s.unhandled ∧ p ∈ e.chain)

/-- `s'` only appended to the three observable lists of `s`, and every panic injected in between
    is accounted for in `s'` -/
structure Step (s s' : St σ α β) : Prop where
  trace : s.trace ⊆ s'.trace
  drops : s.drops ⊆ s'.drops
  unh : s.unhandled ⊆ s'.unhandled
  fired : ∀ p ∈ s'.fired, p ∈ s.fired ∨ Accounted s' p

/-- … except the pending one, `q`, which is propagating as a panic -/
structure StepP (s s' : St σ α β) (q : Err) : Prop where
  trace : s.trace ⊆ s'.trace
  drops : s.drops ⊆ s'.drops
  unh : s.unhandled ⊆ s'.unhandled
  fired : ∀ p ∈ s'.fired, p ∈ s.fired ∨ Accounted s' p ∨ p ∈ q.chain

theorem Accounted.mono {s s' : St σ α β} {p : Err} (h : Accounted s p)
    (h1 : s.trace ⊆ s'.trace) (h2 : s.drops ⊆ s'.drops) (h3 : s.unhandled ⊆ s'.unhandled) : Accounted s' p := by
  rcases h with ⟨c, e, hm, hp⟩ | ⟨c, e, hm, hp⟩ | ⟨e, hm, hp⟩
  · exact Or.inl ⟨c, e, h1 hm, hp⟩
  · exact Or.inr (Or.inl ⟨c, e, h2 hm, hp⟩)
  · exact Or.inr (Or.inr ⟨e, h3 hm, hp⟩)

theorem Step.refl (s : St σ α β) : Step s s :=
  ⟨fun _ h => h, fun _ h => h, fun _ h => h, fun _ h => Or.inl h⟩

theorem Step.trans {s s1 s2 : St σ α β} (a : Step s s1) (b : Step s1 s2) : Step s s2 := by
  refine ⟨fun _ h => b.trace (a.trace h), fun _ h => b.drops (a.drops h), fun _ h => b.unh (a.unh h), ?_⟩
  intro p hp
  rcases b.fired p hp with h | h
  · rcases a.fired p h with h' | h'
    · exact Or.inl h'
    · exact Or.inr (h'.mono b.trace b.drops b.unh)
  · exact Or.inr h

theorem Step.transP {s s1 s2 : St σ α β} {q : Err} (a : Step s s1) (b : StepP s1 s2 q) : StepP s s2 q := by
  refine ⟨fun _ h => b.trace (a.trace h), fun _ h => b.drops (a.drops h), fun _ h => b.unh (a.unh h), ?_⟩
  intro p hp
  rcases b.fired p hp with h | h
  · rcases a.fired p h with h' | h'
    · exact Or.inl h'
    · exact Or.inr (Or.inl (h'.mono b.trace b.drops b.unh))
  · exact Or.inr h

/-- the observable lists and the ghost log are untouched -/
structure Same (s s' : St σ α β) : Prop where
  trace : s'.trace = s.trace
  drops : s'.drops = s.drops
  unh : s'.unhandled = s.unhandled
  fired : s'.fired = s.fired

theorem Same.after {s s1 s2 : St σ α β} (b : Same s1 s2) (a : Same s s1) : Same s s2 :=
  ⟨b.trace.trans a.trace, b.drops.trans a.drops, b.unh.trans a.unh, b.fired.trans a.fired⟩

theorem Same.step {s s' : St σ α β} (h : Same s s') : Step s s' :=
  ⟨h.trace ▸ fun _ h => h, h.drops ▸ fun _ h => h, h.unh ▸ fun _ h => h, fun _ hp => Or.inl (h.fired ▸ hp)⟩

theorem Step.same {s0 s s' : St σ α β} (a : Step s0 s) (h : Same s s') : Step s0 s' := a.trans h.step

/-- a state that differs only in fields other than the observable lists and the ghost log -/
theorem Step.congr {s0 s s' : St σ α β} (a : Step s0 s) (h1 : s'.trace = s.trace := by rfl)
    (h2 : s'.drops = s.drops := by rfl) (h3 : s'.unhandled = s.unhandled := by rfl)
    (h4 : s'.fired = s.fired := by rfl) : Step s0 s' := a.same ⟨h1, h2, h3, h4⟩

theorem Err.self_mem_chain (e : Err) : e ∈ e.chain := by
  cases e <;> simp [Err.chain]

/-- a wrapper of errors.go keeps the cause (and the cause's own causes) reachable -/
theorem Err.mem_chain_observer (p e : Err) (h : p ∈ e.chain) : p ∈ (Err.observer e).chain := by
  simp [Err.chain, h]
theorem Err.mem_chain_observable (p e : Err) (h : p ∈ e.chain) : p ∈ (Err.observable e).chain := by
  simp [Err.chain, h]
theorem Err.mem_chain_unsubscription (p e : Err) (h : p ∈ e.chain) : p ∈ (Err.unsubscription e).chain := by
  simp [Err.chain, h]

theorem observer_mem (q : Err) : q ∈ (Err.observer q).chain := Err.mem_chain_observer q q (Err.self_mem_chain q)

variable {s0 s : St σ α β}

/-- a notification is handed to the final observer -/
theorem Step.seen (a : Step s0 s) (n : Notif β) (k l m : Nat) :
    Step s0 { s with trace := s.trace ++ [n], fnN := k, fnE := l, fnC := m } :=
  ⟨fun _ h => List.mem_append_left _ (a.trace h), a.drops, a.unh, fun p hp => (a.fired p hp).imp_right
    fun h => h.mono (List.subset_append_left _ _) (fun _ h => h) (fun _ h => h)⟩

/-- a notification is refused: it goes to the drop hook -/
theorem Step.dropped (a : Step s0 s) (d : Drop α β) : Step s0 { s with drops := s.drops ++ [d] } :=
  ⟨a.trace, fun _ h => List.mem_append_left _ (a.drops h), a.unh, fun p hp => (a.fired p hp).imp_right
    fun h => h.mono (fun _ h => h) (List.subset_append_left _ _) (fun _ h => h)⟩

/-- a recovered panic is handed to the unhandled-error hook -/
theorem Step.unhandled (a : Step s0 s) (q : Err) : Step s0 ((s.fire q).unh (.observer q)) := by
  refine a.trans ⟨fun _ h => h, fun _ h => h, List.subset_append_left _ _, fun p hp => ?_⟩
  rcases List.mem_append.mp hp with hp | hp
  · exact Or.inl hp
  · rw [List.mem_singleton.mp hp]
    exact Or.inr (Or.inr (Or.inr ⟨.observer q, List.mem_append_right _ (List.mem_singleton_self _), observer_mem q⟩))

/-- every cause in the chain of `e` is accounted for -/
def Delivers (s : St σ α β) (e : Err) : Prop := ∀ p ∈ e.chain, Accounted s p

theorem Delivers.mono {s s' : St σ α β} {e : Err} (h : Delivers s e) (st : Step s s') : Delivers s' e :=
  fun p hp => (h p hp).mono st.trace st.drops st.unh

/-- the panic `q` was injected, and what happened then delivers an error that wraps it -/
theorem Step.ofFire {s' : St σ α β} {q e : Err} (a : Step s0 s) (b : Step (s.fire q) s') (d : Delivers s' e)
    (hq : q ∈ e.chain) : Step s0 s' := by
  refine a.trans ⟨b.trace, b.drops, b.unh, fun p hp => ?_⟩
  rcases b.fired p hp with h | h
  · rcases List.mem_append.mp h with h | h
    · exact Or.inl h
    · rw [List.mem_singleton.mp h]; exact Or.inr (d q hq)
  · exact Or.inr h

/-! ### the final observer -/

theorem fTryError_step (P : Plan) (a : Step s0 s) (c : Ctx) (e : Err) :
    Step s0 (fTryError P s c e) ∧ Delivers (fTryError P s c e) e := by
  have b : Delivers ({ s with trace := s.trace ++ [.error c e], fnE := s.fnE + 1 } : St σ α β) e :=
    fun p hp => Or.inl ⟨c, e, List.mem_append_right _ (List.mem_singleton_self _), hp⟩
  unfold fTryError
  cases panicAt P.fE s.fnE with
  | none => exact ⟨a.seen _ _ _ _, b⟩
  | some q => exact ⟨(a.seen _ _ _ _).unhandled q, b.mono ((Step.refl _).unhandled q)⟩

theorem fNext_step (P : Plan) (a : Step s0 s) (c : Ctx) (v : β) : Step s0 (fNext P s c v) := by
  unfold fNext
  cases panicAt P.fN s.fnN with
  | none => exact a.seen _ _ _ _
  | some q =>
    obtain ⟨b, d⟩ := fTryError_step P (Step.refl (({ s with trace := s.trace ++ [.next c v], fnN := s.fnN + 1 } : St σ α β).fire q))
      c (.observer q)
    exact (a.seen _ _ _ _).ofFire b d (observer_mem q)

theorem fComplete_step (P : Plan) (a : Step s0 s) (c : Ctx) : Step s0 (fComplete P s c) := by
  unfold fComplete
  cases panicAt P.fC s.fnC with
  | none => exact a.seen _ _ _ _
  | some q => exact (a.seen _ _ _ _).unhandled q

/-! ### subscriptions (no teardown fault: they touch nothing observable) -/

section
variable (P : Plan) (htd : P.srcTd = none)
include htd

theorem uUnsub_same (s : St σ α β) : Same s (uUnsub P s).1 := by
  unfold uUnsub
  rw [htd]
  cases s.uDone <;> cases s.uReg <;> exact ⟨rfl, rfl, rfl, rfl⟩

theorem opTeardown_same (s : St σ α β) : Same s (opTeardown P s).1 := by
  unfold opTeardown
  split
  · exact (uUnsub_same P htd { s with uOpen := false }).after ⟨rfl, rfl, rfl, rfl⟩
  · exact ⟨rfl, rfl, rfl, rfl⟩

theorem dUnsub_same (w : Nat) (s : St σ α β) : Same s (dUnsub P w s).1 := by
  unfold dUnsub
  rw [eq_none (opTeardown_none P htd _)]
  split
  · exact ⟨rfl, rfl, rfl, rfl⟩
  · split
    · exact (opTeardown_same P htd { s with dDone := true }).after ⟨rfl, rfl, rfl, rfl⟩
    · exact ⟨rfl, rfl, rfl, rfl⟩

theorem dUnsubscribe_same (w : Nat) (s : St σ α β) : Same s (dUnsubscribe P w s).1 := by
  unfold dUnsubscribe
  split
  · exact (dUnsub_same P htd w { s with dOpen := false }).after ⟨rfl, rfl, rfl, rfl⟩
  · exact ⟨rfl, rfl, rfl, rfl⟩

/-! ### the downstream subscriber -/

theorem dPush_step (w : Nat) (a : Step s0 s) (n : Notif β) :
    Step s0 (dPush P w s n).1 ∧ (∀ c e, n = .error c e → Delivers (dPush P w s n).1 e) := by
  cases n with
  | next c v =>
    simp only [dPush]
    split
    · exact ⟨fNext_step P a c v, nofun⟩
    · exact ⟨a.dropped _, nofun⟩
  | error c e =>
    simp only [dPush]
    split
    · obtain ⟨b, d⟩ := fTryError_step P (a.congr (s' := { s with dOpen := false })) c e
      have sm := dUnsub_same P htd w (fTryError P { s with dOpen := false } c e)
      exact ⟨b.same sm, fun _ _ h => by cases h; exact d.mono sm.step⟩
    · have sm := dUnsub_same P htd w { s with drops := s.drops ++ [.down (.error c e)] }
      refine ⟨(a.dropped _).same sm, fun _ _ h => ?_⟩
      cases h
      exact Delivers.mono (fun p hp => Or.inr (Or.inl ⟨c, e, List.mem_append_right _ (List.mem_singleton_self _), hp⟩)) sm.step
  | complete c =>
    simp only [dPush]
    split
    · exact ⟨(fComplete_step P a.congr c).same (dUnsub_same P htd w _), nofun⟩
    · exact ⟨(a.dropped _).same (dUnsub_same P htd w _), nofun⟩

theorem dPushAll_step (w : Nat) (ns : List (Notif β)) : ∀ {s0 s : St σ α β}, Step s0 s →
    Step s0 (dPushAll P w s ns).1 ∧ (∀ c e, Notif.error c e ∈ ns → Delivers (dPushAll P w s ns).1 e) := by
  induction ns with
  | nil => intro s0 s a; exact ⟨a, nofun⟩
  | cons n ns ih =>
    intro s0 s a
    obtain ⟨b, d⟩ := dPush_step P htd w a n
    rw [dPushAll, eq_none (dPush_none P htd w s n)]
    obtain ⟨i1, i2⟩ := ih b
    refine ⟨i1, fun c e hm => ?_⟩
    rcases List.mem_cons.mp hm with hm | hm
    · exact (d c e hm.symm).mono (ih (Step.refl _)).1
    · exact i2 c e hm

/-! ### the operator closure -/

theorem oTryError_step (fm : FMachine σ α β) (a : Step s0 s) (c : Ctx) (e : Err) :
    Step s0 (oTryError fm P s c e) ∧
      (fm.callsE s.ms = false → (fm.base.onError s.ms c e).2 = [.error c e] → Delivers (oTryError fm P s c e) e) := by
  unfold oTryError opError
  cases fm.callsE s.ms
  · rw [if_neg Bool.false_ne_true, eq_none (dPushAll_none P htd _ _ _)]
    obtain ⟨b, d⟩ := dPushAll_step P htd fm.tdWraps (fm.base.onError s.ms c e).2
      (a.congr (s' := { s with ms := (fm.base.onError s.ms c e).1 }))
    exact ⟨b, fun _ h => d c e (by rw [h]; exact List.mem_singleton_self _)⟩
  · rw [if_pos rfl]
    cases panicAt P.cbE s.nE with
    | some q => exact ⟨a.congr.unhandled q, nofun⟩
    | none =>
      simp only
      rw [eq_none (dPushAll_none P htd _ _ _)]
      exact ⟨(dPushAll_step P htd _ _ a.congr).1, nofun⟩

theorem oTryComplete_step (fm : FMachine σ α β) (a : Step s0 s) (c : Ctx) : Step s0 (oTryComplete fm P s c) := by
  unfold oTryComplete opComplete
  cases fm.callsC s.ms
  · rw [if_neg Bool.false_ne_true, eq_none (dPushAll_none P htd _ _ _)]
    exact (dPushAll_step P htd _ _ a.congr).1
  · rw [if_pos rfl]
    cases panicAt P.cbC s.nC with
    | some q => exact a.congr.unhandled q
    | none =>
      simp only
      rw [eq_none (dPushAll_none P htd _ _ _)]
      exact (dPushAll_step P htd _ _ a.congr).1

/-- the operator forwards errors in the states in which it calls its Next-position callback, and
    has no user callback in Error position there -/
structure Forwards (fm : FMachine σ α β) : Prop where
  fwd : ∀ s c v, fm.callsN s c v = true → ∀ e, (fm.base.onError s c e).2 = [.error c e]
  noE : ∀ s c v, fm.callsN s c v = true → fm.callsE s = false

theorem oTryNext_step (fm : FMachine σ α β) (hfm : Forwards fm) (a : Step s0 s) (c : Ctx) (v : α) :
    Step s0 (oTryNext fm P s c v) := by
  -- the user callback returned (or was not called): the closure reacts
  have ok : ∀ {s' : St σ α β}, Step s0 s' → Step s0 (oRecoverNext fm P c (opNextOk fm P s' c v)) := by
    intro s' a'
    rw [opNextOk, eq_none (dPushAll_none P htd _ _ _)]
    exact (dPushAll_step P htd _ _ a'.congr).1
  -- it panicked: `tryNext` hands `observer(p)` to O's own error callback, which forwards it
  have panic : ∀ p, fm.callsN s.ms c v = true →
      Step s0 (oTryError fm P (({ s with nN := s.nN + 1 } : St σ α β).fire p) c (.observer p)) := by
    intro p hc
    obtain ⟨b, d⟩ := oTryError_step P htd fm (Step.refl (({ s with nN := s.nN + 1 } : St σ α β).fire p)) c (.observer p)
    exact a.congr.ofFire b
      (d (hfm.noE _ _ _ hc) (hfm.fwd _ _ _ hc _)) (observer_mem p)
  unfold oTryNext opNext
  cases hc : fm.callsN s.ms c v
  · exact ok a
  · rw [if_pos rfl]
    cases P.cbN s.nN with
    | none => exact ok a.congr
    | some f =>
      cases f with
      | panicErr p => exact panic p hc
      | panicVal n => exact panic (.panicVal n) hc
      | errRet e =>
        cases fm.onErrRet with
        | none => exact ok a.congr
        | some hf =>
          simp only
          rw [eq_none (dPushAll_none P htd _ _ _)]
          exact (dPushAll_step P htd _ _ a.congr).1

theorem uFeed_step (fm : FMachine σ α β) (hfm : Forwards fm) (a : Step s0 s) (x : Notif α) :
    Step s0 (uFeed fm P s x).1 := by
  cases x with
  | next c v =>
    simp only [uFeed]
    split
    · exact oTryNext_step P htd fm hfm a c v
    · exact a.dropped _
  | error c e =>
    simp only [uFeed]
    split
    · exact ((oTryError_step P htd fm a.congr c e).1).same
        (uUnsub_same P htd _)
    · exact (a.dropped _).same (uUnsub_same P htd _)
  | complete c =>
    simp only [uFeed]
    split
    · exact (oTryComplete_step P htd fm a.congr c).same
        (uUnsub_same P htd _)
    · exact (a.dropped _).same (uUnsub_same P htd _)

variable (hss : P.srcSub = none) (hcs : P.cbS = none)
include hss hcs

theorem srcBody_step (fm : FMachine σ α β) (hfm : Forwards fm) (raw : List (Notif α)) :
    ∀ (i : Nat) {s : St σ α β}, Step s0 s → (srcBody fm P i raw s).2 = none ∧ Step s0 (srcBody fm P i raw s).1 := by
  induction raw with
  | nil => intro i s a; simp only [srcBody, srcPanicAt, hss]; exact ⟨trivial, a⟩
  | cons x xs ih =>
    intro i s a
    simp only [srcBody, srcPanicAt, hss]
    rw [eq_none (uFeed_none P htd fm s x)]
    exact ih (i + 1) (uFeed_step P htd fm hfm a x)

theorem opBody_step (fm : FMachine σ α β) (hfm : Forwards fm) (sub : Ctx) (inside : List (Notif α)) (a : Step s0 s) :
    (opBody fm P sub inside s).2 = none ∧ Step s0 (opBody fm P sub inside s).1 := by
  unfold opBody
  have h0 : (if fm.callsS then P.cbS.bind Fault.recovered else none) = none := by
    rw [hcs]; cases fm.callsS <;> rfl
  rw [h0]
  simp only
  rw [eq_none (dPushAll_none P htd _ _ _)]
  have b := (dPushAll_step P htd fm.tdWraps (fm.base.onSubscribe s.ms sub).2
    (a.congr (s' := { s with ms := (fm.base.onSubscribe s.ms sub).1 }))).1
  simp only
  split
  · unfold srcSubscribe
    obtain ⟨c1, c2⟩ := (fun (s : St σ α β) (a : Step _ s) =>
      srcBody_step P htd hss hcs fm hfm inside 0 (a.congr (s' := { s with subs := s.subs + 1 }))) _ b
    rw [eq_none c1]
    simp only [htd, Option.bind_none]
    split <;> exact ⟨rfl, c2.congr⟩
  · exact ⟨rfl, b⟩

theorem opSubscribe_step (fm : FMachine σ α β) (hfm : Forwards fm) (sub : Ctx) (inside : List (Notif α)) :
    Step ({ ms := fm.base.init } : St σ α β) (opSubscribe fm P sub inside).1 := by
  have hbody := opBody_step P htd hss hcs fm hfm sub inside (Step.refl ({ ms := fm.base.init } : St σ α β))
  unfold opSubscribe
  rw [eq_none hbody.1]
  simp only
  rw [eq_none (opTeardown_none P htd _)]
  split
  · exact hbody.2
  · split
    · exact hbody.2.same (opTeardown_same P htd _)
    · exact hbody.2.congr

omit hss hcs in
theorem pushAfter_step (fm : FMachine σ α β) (hfm : Forwards fm) (raw : List (Notif α)) :
    ∀ {s : St σ α β} (esc : List Err), Step s0 s → Step s0 (pushAfter fm P (s, esc) raw).1 := by
  induction raw with
  | nil => intro s esc a; exact a
  | cons x xs ih =>
    intro s esc a
    simp only [pushAfter]
    split
    · exact ih esc a
    · exact ih _ (uFeed_step P htd fm hfm a x)

/-- **C07, "exactly once … failures that no one can receive go to the unhandled-error hook".**
    Whatever the plan (any number of panics in the operator's callbacks of the three positions and
    in the final observer's callbacks), every injected panic is accounted for at the end of the
    script: its cause is in the `Unwrap` chain of an error the final observer's error callback was
    called with, of a dropped Error notification, or of an error given to `OnUnhandledError`. -/
theorem all_accounted (fm : FMachine σ α β) (hfm : Forwards fm) (mode : SrcMode) (sub : Ctx) (raw : List (Notif α)) :
    ∀ p ∈ (runScript fm P mode sub raw).1.fired, Accounted (runScript fm P mode sub raw).1 p := by
  have key : Step ({ ms := fm.base.init } : St σ α β) (runScript fm P mode sub raw).1 := by
    cases mode with
    | sync => exact opSubscribe_step P htd hss hcs fm hfm sub raw
    | hot => exact pushAfter_step P htd fm hfm raw _ (opSubscribe_step P htd hss hcs fm hfm sub [])
  intro p hp
  exact (key.fired p hp).resolve_left nofun

end
end Ro.Fault
