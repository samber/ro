/-
  RoProofs.Steps — C08, synchronous half: in a machine run every delivery happens *during* the
  call that caused it. `steps[k]` is the number of notifications delivered to the final observer
  while the k-th upstream notification was being handled (measured the same way by the harness:
  the length of the recorder's trace after each `Next`/`Error`/`Complete` call has returned).
  The theorem: nothing is delivered outside those calls — the delivered trace is exactly the
  subscribe-time emissions plus the per-call deliveries, call by call.
-/
import RoProofs.Gate
namespace Ro
variable {σ α β : Type}

@[simp] theorem push_steps (r : RunSt σ α β) (n) : (r.push n).steps = r.steps := by
  unfold RunSt.push; split <;> rfl
@[simp] theorem pushAll_steps (r : RunSt σ α β) (ns) : (r.pushAll ns).steps = r.steps := by
  induction ns generalizing r with
  | nil => rfl
  | cons n ns ih => simp [RunSt.pushAll, List.foldl] at *; rw [ih]; simp

/-- one upstream notification: one more entry in `steps`, accounting exactly for the growth of `out` -/
theorem feed_steps (m : Machine σ α β) (mode) (r : RunSt σ α β) (x : Notif α) :
    ∃ k, (r.feed m mode x).steps = r.steps ++ [k] ∧ (r.feed m mode x).out.length = r.out.length + k := by
  unfold RunSt.feed
  split
  · refine ⟨(({ r with st := (m.step r.st x).1 } : RunSt σ α β).pushAll (m.step r.st x).2).out.length - r.out.length, ?_, ?_⟩
    · simp [RunSt.settle]
    · have := (pushAll_out_prefix ({ r with st := (m.step r.st x).1 } : RunSt σ α β) (m.step r.st x).2).length_le
      simp only [RunSt.settle]
      simp only at this
      omega
  · exact ⟨0, by simp, by simp⟩

theorem fold_steps (m : Machine σ α β) (mode) (raw : List (Notif α)) (r : RunSt σ α β) :
    ((raw.foldl (RunSt.feed m mode) r).steps.length = r.steps.length + raw.length) ∧
    ((raw.foldl (RunSt.feed m mode) r).out.length + r.steps.sum =
        r.out.length + (raw.foldl (RunSt.feed m mode) r).steps.sum) := by
  induction raw generalizing r with
  | nil => exact ⟨rfl, rfl⟩
  | cons x xs ih =>
    obtain ⟨k, hk1, hk2⟩ := feed_steps m mode r x
    have h := ih (r.feed m mode x)
    rw [hk1, hk2, List.length_append, List.length_singleton, List.sum_append, List.sum_singleton] at h
    rw [List.foldl_cons, List.length_cons]
    exact ⟨h.1.trans (by rw [Nat.add_assoc, Nat.add_comm 1]), by omega⟩

/-- **C08 (synchronous half).** For every machine, raw script and source mode: there is exactly
    one `steps` entry per upstream call, and the delivered trace is accounted for entirely by the
    subscribe-time emissions plus what was delivered during each call — nothing is handed to a
    hidden queue or goroutine to be delivered later. -/
theorem runOp_steps (m : Machine σ α β) (mode : SrcMode) (sub : Ctx) (raw : List (Notif α))
    (hs : m.subscribes = true) :
    (runOp m mode sub raw).steps.length = raw.length ∧
    (runOp m mode sub raw).out.length = (m.start sub).out.length + (runOp m mode sub raw).steps.sum := by
  unfold runOp
  simp only [hs, if_true]
  have h := fold_steps m mode raw ((m.start sub).afterSubscribe mode)
  have h0 : ((m.start sub).afterSubscribe mode).steps = [] := by
    unfold RunSt.afterSubscribe; split <;> simp [Machine.start]
  have h1 : ((m.start sub).afterSubscribe mode).out = (m.start sub).out := by
    unfold RunSt.afterSubscribe; split <;> rfl
  rw [h0, h1, List.length_nil, Nat.zero_add, List.sum_nil, Nat.add_zero] at h
  exact h

end Ro
