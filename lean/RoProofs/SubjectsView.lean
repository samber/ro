/-
  RoProofs.SubjectsView — the invariant is preserved by every operation of the four multicast
  subjects, and each step is seen by one subscriber `i` (and by an outside observer of the status)
  exactly as the step of a small pure automaton `vstep` over
      (phase of i: before / live / done,  what i has received,  subject status,  stored values).
-/
import RoProofs.SubjectsMulti
namespace Ro.Subj
open Ro Ro.Subj.Spec

variable {α : Type}

theorem Inv.of_eq_on {s t : State α} (h : Inv s) (ho : t.observers = s.observers) (hs : t.status = s.status)
    (hsub : ∀ j, (t.sub j).td = (s.sub j).td ∧
      (j ∈ s.observers → (t.sub j).used = (s.sub j).used ∧ (t.sub j).status = (s.sub j).status)) : Inv t := by
  refine ⟨?_, ?_, ?_, ?_⟩
  · intro j hj
    rw [ho] at hj
    have := h.live j hj
    rw [(hsub j).1, ((hsub j).2 hj).1, ((hsub j).2 hj).2]; exact this
  · intro j hj
    rw [ho]; rw [(hsub j).1] at hj; exact h.td j hj
  · rw [ho]; exact h.nodup
  · intro hc; rw [ho]; rw [hs] at hc; exact h.closed hc

theorem Inv.drop {s : State α} (h : Inv s) (n : Notif α) : Inv (s.drop n) :=
  h.of_eq_on rfl rfl (fun _ => ⟨rfl, fun _ => ⟨rfl, rfl⟩⟩)

/-- a subscriber that comes and is not registered (the subject has terminated, or is held) changes nothing else -/
theorem Inv.late {s : State α} (h : Inv s) {i : Nat} (hi : i ∉ s.observers) (x : Sub α) (hx : x.td = false) :
    Inv (s.modSub i (fun _ => x)) := by
  refine ⟨?_, ?_, h.nodup, h.closed⟩
  · intro j hj
    have hji : j ≠ i := fun e => hi (e ▸ hj)
    simpa [hji] using h.live j hj
  · intro j hj
    by_cases hji : j = i
    · simp [hji, hx] at hj
    · simp only [modSub_sub, hji, if_false] at hj; exact h.td j hj

theorem inv_init (k : Kind α) : Inv k.init := by
  cases k <;> exact ⟨by simp [Kind.init], by simp [Kind.init], by simp [Kind.init], by simp [Kind.init]⟩

theorem inv_multiStep (P : MP α) (hP : P.Law) {s : State α} (h : Inv s) (o : Op α) : Inv (multiStep P s o) := by
  cases o with
  | subscribe i c =>
    cases hu : (s.sub i).used with
    | true => rw [step_subscribe_used P c hu]; exact h
    | false =>
      have hi : i ∉ s.observers := h.not_mem_of_unused hu
      cases hs : s.status with
      | active =>
        rw [step_subscribe_active P c hu hs]
        refine ⟨?_, ?_, ?_, ?_⟩
        · intro j hj
          simp only [List.mem_append, List.mem_singleton] at hj
          by_cases hji : j = i
          · simp [hji]
          · have hj' : j ∈ s.observers := by cases hj with | inl x => exact x | inr x => exact absurd x hji
            simpa [hji] using h.live j hj'
        · intro j hj
          by_cases hji : j = i
          · simp [hji]
          · simp only [hji, if_false] at hj
            simp [h.td j hj]
        · simp only [List.nodup_append, List.nodup_cons, List.not_mem_nil, not_false_eq_true, List.nodup_nil,
            and_self, List.mem_singleton, true_and]
          exact ⟨h.nodup, fun a ha b hb => by subst hb; intro e; subst e; exact hi ha⟩
        · intro hc; exact absurd hs hc
      | errored ec e => rw [step_subscribe_errored P c ec e hu hs]; exact h.late hi _ rfl
      | completed => rw [step_subscribe_completed P c hu hs]; exact h.late hi _ rfl
  | next c v =>
    by_cases ha : s.status = .active
    · obtain ⟨d, hd⟩ := hP s c v h ha
      rw [step_next_active P c v ha, hd]
      refine h.of_eq_on rfl rfl (fun j => ?_)
      by_cases hc : P.live = true ∧ j ∈ s.observers <;> simp [hc]
    · rw [step_next_closed P c v ha]; exact h.drop _
  | error c e =>
    by_cases ha : s.status = .active
    · rw [step_error_active P h c e ha]; exact h.closeAll _ _
    · rw [(step_terminal_closed P h ha).1]; exact h.drop _
  | complete c =>
    by_cases ha : s.status = .active
    · rw [step_complete_active P h c ha]; exact h.closeAll _ _
    · rw [(step_terminal_closed P h ha).2]; exact h.drop _
  | unsubscribe i =>
    cases hu : (s.sub i).used with
    | false => rw [step_unsubscribe_unused P hu]; exact h
    | true =>
      by_cases hi : i ∈ s.observers
      · rw [step_unsubscribe_reg P h hi]
        refine ⟨?_, ?_, h.nodup.filter _, ?_⟩
        · intro j hj
          simp only [List.mem_filter, bne_iff_ne, ne_eq] at hj
          simpa [hj.2] using h.live j hj.1
        · intro j hj
          by_cases hji : j = i
          · simp [hji] at hj
          · simp only [hji, if_false] at hj
            simp [List.mem_filter, hji, h.td j hj]
        · intro hc
          simp [h.closed hc]
      · have ht := h.td_false hi
        obtain ⟨h1, h2, _, h4⟩ := subUnsubscribe_unreg (s := s) (i := i) .delete ht
        simp only [multiStep, hu, if_true]
        refine h.of_eq_on h1 h2 (fun j => ⟨(h4 j).2.2.1, fun hj => ?_⟩)
        have hji : j ≠ i := fun e => hi (e ▸ hj)
        rw [(h4 j).2.2.2 hji]; exact ⟨rfl, rfl⟩

inductive Phase
  | before | live | done
deriving DecidableEq, Repr

structure View (α : Type) where
  phase : Phase
  got : List (Notif α)
  status : Status
  values : List (Ctx × α)

def phaseOf (s : State α) (i : Nat) : Phase :=
  if (s.sub i).used then (if i ∈ s.observers then .live else .done) else .before

def view (s : State α) (i : Nat) : View α := ⟨phaseOf s i, (s.sub i).got, s.status, s.values⟩

theorem view_status (s : State α) (i : Nat) : (view s i).status = s.status := rfl

/-- the pure automaton: what an operation means for subscriber `i` and for the stored state -/
def vstep (P : MP α) (i : Nat) (w : View α) : Op α → View α
  | .next c v =>
    match w.status with
    | .active => { w with values := P.mem w.values (c, v),
                          got := if P.live = true ∧ w.phase = .live then w.got ++ [.next c v] else w.got }
    | _ => w
  | .error c e =>
    match w.status with
    | .active => { w with status := .errored c e, phase := if w.phase = .live then .done else w.phase,
                          got := if w.phase = .live then w.got ++ [.error c e] else w.got }
    | _ => w
  | .complete c =>
    match w.status with
    | .active => { w with status := .completed, phase := if w.phase = .live then .done else w.phase,
                          got := if w.phase = .live
                                 then w.got ++ (if P.flush then nexts w.values else []) ++ [.complete c] else w.got }
    | _ => w
  | .subscribe j c =>
    if j = i ∧ w.phase = .before then
      match w.status with
      | .active => { w with phase := .live, got := if P.rA then nexts w.values else [] }
      | .errored ec e => { w with phase := .done, got := (if P.rE then nexts w.values else []) ++ [.error ec e] }
      | .completed => { w with phase := .done, got := (if P.rC then nexts w.values else []) ++ [.complete c] }
    else w
  | .unsubscribe j => if j = i ∧ w.phase = .live then { w with phase := .done } else w

theorem phaseOf_live_iff {s : State α} (h : Inv s) (i : Nat) : phaseOf s i = .live ↔ i ∈ s.observers := by
  unfold phaseOf
  constructor
  · intro hp
    by_cases hm : i ∈ s.observers
    · exact hm
    · cases hu : (s.sub i).used <;> simp [hu, hm] at hp
  · intro hm
    simp [(h.live i hm).1, hm]

theorem phaseOf_before_iff (s : State α) (i : Nat) : phaseOf s i = .before ↔ (s.sub i).used = false := by
  unfold phaseOf
  cases hu : (s.sub i).used
  · simp
  · by_cases hm : i ∈ s.observers <;> simp [hm]

theorem view_ext {a b : View α} (h1 : a.phase = b.phase) (h2 : a.got = b.got) (h3 : a.status = b.status)
    (h4 : a.values = b.values) : a = b := by
  cases a; cases b; simp_all

/-- a subscriber that comes and is not registered is done at once; nobody else sees it -/
theorem view_late {s : State α} {j : Nat} (hj : j ∉ s.observers) (x : Sub α) (hx : x.used = true) (i : Nat) :
    view (s.modSub j (fun _ => x)) i = if j = i then { view s i with phase := .done, got := x.got } else view s i := by
  by_cases hji : j = i
  · subst hji
    apply view_ext <;> simp [view, phaseOf, hx, hj]
  · have hne : i ≠ j := fun e => hji e.symm
    apply view_ext <;> simp [view, phaseOf, hji, hne] <;> rfl

/-- a subscriber sees the end of a live subject only if it is registered -/
theorem view_closeAll {s : State α} (h : Inv s) (st : Status) (code : Nat) (tail : List (Notif α)) (i : Nat) :
    view (s.closeAll st code tail) i =
      { view s i with status := st, phase := if (view s i).phase = .live then .done else (view s i).phase,
                      got := if (view s i).phase = .live then (view s i).got ++ tail else (view s i).got } := by
  have hlive : (view s i).phase = .live ↔ i ∈ s.observers := phaseOf_live_iff h i
  apply view_ext
  · by_cases hm : i ∈ s.observers
    · simp [view, phaseOf, hm, (h.live i hm).1]
    · simp only [hlive, hm, if_false]; simp [view, phaseOf, hm]
  · simp only [hlive]
    by_cases hm : i ∈ s.observers <;> simp [view, hm]
  · rfl
  · rfl

theorem vstep_closed (P : MP α) (i : Nat) {w : View α} (hc : w.status ≠ .active) :
    (∀ c v, vstep P i w (.next c v) = w) ∧ (∀ c e, vstep P i w (.error c e) = w) ∧ ∀ c, vstep P i w (.complete c) = w := by
  refine ⟨fun c v => ?_, fun c e => ?_, fun c => ?_⟩ <;> simp only [vstep]

/-- the model simulates the automaton, step by step, for every subscriber -/
theorem view_multiStep (P : MP α) (hP : P.Law) {s : State α} (h : Inv s) (o : Op α) (i : Nat) :
    view (multiStep P s o) i = vstep P i (view s i) o := by
  have hlive := phaseOf_live_iff h i
  cases o with
  | subscribe j c =>
    cases hu : (s.sub j).used with
    | true =>
      rw [step_subscribe_used P c hu]
      have : ¬ (j = i ∧ (view s i).phase = .before) := by
        rintro ⟨e, hp⟩; subst e
        rw [show (view s j).phase = phaseOf s j from rfl, phaseOf_before_iff, hu] at hp; cases hp
      simp only [vstep, this, if_false]
    | false =>
      have hj : j ∉ s.observers := h.not_mem_of_unused hu
      -- `j` has not come before, so it is `i` that comes exactly if `j = i`
      have hc : (j = i ∧ (view s i).phase = .before) ↔ j = i :=
        ⟨And.left, fun e => ⟨e, e ▸ (phaseOf_before_iff s j).mpr hu⟩⟩
      cases hs : s.status with
      | active =>
        rw [step_subscribe_active P c hu hs]
        simp only [vstep, hc, view_status, hs]
        by_cases hji : j = i
        · subst hji
          apply view_ext <;> simp [view, phaseOf, hs]
        · have hne : i ≠ j := fun e => hji e.symm
          apply view_ext <;> simp [view, phaseOf, hs, hji, hne] <;> rfl
      | errored ec e =>
        rw [step_subscribe_errored P c ec e hu hs, view_late hj _ rfl]
        simp only [vstep, hc, view_status, hs]
        rfl
      | completed =>
        rw [step_subscribe_completed P c hu hs, view_late hj _ rfl]
        simp only [vstep, hc, view_status, hs]
        rfl
  | next c v =>
    by_cases ha : s.status = .active
    · obtain ⟨d, hd⟩ := hP s c v h ha
      rw [step_next_active P c v ha, hd]
      simp only [vstep, view_status, ha]
      apply view_ext
      · simp only [view, phaseOf]
        by_cases hc : P.live = true ∧ i ∈ s.observers <;> simp [hc]
      · simp only [view, hlive]
        by_cases hc : P.live = true ∧ i ∈ s.observers <;> simp [hc]
      · simp [view]
      · simp [view]
    · rw [step_next_closed P c v ha, (vstep_closed P i (w := view s i) ha).1]; rfl
  | error c e =>
    by_cases ha : s.status = .active
    · rw [step_error_active P h c e ha, view_closeAll h]
      simp only [vstep, view_status, ha]
    · rw [(step_terminal_closed P h ha).1, (vstep_closed P i (w := view s i) ha).2.1]; rfl
  | complete c =>
    by_cases ha : s.status = .active
    · rw [step_complete_active P h c ha, view_closeAll h]
      simp only [vstep, view_status, ha, List.append_assoc]
      rfl
    · rw [(step_terminal_closed P h ha).2, (vstep_closed P i (w := view s i) ha).2.2]; rfl
  | unsubscribe j =>
    cases hu : (s.sub j).used with
    | false =>
      rw [step_unsubscribe_unused P hu]
      have : ¬ (j = i ∧ (view s i).phase = .live) := by
        rintro ⟨e, hp⟩; subst e
        have := (h.live j (hlive.mp hp)).1
        rw [hu] at this; cases this
      simp only [vstep, this, if_false]
    | true =>
      by_cases hj : j ∈ s.observers
      · rw [step_unsubscribe_reg P h hj]
        by_cases hji : j = i
        · subst hji
          simp only [vstep, show (view s j).phase = phaseOf s j from rfl, hlive.mpr hj, and_self, if_true]
          apply view_ext <;> simp [view, phaseOf, hu]
        · have hne : i ≠ j := fun e => hji e.symm
          simp only [vstep, hji, false_and, if_false]
          apply view_ext <;> simp [view, phaseOf, hne, List.mem_filter]
      · have ht := h.td_false hj
        obtain ⟨h1, h2, h3, h4⟩ := subUnsubscribe_unreg (s := s) (i := j) .delete ht
        have : ¬ (j = i ∧ (view s i).phase = .live) := by
          rintro ⟨e, hp⟩; subst e; exact hj (hlive.mp hp)
        simp only [vstep, this, if_false, multiStep, hu, if_true]
        apply view_ext
        · simp only [view, phaseOf, h1, (h4 i).2.1]
        · exact (h4 i).1
        · exact h2
        · exact h3

end Ro.Subj
