/-
  RoProofs.MultiCore — facts about the multi-source interpreter (RoModel/Multi/Core.lean) that hold for
  every machine: the primitive state changes as record updates; `Preserved`, a predicate kept by the
  primitive changes is kept by every reaction at any depth of synchronous nesting (hence nothing is delivered
  after the downstream subscriber has closed, and the delivered trace obeys the grammar); `emitOnly_out`,
  the delivered trace of a machine whose callbacks only call the destination.
-/
import RoModel.Multi.OpsA
import RoModel.Spec.Multi
import RoProofs.Gate
namespace Ro.Multi
open Ro

variable {σ α β : Type}

@[simp] theorem closeSrc_out (r : MSt σ α β) (k) : (r.closeSrc k).out = r.out := rfl
@[simp] theorem closeSrc_downOpen (r : MSt σ α β) (k) : (r.closeSrc k).downOpen = r.downOpen := rfl
@[simp] theorem closeSrc_booted (r : MSt σ α β) (k) : (r.closeSrc k).booted = r.booted := rfl
@[simp] theorem closeSrc_subs (r : MSt σ α β) (k) : (r.closeSrc k).subs = r.subs := rfl
@[simp] theorem closeSrc_st (r : MSt σ α β) (k) : (r.closeSrc k).st = r.st := rfl
@[simp] theorem closeSrc_drops (r : MSt σ α β) (k) : (r.closeSrc k).drops = r.drops := rfl
theorem closeSrc_sopen (r : MSt σ α β) (k j) : (r.closeSrc k).sopen j = (if j = k then false else r.sopen j) := rfl

/-! Subscribing the sources `0, 1, 2, …` in order: the gates and counters after source `j`. -/

theorem setAt_below {f : Nat → Bool} {j : Nat} (h : ∀ k, f k = decide (k < j)) (k : Nat) :
    setAt f j true k = decide (k < j + 1) := by
  simp only [setAt, h]; split <;> simp <;> omega

theorem setAt_once {f : Nat → Nat} {j : Nat} (h : ∀ k, f k = if k < j then 1 else 0) (k : Nat) :
    setAt f j (f j + 1) k = if k < j + 1 then 1 else 0 := by
  by_cases hk : k = j
  · subst hk; rw [setAt_same, h, if_neg (Nat.lt_irrefl _), if_pos (Nat.lt_succ_self _)]
  · have : k < j ↔ k < j + 1 := by omega
    rw [setAt_other _ _ hk, h]
    simp only [this]

@[simp] theorem closeAll_eq (ks : List Nat) (r : MSt σ α β) :
    ks.foldl MSt.closeSrc r = { r with sopen := fun j => if j ∈ ks then false else r.sopen j } := by
  induction ks generalizing r with
  | nil => rfl
  | cons k ks ih =>
    rw [List.foldl_cons, ih]
    simp only [MSt.closeSrc, setAt, List.mem_cons]
    congr 1; funext j
    by_cases h1 : j ∈ ks <;> by_cases h2 : j = k <;> simp [h1, h2]

section teardown
variable (m : MMachine σ α β)

@[simp] theorem runTeardown_eq (r : MSt σ α β) :
    r.runTeardown m = { r with st := (m.teardown r.st).1,
                               sopen := fun j => if j ∈ (m.teardown r.st).2 then false else r.sopen j } :=
  closeAll_eq _ _

theorem emit_closed (r : MSt σ α β) (n : Notif β) (h : r.downOpen = false) :
    r.emit m n = { r with drops := r.drops ++ [.down n] } := by
  unfold MSt.emit; simp [h]

theorem emit_open_next (r : MSt σ α β) (n : Notif β) (h : r.downOpen = true) (hn : n.isTerminal = false) :
    r.emit m n = { r with out := r.out ++ [n] } := by
  unfold MSt.emit; simp [h, hn]

theorem emit_open_term (r : MSt σ α β) (n : Notif β) (h : r.downOpen = true) (hn : n.isTerminal = true)
    (hb : r.booted = true) :
    r.emit m n = MSt.runTeardown m { r with out := r.out ++ [n], downOpen := false } := by
  unfold MSt.emit; simp [h, hn, hb]

/-- a change of the operator's locals that the teardown does not look at commutes with an emission -/
theorem emit_setSt (f : σ → σ) (hf1 : ∀ s, (m.teardown (f s)).1 = f (m.teardown s).1)
    (hf2 : ∀ s, (m.teardown (f s)).2 = (m.teardown s).2) (r : MSt σ α β) (n : Notif β) :
    MSt.emit m { r with st := f r.st } n = { (r.emit m n) with st := f (r.emit m n).st } := by
  unfold MSt.emit
  by_cases hd : r.downOpen = true
  · by_cases hn : n.isTerminal = true
    · by_cases hb : r.booted = true
      · simp only [hd, hn, hb, if_true, runTeardown_eq, hf1, hf2]
      · simp [hd, hn, hb]
    · simp [hd, hn]
  · simp [hd]

def emits (r : MSt σ α β) (l : List (Notif β)) : MSt σ α β := l.foldl (MSt.emit m) r

theorem emits_cons (r : MSt σ α β) (x : Notif β) (l : List (Notif β)) :
    emits m r (x :: l) = emits m (r.emit m x) l := rfl

theorem emits_closed (l : List (Notif β)) (r : MSt σ α β) (h : r.downOpen = false) :
    emits m r l = { r with drops := r.drops ++ l.map .down } := by
  induction l generalizing r with
  | nil => simp [emits]
  | cons x xs ih => rw [emits_cons, emit_closed m r x h, ih { r with drops := r.drops ++ [.down x] } h]; simp

theorem emits_noTerm (l : List (Notif β)) (r : MSt σ α β) (h : r.downOpen = true) (hl : hasTerm l = false) :
    emits m r l = { r with out := r.out ++ l } := by
  induction l generalizing r with
  | nil => simp [emits]
  | cons x xs ih =>
    simp only [hasTerm_cons, Bool.or_eq_false_iff] at hl
    rw [emits_cons, emit_open_next m r x h hl.1, ih { r with out := r.out ++ [x] } h hl.2]; simp

/-- emissions that contain a terminal: what passes the gate is delivered, then the teardown runs -/
theorem emits_term (l : List (Notif β)) (r : MSt σ α β) (h : r.downOpen = true) (hb : r.booted = true)
    (hl : hasTerm l = true) :
    ∃ d, emits m r l = { MSt.runTeardown m { r with out := r.out ++ gate l, downOpen := false } with drops := d } := by
  induction l generalizing r with
  | nil => simp at hl
  | cons x xs ih =>
    rw [emits_cons]
    cases hx : x.isTerminal with
    | true => rw [emit_open_term m r x h hx hb, emits_closed m xs _ (by simp)]; exact ⟨r.drops ++ xs.map .down, by simp [gate, hx]⟩
    | false =>
      obtain ⟨d, hd⟩ := ih { r with out := r.out ++ [x] } h hb (by simpa [hx] using hl)
      rw [emit_open_next m r x h hx, hd]; exact ⟨d, by simp [gate, hx]⟩

end teardown

structure Preserved (m : MMachine σ α β) (P : MSt σ α β → Prop) : Prop where
  st : ∀ r s, P r → P { r with st := s }
  emit : ∀ r n, P r → P (r.emit m n)
  close : ∀ r k, P r → P (r.closeSrc k)
  sub : ∀ r k c, P r → P { r with subs := setAt r.subs k (r.subs k + 1), sopen := setAt r.sopen k true, sctx := setAt r.sctx k c }
  drop : ∀ r d, P r → P { r with drops := r.drops ++ [d] }
  over : ∀ r, P r → P { r with overflow := true }

section preserve
variable {m : MMachine σ α β} (cfg : Sources α) {P : MSt σ α β → Prop} (hP : Preserved m P)
include hP

theorem deliver_preserves (rec : List (Phase σ β) → MSt σ α β → MSt σ α β)
    (hrec : ∀ ps r, P r → P (rec ps r)) (k : Nat) (r : MSt σ α β) (n : Notif α) (hr : P r) :
    P (deliver m rec k r n) := by
  unfold deliver
  split
  · apply hrec
    split
    · exact hP.close _ _ hr
    · exact hr
  · exact hP.drop _ _ hr

theorem act_preserves (rec : List (Phase σ β) → MSt σ α β → MSt σ α β)
    (hrec : ∀ ps r, P r → P (rec ps r)) (r : MSt σ α β) (a : Act β) (hr : P r) :
    P (act m cfg rec r a) := by
  cases a with
  | emit n => exact hP.emit _ _ hr
  | unsub k => exact hP.close _ _ hr
  | sub k c =>
    simp only [act]
    split
    · exact List.foldlRecOn (motive := P) _ _ (hP.sub _ _ _ hr) fun r h x _ => deliver_preserves hP rec hrec k r x h
    · exact hP.sub _ _ _ hr

theorem phases_preserves (rec : List (Phase σ β) → MSt σ α β → MSt σ α β)
    (hrec : ∀ ps r, P r → P (rec ps r)) (ps : List (Phase σ β)) (r : MSt σ α β) (hr : P r) :
    P (phases m cfg rec ps r) := by
  unfold phases
  refine List.foldlRecOn (motive := P) _ _ hr fun r h p _ => ?_
  unfold phase
  exact List.foldlRecOn (motive := P) _ _ (hP.st _ _ h) fun r h a _ => act_preserves cfg hP rec hrec r a h

theorem phasesAt_preserves (d : Nat) (ps : List (Phase σ β)) (r : MSt σ α β) (hr : P r) :
    P (phasesAt m cfg d ps r) := by
  induction d generalizing ps r with
  | zero => exact phases_preserves cfg hP _ (fun _ r h => hP.over r h) ps r hr
  | succ d ih => exact phases_preserves cfg hP _ (fun ps r h => ih ps r h) ps r hr

theorem feed_preserves (r : MSt σ α β) (e : MEvent α) (hr : P r) : P (feed m cfg r e) := by
  unfold feed
  split
  · exact hr
  · exact deliver_preserves hP _ (fun ps r h => phasesAt_preserves cfg hP _ ps r h) _ _ _ hr

theorem feedAll_preserves (evs : List (MEvent α)) (r : MSt σ α β) (hr : P r) : P (feedAll m cfg r evs) :=
  List.foldlRecOn (motive := P) evs _ hr fun r h e _ => feed_preserves cfg hP r e h

end preserve

theorem frozen_preserved (m : MMachine σ α β) (o : List (Notif β)) :
    Preserved m (fun r => r.downOpen = false ∧ r.out = o) where
  st := fun _ _ h => h
  emit := fun r n h => by rw [emit_closed m r n h.1]; exact h
  close := fun _ _ h => h
  sub := fun _ _ _ h => h
  drop := fun _ _ h => h
  over := fun _ h => h

theorem feedAll_frozen (m : MMachine σ α β) (cfg : Sources α) (evs : List (MEvent α)) (r : MSt σ α β)
    (h : r.downOpen = false) :
    (feedAll m cfg r evs).downOpen = false ∧ (feedAll m cfg r evs).out = r.out :=
  feedAll_preserves cfg (frozen_preserved m r.out) evs r ⟨h, rfl⟩

/-- C01 for every multi-source machine, any mix of hot and synchronous sources: the delivered trace
    obeys the grammar and `downOpen` says whether it has ended -/
theorem grammar_preserved (m : MMachine σ α β) :
    Preserved m (fun r => Grammar r.out ∧ (r.downOpen = true → hasTerm r.out = false)) where
  st := fun _ _ h => h
  emit := fun r n h => by
    by_cases hd : r.downOpen = true
    · have hnt := h.2 hd
      by_cases hn : n.isTerminal = true
      · unfold MSt.emit
        simp only [hd, hn, if_true]
        have hg : Grammar (r.out ++ [n]) := by
          have := gate_grammar (r.out ++ [n])
          rwa [gate_append_of_noTerm _ _ hnt, show gate [n] = [n] by simp [gate, hn]] at this
        split
        · simp [hg]
        · simp [hg]
      · have hn' : n.isTerminal = false := by simpa using hn
        rw [emit_open_next m r n hd hn']
        refine ⟨?_, fun _ => by simp [hnt, hn']⟩
        have := gate_grammar (r.out ++ [n])
        rwa [gate_of_noTerm _ (by simp [hnt, hn'])] at this
    · have hd' : r.downOpen = false := by simpa using hd
      rw [emit_closed m r n hd']; simpa [hd'] using h.1
  close := fun _ _ h => h
  sub := fun _ _ _ h => h
  drop := fun _ _ h => h
  over := fun _ h => h

def emitsFrom (step : σ → Nat → Notif α → σ × List (Notif β)) : σ → List (MEvent α) → List (Notif β)
  | _, [] => []
  | s, e :: es => (step s e.1 e.2).2 ++ emitsFrom step (step s e.1 e.2).1 es

/-- Machine `m` reacts to the sources in `S` by state change + calls of the destination only, as
    described by `step`, as long as its state satisfies `I`; its teardown unsubscribes all of `S`. -/
structure EmitOnly (m : MMachine σ α β) (cfg : Sources α) (I : σ → Prop) (S : Nat → Bool)
    (step : σ → Nat → Notif α → σ × List (Notif β)) : Prop where
  react : ∀ (rec : List (Phase σ β) → MSt σ α β → MSt σ α β) (r : MSt σ α β) (k : Nat) (n : Notif α),
    S k = true → I r.st →
    phases m cfg rec (m.react k n) r = emits m { r with st := (step r.st k n).1 } (step r.st k n).2
  inv : ∀ s k n, S k = true → I s → I (step s k n).1
  teardown : ∀ s k, I s → S k = true → k ∈ (m.teardown s).2

theorem phasesAt_is_phases (m : MMachine σ α β) (cfg : Sources α) (d : Nat) :
    ∃ rec, phasesAt m cfg d = phases m cfg rec := by
  cases d <;> exact ⟨_, rfl⟩

theorem phases_append (m : MMachine σ α β) (cfg : Sources α) (rec) (ps qs : List (Phase σ β)) (r : MSt σ α β) :
    phases m cfg rec (ps ++ qs) r = phases m cfg rec qs (phases m cfg rec ps r) := List.foldl_append ..

theorem phases_emit1 (m : MMachine σ α β) (cfg : Sources α) (rec) (r : MSt σ α β) (x : Notif β) :
    phases m cfg rec [fun s => (s, [.emit x])] r = r.emit m x := rfl

theorem phases_st (m : MMachine σ α β) (cfg : Sources α) (rec) (r : MSt σ α β) (f : σ → σ) :
    phases m cfg rec [fun s => (f s, [])] r = { r with st := f r.st } := rfl

theorem phasesAt_depth (m : MMachine σ α β) (cfg : Sources α) :
    phasesAt m cfg (depth cfg) = phases m cfg (phasesAt m cfg cfg.n) := rfl

theorem feedAll_cons (m : MMachine σ α β) (cfg : Sources α) (r : MSt σ α β) (e : MEvent α) (es : List (MEvent α)) :
    feedAll m cfg r (e :: es) = feedAll m cfg (feed m cfg r e) es := rfl

theorem feed_unsubscribed (m : MMachine σ α β) (cfg : Sources α) (r : MSt σ α β) (e : MEvent α)
    (h : r.subs e.1 = 0) : feed m cfg r e = r := by
  simp [feed, h]

theorem feed_unheard (m : MMachine σ α β) (cfg : Sources α) (r : MSt σ α β) (e : MEvent α)
    (h : r.subs e.1 = 0 ∨ r.sopen e.1 = false) : ∃ d, feed m cfg r e = { r with drops := d } := by
  by_cases h0 : r.subs e.1 = 0
  · exact ⟨r.drops, feed_unsubscribed m cfg r e h0⟩
  · exact ⟨r.drops ++ [.up e.1 e.2], by simp [feed, deliver, h0, h.resolve_left h0]⟩

/-- the subscriber of source `k` is open: its own terminal closes it, then the callback runs -/
theorem feed_open (m : MMachine σ α β) (cfg : Sources α) (r : MSt σ α β) (k : Nat) (n : Notif α)
    (h0 : r.subs k ≠ 0) (h : r.sopen k = true) :
    feed m cfg r (k, n) = phases m cfg (phasesAt m cfg cfg.n) (m.react k n)
      { r with sopen := if n.isTerminal then setAt r.sopen k false else r.sopen } := by
  simp only [feed, deliver, h0, h, if_true, if_false, phasesAt_depth]
  split <;> rfl

theorem feedAll_allClosed (m : MMachine σ α β) (cfg : Sources α) (evs : List (MEvent α)) (r : MSt σ α β)
    (h : ∀ k, r.subs k = 0 ∨ r.sopen k = false) : ∃ d, feedAll m cfg r evs = { r with drops := d } := by
  induction evs generalizing r with
  | nil => exact ⟨r.drops, rfl⟩
  | cons e es ih =>
    obtain ⟨d, hd⟩ := feed_unheard m cfg r e (h e.1)
    rw [feedAll_cons, hd]
    exact ih { r with drops := d } h

/-- The delivered trace of an emit-only machine (the sources of `S` subscribed, open where `cl` says so,
    and nothing else open): the downstream gate applied to the emissions over the per-source-gated
    arrival order. Second part: once the downstream has closed, every source of `S` is released. -/
theorem emitOnly_out {m : MMachine σ α β} {cfg : Sources α} {I : σ → Prop} {S : Nat → Bool}
    {step : σ → Nat → Notif α → σ × List (Notif β)} (hE : EmitOnly m cfg I S step)
    (evs : List (MEvent α)) (r : MSt σ α β) (cl : Nat → Bool)
    (hd : r.downOpen = true) (hb : r.booted = true) (hI : I r.st)
    (hS : ∀ k, S k = true → r.subs k ≠ 0 ∧ r.sopen k = !cl k)
    (hN : ∀ k, S k = false → r.subs k = 0 ∨ r.sopen k = false) :
    (feedAll m cfg r evs).out =
      r.out ++ gate (emitsFrom step r.st (Spec.gateEventsFrom cl (Spec.restrict S evs))) ∧
    ((feedAll m cfg r evs).downOpen = false → ∀ k, S k = true → (feedAll m cfg r evs).sopen k = false) := by
  induction evs generalizing r cl with
  | nil => simp [feedAll, Spec.restrict, Spec.gateEventsFrom, emitsFrom, hd]
  | cons e es ih =>
    obtain ⟨k, n⟩ := e
    rw [feedAll_cons]
    by_cases hk : S k = true ∧ cl k = false
    · obtain ⟨hSk, hck⟩ := hk
      have hheard : Spec.gateEventsFrom cl (Spec.restrict S ((k, n) :: es)) =
          (k, n) :: Spec.gateEventsFrom (if n.isTerminal then setAt cl k true else cl) (Spec.restrict S es) := by
        simp [Spec.restrict, Spec.gateEventsFrom, hSk, hck]
      rw [hheard, emitsFrom, feed_open m cfg r k n (hS k hSk).1 (by rw [(hS k hSk).2, hck]; rfl)]
      have hS' : ∀ j, S j = true → r.subs j ≠ 0 ∧
          (if n.isTerminal then setAt r.sopen k false else r.sopen) j = !(if n.isTerminal then setAt cl k true else cl) j := by
        intro j hj
        refine ⟨(hS j hj).1, ?_⟩
        split
        · simp only [setAt]; split <;> simp [(hS j hj).2]
        · exact (hS j hj).2
      have hN' : ∀ j, S j = false → r.subs j = 0 ∨ (if n.isTerminal then setAt r.sopen k false else r.sopen) j = false := by
        intro j hj
        refine (hN j hj).imp_right fun h => ?_
        split
        · simp [setAt, h]
        · exact h
      generalize (if n.isTerminal then setAt r.sopen k false else r.sopen) = so at hS' hN' ⊢
      generalize (if n.isTerminal then setAt cl k true else cl) = cl' at hS' ⊢
      have hI' := hE.inv _ k n hSk hI
      rw [hE.react _ { r with sopen := so } k n hSk hI]
      dsimp only
      by_cases hl : hasTerm (step r.st k n).2 = true
      · -- the reaction ends the output: the teardown releases `S`, nothing is heard any more
        obtain ⟨d, he⟩ := emits_term m _ { r with sopen := so, st := (step r.st k n).1 } hd hb hl
        rw [he, runTeardown_eq]
        obtain ⟨d', hac⟩ := feedAll_allClosed m cfg es
          { r with st := (m.teardown (step r.st k n).1).1, out := r.out ++ gate (step r.st k n).2, downOpen := false, drops := d,
                   sopen := fun j => if j ∈ (m.teardown (step r.st k n).1).2 then false else so j } (by
            intro j
            cases hSj : S j with
            | true => right; simp [hE.teardown _ j hI' hSj]
            | false => exact (hN' j hSj).imp_right fun h => by simp [h])
        rw [hac]
        exact ⟨by simp [gate_append_of_term _ _ hl], fun _ j hj => by simp [hE.teardown _ j hI' hj]⟩
      · have hl' : hasTerm (step r.st k n).2 = false := by simpa using hl
        rw [emits_noTerm m _ { r with sopen := so, st := (step r.st k n).1 } hd hl']
        have := ih { r with sopen := so, st := (step r.st k n).1, out := r.out ++ (step r.st k n).2 } cl' hd hb hI' hS' hN'
        refine ⟨?_, this.2⟩
        rw [this.1, gate_append_of_noTerm _ _ hl']
        simp
    · have hu : (r.subs k = 0 ∨ r.sopen k = false) ∧
          Spec.gateEventsFrom cl (Spec.restrict S ((k, n) :: es)) = Spec.gateEventsFrom cl (Spec.restrict S es) := by
        cases hSk : S k with
        | false => exact ⟨hN k hSk, by simp [Spec.restrict, hSk]⟩
        | true =>
          have hck : cl k = true := by simpa [hSk] using hk
          exact ⟨.inr (by rw [(hS k hSk).2, hck]; rfl), by simp [Spec.restrict, Spec.gateEventsFrom, hSk, hck]⟩
      obtain ⟨d, hf⟩ := feed_unheard m cfg r (k, n) hu.1
      rw [hf, hu.2]
      exact ih { r with drops := d } cl hd hb hI hS hN

theorem ofSource_cons_same (k : Nat) (x : Notif α) (l : List (MEvent α)) :
    Spec.ofSource k ((k, x) :: l) = x :: Spec.ofSource k l := by simp [Spec.ofSource]

theorem ofSource_cons_other (k j : Nat) (x : Notif α) (l : List (MEvent α)) (h : j ≠ k) :
    Spec.ofSource k ((j, x) :: l) = Spec.ofSource k l := by
  simp [Spec.ofSource, h]

theorem ofSource_restrict (p : Nat → Bool) (k : Nat) (hp : p k = true) (evs : List (MEvent α)) :
    Spec.ofSource k (Spec.restrict p evs) = Spec.ofSource k evs := by
  unfold Spec.ofSource Spec.restrict
  rw [List.filter_filter]
  congr 1
  apply List.filter_congr
  intro e _
  by_cases h : e.1 = k <;> simp [h, hp]

end Ro.Multi
