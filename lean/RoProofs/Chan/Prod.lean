/-
  RoProofs.Chan.Prod — every step of the producer thread preserves `Inv`.
-/
import RoProofs.Chan.Inv
namespace Ro.Chan
open Ro
variable {α : Type} {cfg : Cfg} {src₀ : List (Notif α)} {s : St α}

theorem inv_prod_enter (h : Inv cfg src₀ s)
    (x : Notif α) (xs : List (Notif α)) (hpc : s.ppc = .idle) (hsrc : s.src = x :: xs) (hup : s.upOpen = true) :
    Inv cfg src₀ { s with src := xs, ppc := .send x, entered := s.entered ++ [x], upOpen := !x.isTerminal,
                          raised := s.raised || (cfg.upPanic && cfg.hot && x.isTerminal) } :=
  have h' := h.at hpc rfl rfl
  -- the gate lets `x` through, and is shut behind it when `x` is a terminal
  have key : gate src₀ = s.entered ++ [x] ++ if x.isTerminal then [] else gate xs := by
    rw [h.open_ hup, hsrc, gate_cons, List.append_assoc]; rfl
  -- nothing that needs the gate shut has happened yet
  have opn {P : Prop} (e : s.upOpen = false) : P := Bool.noConfusion (hup.symm.trans e)
  have ncl (hh : cfg.hot = true) : s.closed = false := by
    cases hc : s.closed
    · rfl
    · exact opn (h.hotClosed hh hc)
  { h' with
    flow := by simpa [hand] using congrArg (· ++ [x]) h'.flow
    open_ := fun ho => by rw [key, if_neg (by simpa using ho)]
    whole := fun hc _ => by rw [key, if_pos (by simpa using hc), List.append_nil]
    pre := ⟨_, key.symm⟩
    ppc := fun ht => by simp [ht]
    cpc := h.cpc.mono rfl opn id id
    tpc := h.tpc.mono rfl rfl rfl opn
    term := fun ht => opn (h.term ht).1
    hotClosed := fun hh hc => opn (h.hotClosed hh hc)
    hotFails := fun hh => by simp [ncl hh, h.failsClosed (ncl hh)]
    earlyClosed := fun e hc => opn (h.earlyClosed e hc).1 }

theorem inv_prod_drop (h : Inv cfg src₀ s)
    (x : Notif α) (xs : List (Notif α)) (hup : s.upOpen = false) :
    Inv cfg src₀ { s with src := xs, dropsUp := s.dropsUp ++ [x] } :=
  { h with open_ := fun e => Bool.noConfusion (hup.symm.trans e) }

theorem inv_prod_fail (h : Inv cfg src₀ s)
    (x : Notif α) (hpc : s.ppc = .send x) (hcl : s.closed = true) :
    Inv cfg src₀ { s with ppc := .idle, fails := s.fails ++ [x] } :=
  have h' := h.at hpc rfl rfl
  { h' with
    flow := by simpa [hand] using h'.flow
    failsClosed := fun hc => Bool.noConfusion (hcl.symm.trans hc)
    ppc := trivial
    term := fun ht => ⟨(h.term ht).1, rfl⟩
    hotFails := fun hh => by simpa [hcl, hand] using h'.hotFails hh
    earlyClosed := fun e hc => ⟨(h.earlyClosed e hc).1, rfl⟩
    -- before any `Unsubscribe()` a closed channel means the producer has nothing in hand
    earlyFails := fun e => nomatch (h'.earlyClosed e hcl).2 }

/-- a send completes: the notification goes to the end of the queue, or, by rendezvous, straight
    into the hand of the waiting consumer -/
theorem Inv.sends (h : Inv cfg src₀ s) (x : Notif α) (hpc : s.ppc = .send x) (hcl : s.closed = false)
    (c : CPc α) (q : List (Notif α)) (hq : chold c ++ q = chold s.cpc ++ s.q ++ [x]) (hroom : q.length ≤ cfg.cap)
    (hc : c = s.cpc ∨ c = .hold x) (hub : cfg.toChan = true → cfg.cap = 0 → s.handed = true) :
    Inv cfg src₀ { s with cpc := c, q := q, sent := s.sent ++ [x], ppc := afterSend x } :=
  have h' := h.at hpc rfl rfl
  have hf : s.fails = [] := h.failsClosed hcl
  have hfl : s.entered = s.sent ++ s.fails ++ [x] := h'.flow
  have mono : hasTerm s.sent = true → hasTerm (s.sent ++ [x]) = true := fun ht => by simp [ht]
  { h' with
    fifo := by simp only [h.fifo, List.append_assoc, hq]
    flow := by simp only [hfl, hf, hand_afterSend, List.append_nil]
    room := hroom
    ppc := by
      unfold PpcOK afterSend
      cases hx : x.isTerminal <;> simp [hx]
    cpc := by
      rcases hc with rfl | rfl
      · exact h.cpc.mono rfl id mono fun hx => by simp [hcl] at hx
      · trivial
    term := fun ht => by
      refine ⟨?_, hand_afterSend x⟩
      rcases Bool.or_eq_true_iff.mp (by simpa using ht) with e | e
      · exact (h.term e).1
      · exact h'.ppc e
    hotFails := fun _ => by simp [hf, hcl]
    earlyClosed := fun _ e => Bool.noConfusion (hcl.symm.trans e)
    handDown := fun a b c => mono (h.handDown a b c)
    unbuf := fun a b e => Bool.noConfusion ((hub a b).symm.trans e) }

theorem inv_prod_enq (h : Inv cfg src₀ s)
    (x : Notif α) (hpc : s.ppc = .send x) (hcl : s.closed = false) (hq : s.q.length < cfg.cap) :
    Inv cfg src₀ { s with q := s.q ++ [x], sent := s.sent ++ [x], ppc := afterSend x } :=
  h.sends x hpc hcl s.cpc (s.q ++ [x]) (List.append_assoc ..).symm (by simpa using Nat.succ_le_of_lt hq) (.inl rfl)
    fun _ h0 => by omega

theorem inv_prod_rdv (h : Inv cfg src₀ s)
    (x : Notif α) (hpc : s.ppc = .send x) (hcl : s.closed = false) (hcp : s.cpc = .recv) (hq : s.q = [])
    (hh : (cfg.toChan && !s.handed) = false) :
    Inv cfg src₀ { s with cpc := .hold x, sent := s.sent ++ [x], ppc := afterSend x } :=
  h.sends x hpc hcl (.hold x) s.q (by simp [hcp, hq, chold]) h.room (.inr rfl)
    fun htc _ => by simpa [htc] using hh

theorem inv_prod_stop (h : Inv cfg src₀ s) (hpc : s.ppc = .stop) :
    Inv cfg src₀ { s.stop with ppc := if cfg.toChan then .complete else .idle } := by
  have h' := h.at hpc rfl rfl
  have ht : hasTerm s.sent = true := h'.ppc
  rw [h.stop_eq]
  cases htc : cfg.toChan
  · exact { h'.stopped_of_term ht with ppc := trivial }
  · exact { h'.stopped_of_term ht with ppc := ⟨ht, htc⟩ }

theorem inv_prod_complete (h : Inv cfg src₀ s) (hpc : s.ppc = .complete) :
    Inv cfg src₀ { s with downOpen := false, destCompleted := true, ppc := .td1 } :=
  have h' := h.at hpc rfl rfl
  have hp : hasTerm s.sent = true ∧ cfg.toChan = true := h'.ppc
  { h' with
    earlyDown := fun hn => by simp [hp.2] at hn
    handDown := fun _ _ _ => hp.1
    downEarly := nofun }

/-- the branch `s.downOpen = false`: the destination is already closed and refuses the Complete -/
theorem inv_prod_complete_refused (h : Inv cfg src₀ s) (hpc : s.ppc = .complete) :
    Inv cfg src₀ { s with ppc := .td1 } :=
  have h' := h.at hpc rfl rfl
  { h' with ppc := h'.ppc }

theorem inv_prod_td1 (h : Inv cfg src₀ s) (hpc : s.ppc = .td1) :
    Inv cfg src₀ { s.unsubUp cfg with ppc := .td2 } := by
  have h' := h.at hpc rfl rfl
  have hp : hasTerm s.sent = true ∧ cfg.toChan = true := h'.ppc
  rw [unsubUp_eq]
  exact { h'.unsubUp fun _ => (h.term hp.1).1 with ppc := hp }

theorem inv_prod_td2 (h : Inv cfg src₀ s) (hpc : s.ppc = .td2) :
    Inv cfg src₀ { s.stop with ppc := .idle } := by
  have h' := h.at hpc rfl rfl
  rw [h.stop_eq]
  exact { h'.stopped_of_term h'.ppc.1 with ppc := trivial }

theorem inv_prod {s' : St α} (h : Inv cfg src₀ s) (hs : stepProd cfg s = some s') : Inv cfg src₀ s' := by
  unfold stepProd at hs
  split at hs
  next hpc =>
    split at hs
    · cases hs
    next x xs hsrc =>
      split at hs <;> cases hs
      next hup => exact inv_prod_enter h x xs hpc hsrc hup
      next hup => exact inv_prod_drop h x xs (by simpa using hup)
  next x hpc =>
    split at hs
    next hcl => cases hs; exact inv_prod_fail h x hpc hcl
    next hcl =>
      split at hs
      next hq => cases hs; exact inv_prod_enq h x hpc (by simpa using hcl) hq
      next hq =>
        split at hs
        next hcp hqe =>
          split at hs <;> cases hs
          next hh => exact inv_prod_rdv h x hpc (by simpa using hcl) hcp hqe (by simpa using hh)
        · cases hs
  next hpc => cases hs; exact inv_prod_stop h hpc
  next hpc =>
    split at hs <;> cases hs
    · exact inv_prod_complete h hpc
    · exact inv_prod_complete_refused h hpc
  next hpc => cases hs; exact inv_prod_td1 h hpc
  next hpc => cases hs; exact inv_prod_td2 h hpc

end Ro.Chan
