/-
  RoProofs.Chan.Cons — every step of the consumer thread and of the unsubscribing thread
  preserves `Inv`.
-/
import RoProofs.Chan.Inv
namespace Ro.Chan
open Ro
variable {α : Type} {cfg : Cfg} {src₀ : List (Notif α)} {s : St α}

theorem inv_cons_recv (h : Inv cfg src₀ s)
    (x : Notif α) (q' : List (Notif α)) (hpc : s.cpc = .recv) (hq : s.q = x :: q') :
    Inv cfg src₀ { s with q := q', cpc := .hold x } :=
  have h' := h.at rfl hpc rfl
  { h' with
    fifo := by simpa [hq, chold] using h'.fifo
    room := Nat.le_of_succ_le (by simpa [hq] using h.room) }

theorem inv_cons_exit (h : Inv cfg src₀ s)
    (hpc : s.cpc = .recv) (hq : s.q = []) (hcl : s.closed = true) :
    Inv cfg src₀ { s with cpc := .exited } :=
  { h.at rfl hpc rfl with cpc := ⟨hcl, hq⟩ }

/-- the consumer holds `x`: no terminal came out of the channel before it -/
theorem Inv.held (h : Inv cfg src₀ s) {x : Notif α} (hpc : s.cpc = .hold x) : hasTerm s.got = false := by
  obtain ⟨t, e⟩ := h.script
  rw [hpc] at e
  exact noTerm_of_prefix_gate e

theorem inv_cons_read (h : Inv cfg src₀ s)
    (x : Notif α) (hpc : s.cpc = .hold x) (htc : cfg.toChan = true) :
    Inv cfg src₀ { s with got := s.got ++ [x], cpc := .recv } :=
  have h' := h.at rfl hpc rfl
  { h' with
    fifo := by simpa [chold] using h'.fifo
    earlyOut := fun hn => by simp [htc] at hn
    earlyDown := fun hn => by simp [htc] at hn
    outPre := List.IsPrefix.trans h.outPre (List.prefix_append ..) }

/-- detachOn: a notification has gone downstream; behind a terminal the consumer runs the teardown -/
theorem Inv.delivered (h : Inv cfg src₀ s) {x : Notif α} (hpc : s.cpc = .hold x) (htc : cfg.toChan = false)
    (c : CPc α) (hc : c = if x.isTerminal then .td1 else .recv) :
    s.sent = s.got ++ [x] ++ chold c ++ s.q ∧ CpcOK cfg { s with cpc := c } := by
  have hs : s.sent = s.got ++ [x] ++ s.q := (h.at rfl hpc rfl).fifo
  subst hc
  unfold CpcOK
  cases hx : x.isTerminal <;> simp [hs, hx, htc, chold]

theorem inv_cons_deliver (h : Inv cfg src₀ s)
    (x : Notif α) (hpc : s.cpc = .hold x) (htc : cfg.toChan = false) (hd : s.downOpen = true) :
    Inv cfg src₀ { s with got := s.got ++ [x], out := s.out ++ [x], downOpen := !x.isTerminal,
                          cpc := if x.isTerminal then .td1 else .recv } :=
  -- the downstream is open, so nobody has unsubscribed and everything handled went out
  have he := h.downEarly hd
  have ho : s.out = s.got := h.earlyOut htc he
  have hx := h.delivered hpc htc _ rfl
  { h with
    fifo := hx.1
    cpc := hx.2
    earlyOut := fun _ _ => congrArg (· ++ [x]) ho
    earlyDown := fun _ _ hx => by simp at hx; simp [hx]
    outPre := ⟨[], by simp [ho]⟩
    handDown := fun ht => by simp [htc] at ht
    downEarly := fun _ => he }

theorem inv_cons_dropped (h : Inv cfg src₀ s)
    (x : Notif α) (hpc : s.cpc = .hold x) (htc : cfg.toChan = false) (hd : s.downOpen = false) :
    Inv cfg src₀ { s with got := s.got ++ [x], dropsDown := s.dropsDown ++ [x],
                          cpc := if x.isTerminal then .td1 else .recv } :=
  -- the downstream was closed by `Unsubscribe()`: a terminal would have closed it only after `x`
  have late {P : Prop} (e : early s = true) : P := by
    have := h.earlyDown htc e hd
    rw [h.held hpc] at this
    cases this
  have hx := h.delivered hpc htc _ rfl
  { h with
    fifo := hx.1
    cpc := hx.2
    earlyOut := fun _ => late
    earlyDown := fun _ => late
    outPre := List.IsPrefix.trans h.outPre (List.prefix_append ..) }

theorem inv_cons_td1 (h : Inv cfg src₀ s) (hpc : s.cpc = .td1) :
    Inv cfg src₀ { s.unsubUp cfg with cpc := .td2 } := by
  have h' := h.at rfl hpc rfl
  have hp : hasTerm s.sent = true ∧ cfg.toChan = false := h'.cpc
  rw [unsubUp_eq]
  exact { h'.unsubUp fun _ => (h.term hp.1).1 with cpc := ⟨hp.1, hp.2, fun hh => by simp [hh]⟩ }

theorem inv_cons_td2 (h : Inv cfg src₀ s) (hpc : s.cpc = .td2) :
    Inv cfg src₀ { s.stop with cpc := .recv } := by
  have h' := h.at rfl hpc rfl
  rw [h.stop_eq]
  exact { h'.stopped_of_term h'.cpc.1 with cpc := trivial }

/-! the unsubscribing thread -/

theorem inv_ctl_handout (h : Inv cfg src₀ s) (hpc : s.tpc = .handout) :
    Inv cfg src₀ { s with handed := true, tpc := .cas } :=
  { h.at rfl rfl hpc with tpc := trivial, handDown := nofun, unbuf := fun _ _ e => nomatch e }

theorem inv_ctl_handout' (h : Inv cfg src₀ s) (hpc : s.tpc = .handout) (hd : s.downOpen = false) :
    Inv cfg src₀ { s with handDropped := true, tpc := .cas } :=
  have h' := h.at rfl rfl hpc
  { h' with
    tpc := trivial
    handDown := nofun
    -- the destination was completed, so a terminal was sent: not before the hand-out when unbuffered
    noDrop := fun htc h0 => by
      have := h.handDown htc hpc hd
      rw [h.unbuf htc h0 h'.tpc.2.1] at this
      cases this }

/-- `Unsubscribe()` passes its CAS: what held "as long as nobody called `Unsubscribe()`" is void
    from here on -/
theorem Inv.late (h : Inv cfg src₀ s) {t : TPc} {d : Bool} (hd : d = false)
    (hl : early { s with tpc := t } = false) (hn : t ≠ .handout) (ht : TpcOK cfg { s with tpc := t }) :
    Inv cfg src₀ { s with downOpen := d, tpc := t } :=
  have void {P : Prop} (e : early { s with tpc := t } = true) : P := Bool.noConfusion (hl.symm.trans e)
  { h with
    tpc := ht
    earlyClosed := void
    earlyCut := void
    earlyOut := fun _ => void
    earlyDown := fun _ => void
    handDown := fun _ e => absurd e hn
    downEarly := fun e => Bool.noConfusion (hd.symm.trans e)
    earlyFails := void }

theorem inv_ctl_cas (h : Inv cfg src₀ s) :
    Inv cfg src₀ { s with downOpen := false, tpc := .td1 } :=
  h.late rfl rfl nofun trivial

theorem inv_ctl_cas' (h : Inv cfg src₀ s) (hd : s.downOpen = false) :
    Inv cfg src₀ { s with tpc := .done } :=
  h.late hd rfl nofun trivial

theorem inv_ctl_td1 (h : Inv cfg src₀ s) (hpc : s.tpc = .td1) :
    Inv cfg src₀ { s.unsubUp cfg with tpc := .td2 } := by
  rw [unsubUp_eq]
  exact { (h.at rfl rfl hpc).unsubUp nofun with tpc := fun hh => by simp [hh], handDown := nofun }

theorem inv_ctl_td2 (h : Inv cfg src₀ s) (hpc : s.tpc = .td2) :
    Inv cfg src₀ { s.stop with tpc := .done } := by
  have h' := h.at rfl rfl hpc
  rw [h.stop_eq]
  exact { h'.stopped h'.tpc nofun with tpc := trivial, handDown := nofun }

theorem inv_cons {s' : St α} (h : Inv cfg src₀ s) (hs : stepCons cfg s = some s') : Inv cfg src₀ s' := by
  unfold stepCons at hs
  split at hs
  next hpc =>
    split at hs
    · cases hs
    · split at hs
      next x q' hq => cases hs; exact inv_cons_recv h x q' hpc hq
      next hq =>
        split at hs <;> cases hs
        next hcl => exact inv_cons_exit h hpc hq hcl
  next x hpc =>
    split at hs
    next htc => cases hs; exact inv_cons_read h x hpc htc
    next htc =>
      split at hs <;> cases hs
      next hd => exact inv_cons_deliver h x hpc (by simpa using htc) hd
      next hd => exact inv_cons_dropped h x hpc (by simpa using htc) (by simpa using hd)
  next hpc => cases hs; exact inv_cons_td1 h hpc
  next hpc => cases hs; exact inv_cons_td2 h hpc
  next hpc => cases hs

theorem inv_ctl {s' : St α} (h : Inv cfg src₀ s) (hs : stepCtl cfg s = some s') : Inv cfg src₀ s' := by
  unfold stepCtl at hs
  split at hs
  next hpc =>
    split at hs <;> cases hs
    next hd => exact inv_ctl_handout h hpc
    next hd => exact inv_ctl_handout' h hpc (by simpa using hd)
  next hpc =>
    split at hs <;> cases hs
    next hd => exact inv_ctl_cas h
    next hd => exact inv_ctl_cas' h (by simpa using hd)
  next hpc => cases hs; exact inv_ctl_td1 h hpc
  next hpc => cases hs; exact inv_ctl_td2 h hpc
  next hpc => cases hs

end Ro.Chan
