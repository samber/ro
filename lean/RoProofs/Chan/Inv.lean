/-
  RoProofs.Chan.Inv — invariants of the `Pipe` transition system (detachOn, ToChannel) of
  RoModel/Chan.lean, preserved by every step of every thread, hence true after every schedule.
-/
import RoModel.Chan
import RoProofs.Gate
namespace Ro.Chan
open Ro
variable {α : Type}

/-! ### the invariant -/

/-- `Unsubscribe()` has not yet passed its CAS (the teardown thread is at `handout` or `cas`) -/
def early (s : St α) : Bool :=
  match s.tpc with
  | .handout | .cas => true
  | _ => false

/-- facts tied to the producer's program counter -/
def PpcOK (cfg : Cfg) (s : St α) : Prop :=
  match s.ppc with
  | .idle => True
  | .send x => x.isTerminal = true → s.upOpen = false
  | .stop => hasTerm s.sent = true
  | .complete | .td1 | .td2 => hasTerm s.sent = true ∧ cfg.toChan = true

/-- facts tied to the consumer's program counter -/
def CpcOK (cfg : Cfg) (s : St α) : Prop :=
  match s.cpc with
  | .recv | .hold _ => True
  | .td1 => hasTerm s.sent = true ∧ cfg.toChan = false
  | .td2 => hasTerm s.sent = true ∧ cfg.toChan = false ∧ (cfg.hot = true → s.upOpen = false)
  | .exited => s.closed = true ∧ s.q = []

def TpcOK (cfg : Cfg) (s : St α) : Prop :=
  match s.tpc with
  | .handout => cfg.toChan = true ∧ s.handed = false ∧ s.handDropped = false
  | .td2 => cfg.hot = true → s.upOpen = false
  | _ => True

structure Inv (cfg : Cfg) (src₀ : List (Notif α)) (s : St α) : Prop where
  /-- FIFO, nothing lost, nothing invented between the two ends of the channel -/
  fifo : s.sent = s.got ++ chold s.cpc ++ s.q
  /-- every notification that entered a producer callback was sent, failed on the closed
      channel, or is still in the producer's hand -/
  flow : s.entered = s.sent ++ s.fails ++ hand s.ppc
  room : s.q.length ≤ cfg.cap
  failsClosed : s.closed = false → s.fails = []
  /-- what entered is the gated script so far -/
  open_ : s.upOpen = true → gate src₀ = s.entered ++ gate s.src
  whole : s.upOpen = false → s.cut = false → gate src₀ = s.entered
  pre : ∃ t, s.entered ++ t = gate src₀
  onceClosed : s.closed = s.once
  closes : s.closes = if s.once then 1 else 0
  stops : 0 < s.stops → s.once = true
  ppc : PpcOK cfg s
  cpc : CpcOK cfg s
  tpc : TpcOK cfg s
  /-- once a terminal is in the channel the producer has nothing in hand and its gate is shut -/
  term : hasTerm s.sent = true → s.upOpen = false ∧ hand s.ppc = []
  /-- a closed channel and a registered (hot) source: the upstream gate is shut -/
  hotClosed : cfg.hot = true → s.closed = true → s.upOpen = false
  hotFails : cfg.hot = true → s.fails.length + (if s.closed then (hand s.ppc).length else 0) ≤ 1
  /-- as long as nobody called `Unsubscribe()`: a closed channel means the producer is done -/
  earlyClosed : early s = true → s.closed = true → s.upOpen = false ∧ hand s.ppc = []
  earlyCut : early s = true → s.cut = false
  earlyOut : cfg.toChan = false → early s = true → s.out = s.got
  earlyDown : cfg.toChan = false → early s = true → s.downOpen = false → hasTerm s.got = true
  outPre : ∃ t, s.out ++ t = s.got
  /-- ToChannel: the destination is completed only after a terminal went into the channel … -/
  handDown : cfg.toChan = true → s.tpc = .handout → s.downOpen = false → hasTerm s.sent = true
  /-- … and an unbuffered channel accepts nothing before it was handed out -/
  unbuf : cfg.toChan = true → cfg.cap = 0 → s.handed = false → s.sent = []
  /-- the downstream is still open only if `Unsubscribe()` has not passed its CAS -/
  downEarly : s.downOpen = true → early s = true
  /-- no send fails unless somebody called `Unsubscribe()` -/
  earlyFails : early s = true → s.fails = []
  /-- ToChannel, unbuffered: the hand-out is never refused -/
  noDrop : cfg.toChan = true → cfg.cap = 0 → s.handDropped = false

theorem inv_init (cfg : Cfg) (src₀ : List (Notif α)) : Inv cfg src₀ (init cfg src₀) := by
  constructor <;> simp [init, chold, hand, PpcOK, CpcOK, TpcOK, early]
  all_goals cases cfg.toChan <;> simp

variable {cfg : Cfg} {src₀ : List (Notif α)} {s s' : St α}

/-- the gated script, from the consumer's end of the channel to the producer's -/
theorem Inv.script (h : Inv cfg src₀ s) :
    ∃ t, s.got ++ (chold s.cpc ++ (s.q ++ (s.fails ++ (hand s.ppc ++ t)))) = gate src₀ :=
  let ⟨t, e⟩ := h.pre
  ⟨t, by rw [← e, h.flow, h.fifo]; simp only [List.append_assoc]⟩

/-! ### the program counters

Each of `PpcOK`, `CpcOK`, `TpcOK` only gets easier when the upstream gate shuts, a terminal
enters the channel or the channel is closed, as long as the counter itself stays. -/

theorem hand_length_le (p : PPc α) : (hand p).length ≤ 1 := by
  cases p <;> simp [hand]

theorem hand_afterSend (x : Notif α) : hand (afterSend x) = [] := by
  unfold afterSend; split <;> rfl

theorem PpcOK.mono (h : PpcOK cfg s) (hpc : s'.ppc = s.ppc) (hup : s.upOpen = false → s'.upOpen = false)
    (hs : hasTerm s.sent = true → hasTerm s'.sent = true) : PpcOK cfg s' := by
  revert h; unfold PpcOK; rw [hpc]
  cases s.ppc with
  | idle => exact id
  | send x => exact fun h t => hup (h t)
  | stop => exact hs
  | _ => exact And.imp_left hs

theorem CpcOK.mono (h : CpcOK cfg s) (hpc : s'.cpc = s.cpc) (hup : s.upOpen = false → s'.upOpen = false)
    (hs : hasTerm s.sent = true → hasTerm s'.sent = true)
    (hx : s.closed = true ∧ s.q = [] → s'.closed = true ∧ s'.q = []) : CpcOK cfg s' := by
  revert h; unfold CpcOK; rw [hpc]
  cases s.cpc with
  | recv | hold _ => exact id
  | td1 => exact And.imp_left hs
  | td2 => exact fun h => ⟨hs h.1, h.2.1, fun hh => hup (h.2.2 hh)⟩
  | exited => exact hx

theorem TpcOK.mono (h : TpcOK cfg s) (hpc : s'.tpc = s.tpc) (hh : s'.handed = s.handed)
    (hd : s'.handDropped = s.handDropped) (hup : s.upOpen = false → s'.upOpen = false) : TpcOK cfg s' := by
  revert h; unfold TpcOK; rw [hpc, hh, hd]
  cases s.tpc with
  | td2 => exact fun h hh => hup (h hh)
  | _ => exact id

/-- the invariant read at known program counters: what it says through `hand`, `chold`, `early`
    and the three predicates above then computes, so that a step only has to name the fields
    whose content it changes -/
theorem Inv.at (h : Inv cfg src₀ s) {p : PPc α} {c : CPc α} {t : TPc} (hp : s.ppc = p) (hc : s.cpc = c)
    (ht : s.tpc = t) : Inv cfg src₀ { s with ppc := p, cpc := c, tpc := t } := by
  cases s; cases hp; cases hc; cases ht; exact h

/-! ### `stop()` and the upstream unsubscription

Both are conditional updates in the model; under the invariant they are plain ones, so that the
fields they leave alone stay definitionally what they were. -/

theorem Inv.stop_eq (h : Inv cfg src₀ s) :
    s.stop = { s with once := true, closed := true, closes := 1, stops := s.stops + 1 } := by
  have hc := h.closes
  have ho := h.onceClosed
  unfold St.stop
  split
  next h1 => rw [h1] at hc ho; cases s; simp_all
  next h1 => simp only [h1] at hc; cases s; simp_all

/-- closing the channel needs the upstream gate of a registered source shut, and, before any
    `Unsubscribe()`, a producer that is done -/
theorem Inv.stopped (h : Inv cfg src₀ s) (hhot : cfg.hot = true → s.upOpen = false)
    (he : early s = true → s.upOpen = false ∧ hand s.ppc = []) :
    Inv cfg src₀ { s with once := true, closed := true, closes := 1, stops := s.stops + 1 } :=
  { h with
    failsClosed := nofun
    onceClosed := rfl
    closes := rfl
    stops := fun _ => rfl
    cpc := h.cpc.mono rfl id id fun hx => ⟨rfl, hx.2⟩
    hotClosed := fun hh _ => hhot hh
    hotFails := fun hh => by
      cases hc : s.closed
      · simpa [h.failsClosed hc] using hand_length_le s.ppc
      · simpa [hc] using h.hotFails hh
    earlyClosed := fun e _ => he e }

/-- … which is so behind a terminal in the channel -/
theorem Inv.stopped_of_term (h : Inv cfg src₀ s) (ht : hasTerm s.sent = true) :
    Inv cfg src₀ { s with once := true, closed := true, closes := 1, stops := s.stops + 1 } :=
  h.stopped (fun _ => (h.term ht).1) fun _ => h.term ht

theorem unsubUp_eq (cfg : Cfg) (s : St α) :
    s.unsubUp cfg = { s with upOpen := s.upOpen && !cfg.hot, cut := s.cut || (cfg.hot && s.upOpen),
                             raised := s.raised || (cfg.hot && cfg.upPanic && s.upOpen) } := by
  unfold St.unsubUp
  cases cfg.hot <;> simp

/-- shutting the upstream gate from outside records a cut: not allowed before `Unsubscribe()`
    unless the gate is shut already -/
theorem Inv.unsubUp (h : Inv cfg src₀ s) (he : early s = true → s.upOpen = false) :
    Inv cfg src₀ { s with upOpen := s.upOpen && !cfg.hot, cut := s.cut || (cfg.hot && s.upOpen),
                          raised := s.raised || (cfg.hot && cfg.upPanic && s.upOpen) } :=
  have shut : s.upOpen = false → (s.upOpen && !cfg.hot) = false := fun hu => by simp [hu]
  { h with
    open_ := fun hu => h.open_ (Bool.and_eq_true_iff.mp hu).1
    whole := fun hu hc => by
      have ⟨h1, h2⟩ : s.upOpen = false ∧ s.cut = false := by
        revert hu hc; cases cfg.hot <;> cases s.upOpen <;> simp
      exact h.whole h1 h2
    ppc := h.ppc.mono rfl shut id
    cpc := h.cpc.mono rfl shut id id
    tpc := h.tpc.mono rfl rfl rfl shut
    term := fun ht => ⟨shut (h.term ht).1, (h.term ht).2⟩
    hotClosed := fun hh hc => shut (h.hotClosed hh hc)
    earlyClosed := fun e hc => ⟨shut (h.earlyClosed e hc).1, (h.earlyClosed e hc).2⟩
    earlyCut := fun e => by simp [h.earlyCut e, he e] }

end Ro.Chan
