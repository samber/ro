/-
  RoProofs.TimedPeriodic — DelayEach, Interval, Timer, IntervalWithInitial: lower bounds for every
  environment that respects "never early".
-/
import RoProofs.TimedBasic
namespace Ro.Timed

/-! ### DelayEach -/

theorem delayEach_model_clause (r : DelayEachRun) (h : DelayEachWF r) :
    Clause { op := .delayEach, d := r.d } (delayEachTrace r) :=
  clause_down r.unsub _ rfl (silentOK_down _ r.unsub _ rfl rfl) fun k dl hk => by
    simp only [List.getElem?_map, Option.map_eq_some_iff] at hk
    obtain ⟨e, he, rfl⟩ := hk
    have : (delayEachTrace r).emits[k]? = some (Ev.at e.1 e.2.2) := by simp [delayEachTrace, he]
    simp only [OpAt, DelayEachAt, this]
    have := h e (List.mem_of_getElem? he)
    cases ht : e.2.2.isTerminal <;> simp_all [Ev.at]

/-! ### Interval -/

/-- **Interval**: value `k` is never delivered before `k+1` periods have elapsed since
    subscription, whatever the ticker's lateness and whenever cancellation / teardown happen. -/
theorem interval_model_clause (r : IntervalRun) (h : IntervalWF r) :
    Clause { op := .interval, d := r.p } (intervalTrace r) := by
  refine clause_down r.unsub _ rfl (silentOK_stopCut _ r.stop r.unsub _ _ rfl rfl (stopAttempt_length _)
    fun c x hs => ?_) fun k dl hk => ?_
  · rw [lateCount_mapIdx c r.ticks _ (fun _ _ => rfl)]
    exact h.selectFair c x hs
  · show IntervalAt r.p (intervalTrace r) k dl
    rw [List.getElem?_append] at hk
    split at hk
    · simp only [List.getElem?_mapIdx, Option.map_eq_some_iff] at hk
      obtain ⟨t, ht, rfl⟩ := hk
      exact ⟨rfl, h.neverEarly k t ht⟩
    · obtain ⟨c, x, hs, rfl⟩ := stopAttempt_getElem? hk
      exact cancelledBy_stopCut _ c x r.unsub (by simp [intervalTrace, hs]) (h.stopLate c x hs)

/-! ### Timer -/

theorem timer_model_clause (r : TimerRun) (h : TimerWF r) :
    Clause { op := .timer, d := r.d } (timerTrace r) := by
  obtain ⟨d, sub, o⟩ := r
  cases o with
  | fired t t' =>
    refine clause_down none [Ev.at t (.next d), Ev.at t' .complete] rfl (silentOK_none _ rfl) fun k dl hk => ?_
    match k with
    | 0 => cases hk; exact ⟨rfl, rfl, h⟩
    | 1 => cases hk; exact rfl
    | k + 2 => cases hk
  | cancelled c x =>
    refine clause_down none [Ev.at x (.error errCancelled)] rfl
      (silentOK_cancel _ c c rfl (Nat.le_trans (lateCount_le_length c _) (by simp [timerTrace, cancelSlack]))) fun k dl hk => ?_
    match k with
    | 0 => cases hk; exact ⟨rfl, rfl, h⟩
    | k + 1 => cases hk
  | pending => exact clause_down none [] rfl (silentOK_none _ rfl) fun k dl hk => by cases hk

/-! ### IntervalWithInitial (repaired code, 6a7ef90) -/

/-- the output so far: value `k` was sent at an instant not before `sub + i + k·p` -/
structure IwiOut (sub i p : Nat) (out : List (Time × Nat × Time)) (v need : Nat) : Prop where
  late : ∀ o ∈ out, o.2.2 ≤ o.1
  vals : out.map (·.2.1) = List.range v
  needs : ∀ o ∈ out, o.2.2 = sub + i + o.2.1 * p
  need : need = sub + i + v * p

/-- emitting the next value at an instant `t` that is not before the bound asked -/
theorem IwiOut.emit {sub i p : Nat} {s : IwiSt} (h : IwiOut sub i p s.out s.v s.need) (t : Time) (ht : s.need ≤ t) :
    IwiOut sub i p (s.emit t p).out (s.emit t p).v (s.emit t p).need := by
  refine ⟨?_, ?_, ?_, ?_⟩
  · intro o ho
    rcases List.mem_append.1 ho with ho | ho
    · exact h.late o ho
    · cases List.mem_singleton.1 ho; exact ht
  · simp only [IwiSt.emit, List.map_append, List.map_cons, List.map_nil, h.vals, List.range_succ]
  · intro o ho
    rcases List.mem_append.1 ho with ho | ho
    · exact h.needs o ho
    · cases List.mem_singleton.1 ho; exact h.need
  · simp only [IwiSt.emit, h.need, Nat.add_mul, Nat.one_mul]; omega

/-- what stays true along every possible run when `0 < p` -/
structure IwiInv (sub i p : Nat) (s : IwiSt) : Prop where
  out : IwiOut sub i p s.out s.v s.need
  alive : s.ended = none
  pre : s.reset = none → s.v = 0
  fresh : s.timerDone = false → i ≠ 0 → s.reset = none
  post : ∀ r, s.reset = some r → s.need ≤ s.newLb

theorem iwiInv_init (sub i p first : Nat) (hp : 0 < p) (hf : sub ≤ first) : IwiInv sub i p (iwiInit sub i p first) := by
  have hp' : ¬ p = 0 := by omega
  have h0 : IwiOut sub i p [] 0 (sub + i) := ⟨by simp, by simp, by simp, by simp⟩
  unfold iwiInit
  by_cases hi : i = 0
  · subst hi
    simp only [if_true, IwiSt.armAt, hp', if_false]
    refine ⟨h0.emit first (by simpa using hf), rfl, by simp, fun _ h => absurd rfl h, fun r _ => ?_⟩
    simp only [IwiSt.emit]; omega
  · simp only [hi, if_false]
    exact ⟨h0, rfl, fun _ => rfl, fun _ _ => rfl, by simp⟩

theorem iwiInv_step {sub i p : Nat} (hp : 0 < p) {s s' : IwiSt} {e : IwiEv}
    (hinv : IwiInv sub i p s) (hstep : iwiStep sub i p s e = some s') : IwiInv sub i p s' := by
  have hp' : ¬ p = 0 := by omega
  cases e with
  | timer t =>
    simp only [iwiStep] at hstep
    split at hstep
    next hc =>
      obtain ⟨htd, _, hnow, hti⟩ := hc
      split at hstep
      next hi0 =>
        cases hstep
        exact ⟨hinv.out, hinv.alive, hinv.pre, fun h => by simp at h, hinv.post⟩
      next hi0 =>
        cases hstep
        -- the first value: nothing was sent before the timer, so the bound asked is `sub + i ≤ t`
        have hv0 := hinv.pre (hinv.fresh htd hi0)
        have hneed : s.need ≤ t := by have := hinv.out.need; rw [hv0] at this; omega
        simp only [IwiSt.armAt, hp', if_false]
        refine ⟨hinv.out.emit t hneed, hinv.alive, by simp, fun h => by simp at h, fun r _ => ?_⟩
        simp only [IwiSt.emit]; omega
    next => cases hstep
  | tick t =>
    simp only [iwiStep] at hstep
    split at hstep
    next => cases hstep
    next r hsome =>
      split at hstep
      next hc =>
        obtain ⟨_, hnow, hlb⟩ := hc
        cases hstep
        have p1 := hinv.post r hsome
        refine ⟨hinv.out.emit t (by omega), hinv.alive, fun h => ?_, hinv.fresh, fun r' _ => ?_⟩
        · rw [show (s.emit t p).reset = s.reset from rfl, hsome] at h; cases h
        · simp only [IwiSt.emit]; omega
      next => cases hstep

theorem iwiInv_run {sub i p : Nat} (hp : 0 < p) : ∀ (evs : List IwiEv) (s s' : IwiSt),
    IwiInv sub i p s → iwiRunFrom sub i p s evs = some s' → IwiInv sub i p s'
  | [], s, s', hinv, h => by cases h; exact hinv
  | e :: es, s, s', hinv, h => by
    simp only [iwiRunFrom] at h
    split at h
    next s1 hs1 => exact iwiInv_run hp es s1 s' (iwiInv_step hp hinv hs1) h
    next => cases h

/-- **IntervalWithInitial** (code as repaired by 6a7ef90), every `initial ≥ 0` and every
    `interval > 0`: value `k` is never delivered before `initial + k·interval`, never an Error, for
    every instant at which the `select` takes the timer and the ticks, however late.
    (Before 6a7ef90 `initial = 0` errored and `interval > initial` raced.) -/
theorem iwi_model_clause (r : IwiRun) (hp : 0 < r.p)
    (hstop : ∀ c x, r.stop = some (c, x) → c ≤ x)
    (hfair : ∀ c x s, r.stop = some (c, x) → iwiRunFrom r.sub r.i r.p (iwiInit r.sub r.i r.p r.first) r.evs = some s →
      (s.out.filter (fun o => decide (c < o.1))).length ≤ cancelSlack)
    (tr : TimedTrace) (htr : iwiTrace r = some tr) :
    Clause { op := .intervalWithInitial, d := r.p, d2 := r.i } tr := by
  unfold iwiTrace at htr
  split at htr
  next => cases htr
  next hfirst =>
  simp only [Option.map_eq_some_iff] at htr
  obtain ⟨s, hs, rfl⟩ := htr
  have hinv := iwiInv_run hp r.evs _ s (iwiInv_init r.sub r.i r.p r.first hp (by omega)) hs
  simp only [hinv.alive, Option.map_none, Option.toList_none, List.append_nil]
  refine clause_down r.unsub _ rfl (silentOK_stopCut _ r.stop r.unsub _ _ rfl rfl (stopAttempt_length _)
    fun c x hst => ?_) fun k dl hk => ?_
  · refine Nat.le_trans (Nat.le_of_eq ?_) (hfair c x s hst hs)
    simp only [lateCount, List.filter_map, List.length_map]
    rfl
  · show IwiAt r.i r.p _ k dl
    rw [List.getElem?_append] at hk
    split at hk
    · simp only [List.getElem?_map, Option.map_eq_some_iff] at hk
      obtain ⟨o, ho, rfl⟩ := hk
      have hmem : o ∈ s.out := List.mem_of_getElem? ho
      have hval : o.2.1 = k := by
        have : (s.out.map (·.2.1))[k]? = some o.2.1 := by simp [ho]
        rw [hinv.out.vals] at this
        simpa using (List.getElem?_eq_some_iff.1 this).2.symm
      have hb := hinv.out.late o hmem
      have hn := hinv.out.needs o hmem
      rw [hval] at hn
      exact ⟨by simp [hval], by simp only [Ev.at]; omega⟩
    · obtain ⟨c, x, hs', rfl⟩ := stopAttempt_getElem? hk
      exact cancelledBy_stopCut _ c x r.unsub (by simp [hs']) (hstop c x hs')

-- non-vacuity: interval (10) > initial (1), a goroutine that wakes late: value 1 still waits for a whole period
example : (iwiTrace { i := 1, p := 10, sub := 0, first := 0, evs := [.timer 2, .tick 12, .tick 25], stop := some (26, 27), unsub := none }).map (·.dels)
    = some [Ev.at 2 (.next 0), Ev.at 12 (.next 1), Ev.at 25 (.next 2), Ev.at 27 .complete] := by decide
-- an environment that asks for an early tick is not a run at all
example : iwiTrace { i := 1, p := 10, sub := 0, first := 0, evs := [.timer 2, .tick 11], stop := none, unsub := none } = none := by decide
-- initial = 0, the ignored timer case, ticks from the Reset made by Subscribe
example : (iwiTrace { i := 0, p := 3, sub := 5, first := 6, evs := [.timer 6, .tick 9, .tick 13], stop := none, unsub := none }).map (·.dels)
    = some [Ev.at 6 (.next 0), Ev.at 9 (.next 1), Ev.at 13 (.next 2)] := by decide
-- interval = 0 is outside the theorem: `Reset(0)` panics; the goroutine dies and the deferred Complete
-- follows value 0 without any cancellation — not a trace C16 accepts of a periodic source
example : ∃ tr, iwiTrace { i := 2, p := 0, sub := 0, first := 0, evs := [.timer 2], stop := none, unsub := none } = some tr
    ∧ tr.dels = [Ev.at 2 (.next 0), Ev.at 2 .complete] ∧ ¬ Clause { op := .intervalWithInitial, d := 0, d2 := 2 } tr :=
  ⟨_, rfl, by decide, by decide⟩

end Ro.Timed
