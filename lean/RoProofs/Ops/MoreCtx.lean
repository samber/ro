/-
  RoProofs.Ops.MoreCtx — C09 (context propagation) for the machines of RoModel/Ops/More.lean:
  `ctxWithValueM`, `contextMapM`, `contextResetM`, `castM`, `tapM`, `timedM`, `averageM`.

  Same layout as RoProofs/Ops/CtxSpecs.lean: one theorem `<op>_ctx` per machine, `CtxSafe.run` of
  its certificate. Specifics:
   * `ctxWithValueM m`: besides the certificate, `ctxWithValue_marks` — every delivered notification
     (value, error, completion) carries the added marker `m`, whatever the source sends;
   * `contextMapM f`: hypothesis "given a non-nil context, `f` returns a context derived from it";
     `ContextWithTimeout` / `ContextWithDeadline` (child context, same markers) need none;
   * `contextResetM nc` is NOT certifiable in general — by definition it replaces the context
     (`contextReset_not_derived_witness`, `contextReset_not_allFrom`). What remains:
     certificate when `nc` happens to be derived from `sub` (`contextReset_ctx_of_derived`), exact
     context (`contextReset_ctx_eq`), and the "never nil" half of C09 (`contextReset_never_nil`).
-/
import RoProofs.Ops.CtxSpecs
import RoModel.Ops.More
namespace Ro
variable {σ α β τ : Type}

/-! ### a pointwise property of every emission is a property of every delivered notification -/

theorem runOp_out_forall (m : Machine σ α β) (P : Notif β → Prop)
    (hsub : ∀ s c, ∀ n ∈ (m.onSubscribe s c).2, P n)
    (hstep : ∀ s x, ∀ n ∈ (m.step s x).2, P n)
    (mode : SrcMode) (sub : Ctx) (raw : List (Notif α)) :
    ∀ n ∈ (runOp m mode sub raw).out, P n := by
  intro n hn
  rcases mem_runOp_out hn with h | h
  · exact hsub _ _ n h
  · obtain ⟨s, x, _, hn⟩ := mem_emits h
    exact hstep s x n hn

/-! ## operator_context.go -/

/-! ### ContextWithValue -/

theorem ctxWithValue_ctx (m : Nat) (sub : Ctx)
    (mode : SrcMode) (raw : List (Notif α)) (hraw : ∀ x ∈ raw, x.ctx.derivedFrom sub) :
    AllFrom sub (runOp (ctxWithValueM m) mode sub raw).out :=
  CtxSafe.run (.stateless (ctxWithValueM m) sub
    (fun _ c _ h => each_one ((Ctx.derivedFrom_tag c m h.1).trans h))
    (fun _ c _ h => each_one ((Ctx.derivedFrom_tag c m h.1).trans h))
    (fun _ c h => each_one ((Ctx.derivedFrom_tag c m h.1).trans h))) mode raw hraw

theorem Ctx.mem_marks_tag (c : Ctx) (m : Nat) : m ∈ (c.tag m).marks := by
  simp [Ctx.tag]

/-- every notification `ContextWithValue` delivers — value, error, completion — carries the added
    marker, for every raw script (no hypothesis on the source) and both source modes -/
theorem ctxWithValue_marks (m : Nat) (mode : SrcMode) (sub : Ctx) (raw : List (Notif α)) :
    ∀ n ∈ (runOp (ctxWithValueM (α := α) m) mode sub raw).out, m ∈ n.ctx.marks :=
  runOp_out_forall _ (fun n => m ∈ n.ctx.marks) (fun _ _ => each_nil)
    (fun _ x => by cases x <;> exact each_one (Ctx.mem_marks_tag _ m)) mode sub raw

/-- the context handed to the source is derived from the subscription context too -/
theorem ctxWithValueUp_derived (m : Nat) (sub : Ctx) (h : sub.isNil = false) :
    (ctxWithValueUp m sub).derivedFrom sub :=
  Ctx.derivedFrom_tag sub m h

/-! ### ContextMap / ContextMapI / ContextWithTimeout / ContextWithDeadline -/

theorem contextMap_ctx (f : Ctx → Nat → Ctx) (sub : Ctx)
    (hf : ∀ c i, c.isNil = false → (f c i).derivedFrom c)
    (mode : SrcMode) (raw : List (Notif α)) (hraw : ∀ x ∈ raw, x.ctx.derivedFrom sub) :
    AllFrom sub (runOp (contextMapM f) mode sub raw).out :=
  CtxSafe.run (.stateless (contextMapM f) sub fun i c _ h => each_one ((hf c i h.1).trans h)) mode raw hraw

/-- `ContextWithTimeout(d)`: `project c _ = context.WithTimeout(c, d)`, same markers as `c` -/
theorem contextWithTimeout_ctx (sub : Ctx)
    (mode : SrcMode) (raw : List (Notif α)) (hraw : ∀ x ∈ raw, x.ctx.derivedFrom sub) :
    AllFrom sub (runOp (contextMapM (α := α) (fun c _ => c)) mode sub raw).out :=
  contextMap_ctx _ sub (fun c _ h => Ctx.derivedFrom_refl c h) mode raw hraw

/-- `ContextWithDeadline(t)`: `project c _ = context.WithDeadline(c, t)`, same markers as `c` -/
theorem contextWithDeadline_ctx (sub : Ctx)
    (mode : SrcMode) (raw : List (Notif α)) (hraw : ∀ x ∈ raw, x.ctx.derivedFrom sub) :
    AllFrom sub (runOp (contextMapM (α := α) (fun c _ => c)) mode sub raw).out :=
  contextWithTimeout_ctx sub mode raw hraw

/-! ### ContextReset — NOT certifiable: by definition it replaces the context.

  The full statement

      theorem contextReset_ctx (nc sub : Ctx) (mode : SrcMode) (raw : List (Notif α))
          (hraw : ∀ x ∈ raw, x.ctx.derivedFrom sub) : AllFrom sub (runOp (contextResetM nc) mode sub raw).out

  is FALSE (`contextReset_not_allFrom`). It holds when `nc` happens to be derived from `sub`
  (in particular when `sub` carries no marker and `nc` is not nil); in general only the exact
  context (`contextReset_ctx_eq`) and "never nil" (`contextReset_never_nil`) remain. -/

theorem contextReset_ctx_of_derived (nc sub : Ctx) (h : nc.derivedFrom sub)
    (mode : SrcMode) (raw : List (Notif α)) (hraw : ∀ x ∈ raw, x.ctx.derivedFrom sub) :
    AllFrom sub (runOp (contextResetM nc) mode sub raw).out :=
  CtxSafe.run (.stateless (contextResetM nc) sub (fun _ _ _ _ => each_one h) (fun _ _ _ _ => each_one h)
    (fun _ _ _ => each_one h)) mode raw hraw

/-- every notification `ContextReset(nc)` delivers carries exactly `nc` — whatever the source sends -/
theorem contextReset_ctx_eq (nc : Ctx) (mode : SrcMode) (sub : Ctx) (raw : List (Notif α)) :
    ∀ n ∈ (runOp (contextResetM (α := α) nc) mode sub raw).out, n.ctx = nc :=
  runOp_out_forall _ (fun n => n.ctx = nc) (fun _ _ => each_nil)
    (fun _ x => by cases x <;> exact each_one rfl) mode sub raw

/-- … hence the hypothesis on the source is not even needed when `nc` is derived from `sub` -/
theorem contextReset_ctx_of_derived' (nc sub : Ctx) (h : nc.derivedFrom sub)
    (mode : SrcMode) (raw : List (Notif α)) :
    AllFrom sub (runOp (contextResetM nc) mode sub raw).out :=
  fun n hn => contextReset_ctx_eq nc mode sub raw n hn ▸ h

/-- the half of C09 that still holds for `ContextReset`: the delivered context is never nil
    (`nc` is normalised to `context.Background()` at construction when the argument was nil) -/
theorem contextReset_never_nil (nc : Ctx) (h : nc.isNil = false)
    (mode : SrcMode) (sub : Ctx) (raw : List (Notif α)) :
    ∀ n ∈ (runOp (contextResetM (α := α) nc) mode sub raw).out, n.ctx.isNil = false :=
  fun n hn => contextReset_ctx_eq nc mode sub raw n hn ▸ h

/-- … and conversely: it is derived from `sub` only if `nc` is (as soon as something is delivered) -/
theorem contextReset_allFrom_iff (nc sub : Ctx) (mode : SrcMode) (raw : List (Notif α))
    (hne : (runOp (contextResetM nc) mode sub raw).out ≠ []) :
    AllFrom sub (runOp (contextResetM nc) mode sub raw).out ↔ nc.derivedFrom sub := by
  refine ⟨fun h => ?_, fun h => contextReset_ctx_of_derived' nc sub h mode raw⟩
  obtain ⟨n, hn⟩ := List.exists_mem_of_ne_nil _ hne
  exact contextReset_ctx_eq nc mode sub raw n hn ▸ h n hn

section ResetWitness

local instance (d c : Ctx) : Decidable (d.derivedFrom c) := by unfold Ctx.derivedFrom; exact inferInstance

/-- subscription context with marker 7; the source honours the contract (per-item markers 1, 2
    added to it); `ContextReset` is configured with an unrelated, non-nil context (marker 5) -/
theorem contextReset_witness_hyp :
    ∀ x ∈ ([.next { marks := [7, 1] } 3, .complete { marks := [7, 2] }] : List (Notif Nat)),
      x.ctx.derivedFrom { marks := [7] } := by decide

theorem contextReset_not_derived_witness (mode : SrcMode) :
    (runOp (contextResetM (α := Nat) { marks := [5] }) mode { marks := [7] }
        [.next { marks := [7, 1] } 3, .complete { marks := [7, 2] }]).out =
      [.next { marks := [5] } 3, .complete { marks := [5] }] := by
  cases mode <;> decide

/-- general form: any marker of `sub` that `nc` lacks is lost on whatever is delivered -/
theorem contextReset_lost_marker' (nc sub : Ctx) (m : Nat) (hm : m ∈ sub.marks) (hnc : m ∉ nc.marks)
    (mode : SrcMode) (raw : List (Notif α)) (hne : (runOp (contextResetM nc) mode sub raw).out ≠ []) :
    ¬ AllFrom sub (runOp (contextResetM nc) mode sub raw).out :=
  fun h => hnc (((contextReset_allFrom_iff nc sub mode raw hne).1 h).2 m hm)

/-- the deviation from C09 (by design of the operator): the marker of the subscription context is
    lost on every delivered notification -/
theorem contextReset_not_allFrom (mode : SrcMode) :
    ¬ AllFrom { marks := [7] }
      (runOp (contextResetM (α := Nat) { marks := [5] }) mode { marks := [7] }
        [.next { marks := [7, 1] } 3, .complete { marks := [7, 2] }]).out :=
  contextReset_lost_marker' _ _ 7 (by decide) (by decide) mode _
    (by rw [contextReset_not_derived_witness]; exact List.cons_ne_nil _ _)

/-- … in particular as soon as the source completes -/
theorem contextReset_lost_marker (nc sub : Ctx) (m : Nat) (hm : m ∈ sub.marks) (hnc : m ∉ nc.marks)
    (mode : SrcMode) :
    ¬ AllFrom sub (runOp (contextResetM (α := α) nc) mode sub [.complete sub]).out :=
  contextReset_lost_marker' nc sub m hm hnc mode _
    (by rw [runOp_out (contextResetM (α := α) nc) mode sub _ rfl]; exact List.cons_ne_nil _ _)

end ResetWitness

/-! ## operator_transformations.go -/

/-! ### Cast -/

theorem cast_ctx (ok : α → Option β) (err : Err) (sub : Ctx)
    (mode : SrcMode) (raw : List (Notif α)) (hraw : ∀ x ∈ raw, x.ctx.derivedFrom sub) :
    AllFrom sub (runOp (castM ok err) mode sub raw).out :=
  CtxSafe.run (.stateless (castM ok err) sub fun _ _ _ h => by
    dsimp only [castM]
    split <;> exact each_one h) mode raw hraw

/-! ## operator_utility.go -/

/-! ### Tap / Do — invariant: every logged callback invocation got a context derived from `sub`
    (C09 for the user's callbacks, not only for the downstream observer) -/

theorem tap_ctx (sel : Notif α → Bool) (sub : Ctx)
    (mode : SrcMode) (raw : List (Notif α)) (hraw : ∀ x ∈ raw, x.ctx.derivedFrom sub) :
    AllFrom sub (runOp (tapM sel) mode sub raw).out :=
  CtxSafe.run (m := tapM sel)
    { Inv := AllFrom sub
      init := each_nil
      onSub := fun _ hl => ⟨hl, each_nil⟩
      onNext := fun _ _ _ hl h => ⟨each_ite (each_append hl (each_one h)) hl, each_one h⟩
      onError := fun _ _ _ hl h => ⟨each_ite (each_append hl (each_one h)) hl, each_one h⟩
      onComplete := fun _ _ hl h => ⟨each_ite (each_append hl (each_one h)) hl, each_one h⟩ } mode raw hraw

/-! ### TimeInterval / Timestamp -/

theorem timed_ctx (clock : Nat → τ) (sub : Ctx)
    (mode : SrcMode) (raw : List (Notif α)) (hraw : ∀ x ∈ raw, x.ctx.derivedFrom sub) :
    AllFrom sub (runOp (timedM clock) mode sub raw).out :=
  CtxSafe.run (.stateless (timedM clock) sub fun _ _ _ h => each_one h) mode raw hraw

/-! ## operator_math.go -/

/-! ### Average — the state stores no context; every emission (the doubled ones of the empty case
    included) uses the context of the completion -/

theorem average_ctx (div : Int → Nat → β) (nan : β) (sub : Ctx)
    (mode : SrcMode) (raw : List (Notif Int)) (hraw : ∀ x ∈ raw, x.ctx.derivedFrom sub) :
    AllFrom sub (runOp (averageM div nan) mode sub raw).out :=
  CtxSafe.run (.stateless (averageM div nan) sub (fun _ _ _ _ => each_nil)
    (hC := fun _ _ h => each_append (each_ite (each_cons h (each_one h)) each_nil) (each_cons h (each_one h))))
    mode raw hraw

/-! ## Non-vacuity -/

section Examples

local instance (d c : Ctx) : Decidable (d.derivedFrom c) := by unfold Ctx.derivedFrom; exact inferInstance

private def sub7 : Ctx := { marks := [7] }
private def script7 : List (Notif Nat) :=
  [.next (sub7.tag 1) 10, .next sub7 11, .error (sub7.tag 2) (.user 0), .next sub7 12]

example : ∀ x ∈ script7, x.ctx.derivedFrom sub7 := by decide

/-- a projection that adds a per-index marker satisfies the hypothesis of `contextMap_ctx` … -/
example : ∀ (c : Ctx) (i : Nat), c.isNil = false →
    ((fun (c : Ctx) (i : Nat) => c.tag (50 + i)) c i).derivedFrom c :=
  fun c i h => Ctx.derivedFrom_tag c (50 + i) h

/-- … and delivers something: markers 50, 51 on the values, the error's context untouched -/
example : (runOp (contextMapM (fun c i => c.tag (50 + i))) .sync sub7 script7).out =
    [.next ((sub7.tag 1).tag 50) 10, .next (sub7.tag 51) 11, .error (sub7.tag 2) (.user 0)] := by decide

/-- the hypothesis is not trivially true: a projection that drops the context violates it -/
example : ¬ ∀ (c : Ctx) (i : Nat), c.isNil = false → ((fun (_ : Ctx) (_ : Nat) => Ctx.bg) c i).derivedFrom c :=
  fun h => absurd ((h sub7 0 rfl).2 7 (by decide)) (by decide)

example : (runOp (ctxWithValueM 4) .hot sub7 script7).out =
    [.next ((sub7.tag 1).tag 4) 10, .next (sub7.tag 4) 11, .error ((sub7.tag 2).tag 4) (.user 0)] := by decide

/-- the hypothesis of `contextReset_ctx_of_derived` is satisfiable by a context other than `sub` -/
example : (sub7.tag 5).derivedFrom sub7 := by decide
example : (runOp (contextResetM (sub7.tag 5)) .sync sub7 script7).out =
    [.next (sub7.tag 5) 10, .next (sub7.tag 5) 11, .error (sub7.tag 5) (.user 0)] := by decide

/-- `Cast` failing on the second value: the error carries that value's context -/
example : (runOp (castM (fun v => if v = 11 then none else some (v + 1)) (.sentinel 1)) .sync sub7 script7).out =
    [.next (sub7.tag 1) 11, .error sub7 (.sentinel 1)] := by decide

/-- `Average` on the empty source: `NaN` and the completion, both with the completion's context -/
example : (runOp (averageM (fun s n => (s, n)) ((0 : Int), 0)) .sync sub7 [.complete (sub7.tag 3)]).out =
    [.next (sub7.tag 3) (0, 0), .complete (sub7.tag 3)] := by decide

end Examples

end Ro
