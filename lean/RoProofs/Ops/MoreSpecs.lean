/-
  RoProofs.Ops.MoreSpecs — machine = specification for the machines of RoModel/Ops/More.lean
  (ContextWithValue, ContextMap(I) / ContextWithTimeout / ContextWithDeadline, ContextReset, Cast,
  Tap*/Do* with their side effects, TimeInterval / Timestamp, Average, and the float `Map`s
  Round / Abs / Floor / Ceil / Trunc) against RoModel/Spec/More.lean.
  Pattern: see RoProofs/Ops/Basic.lean.
  For the side effects of `Tap` (the final machine *state*) there is a generic lemma about the
  state after a run, `runOp_st_quiet`: a machine that never answers a value with a terminal is
  invoked on exactly the legal part of the script, in both source modes.
-/
import RoProofs.Ops.Basic
import RoModel.Ops.More
import RoModel.Spec.More
namespace Ro
variable {σ α β τ : Type}

/-! ### ContextWithValue -/

theorem ctxWithValueM_emitsE (m : Nat) (s : Unit) (e : Ending) :
    (ctxWithValueM (α := α) m).emitsE s e = (Spec.endingMapCtx (·.tag m) e).toList := by
  cases e <;> rfl

theorem ctxWithValue_spec (m : Nat) (mode : SrcMode) (sub : Ctx) (raw : List (Notif α)) :
    (runOp (ctxWithValueM (α := α) m) mode sub raw).out = Spec.ctxWithValue m (values raw) (ending raw) := by
  rw [runOp_out_values _ _ _ _ rfl (fun _ _ => rfl)
    (((ctxWithValueM m).emitsV_stateless _ (fun _ _ _ => rfl) _ _).trans List.map_eq_flatMap.symm)
    (hasTerm_map_nextlike _ _ _), ctxWithValueM_emitsE, gate_toList]
  rfl

private def ex_ctxWithValue : List (Notif Nat) :=
  [.next (Ctx.bg.tag 1) 5, .next (Ctx.bg.tag 2) 6, .error (Ctx.bg.tag 3) (.user 4), .next Ctx.bg 7,
   .complete Ctx.bg]
example :
    (runOp (ctxWithValueM (α := Nat) 9) .hot Ctx.bg ex_ctxWithValue).out =
      [.next ((Ctx.bg.tag 1).tag 9) 5, .next ((Ctx.bg.tag 2).tag 9) 6,
       .error ((Ctx.bg.tag 3).tag 9) (.user 4)] ∧
    Spec.ctxWithValue 9 (values ex_ctxWithValue) (ending ex_ctxWithValue) =
      [.next ((Ctx.bg.tag 1).tag 9) 5, .next ((Ctx.bg.tag 2).tag 9) 6,
       .error ((Ctx.bg.tag 3).tag 9) (.user 4)] := by
  decide

/-! ### ContextMap / ContextMapI / ContextWithTimeout / ContextWithDeadline -/

theorem contextMap_spec (f : Ctx → Nat → Ctx) (mode : SrcMode) (sub : Ctx) (raw : List (Notif α)) :
    (runOp (contextMapM (α := α) f) mode sub raw).out = Spec.contextMap f (values raw) (ending raw) := by
  refine runOp_out_fwd _ _ _ _ rfl (fun _ _ => rfl) (fun _ _ _ => rfl) (fun _ _ => rfl) ?_
    (hasTerm_map_nextlike _ _ _)
  rw [((contextMapM f).emitsV_init_indexed (fun i => i) _ rfl (fun _ _ _ => rfl) _).1, ← List.map_eq_flatMap]

private def ex_contextMap : List (Notif Nat) :=
  [.next (Ctx.bg.tag 1) 5, .next (Ctx.bg.tag 2) 6, .complete (Ctx.bg.tag 3), .next Ctx.bg 7,
   .error Ctx.bg (.user 1)]
example :
    (runOp (contextMapM (α := Nat) (fun c i => c.tag (10 + i))) .hot Ctx.bg ex_contextMap).out =
      [.next ((Ctx.bg.tag 1).tag 10) 5, .next ((Ctx.bg.tag 2).tag 11) 6, .complete (Ctx.bg.tag 3)] ∧
    Spec.contextMap (fun c i => c.tag (10 + i)) (values ex_contextMap) (ending ex_contextMap) =
      [.next ((Ctx.bg.tag 1).tag 10) 5, .next ((Ctx.bg.tag 2).tag 11) 6, .complete (Ctx.bg.tag 3)] := by
  decide

/-! ### ContextReset -/

theorem contextResetM_emitsE (nc : Ctx) (s : Unit) (e : Ending) :
    (contextResetM (α := α) nc).emitsE s e = (Spec.endingMapCtx (fun _ => nc) e).toList := by
  cases e <;> rfl

theorem contextReset_spec (nc : Ctx) (mode : SrcMode) (sub : Ctx) (raw : List (Notif α)) :
    (runOp (contextResetM (α := α) nc) mode sub raw).out = Spec.contextReset nc (values raw) (ending raw) := by
  rw [runOp_out_values _ _ _ _ rfl (fun _ _ => rfl)
    (((contextResetM nc).emitsV_stateless _ (fun _ _ _ => rfl) _ _).trans List.map_eq_flatMap.symm)
    (hasTerm_map_nextlike _ _ _), contextResetM_emitsE, gate_toList]
  rfl

private def ex_contextReset : List (Notif Nat) :=
  [.next (Ctx.bg.tag 1) 5, .next (Ctx.bg.tag 2) 6, .complete (Ctx.bg.tag 3), .next Ctx.bg 7]
example :
    (runOp (contextResetM (α := Nat) (Ctx.bg.tag 8)) .hot (Ctx.bg.tag 4) ex_contextReset).out =
      [.next (Ctx.bg.tag 8) 5, .next (Ctx.bg.tag 8) 6, .complete (Ctx.bg.tag 8)] ∧
    Spec.contextReset (Ctx.bg.tag 8) (values ex_contextReset) (ending ex_contextReset) =
      [.next (Ctx.bg.tag 8) 5, .next (Ctx.bg.tag 8) 6, .complete (Ctx.bg.tag 8)] := by
  decide

/-! ### Cast -/

theorem castM_gate (ok : α → Option β) (err : Err) (vs : List (Ctx × α)) (e : Ending) :
    gate ((castM ok err).emitsV () vs ++ e.toList) = Spec.cast ok err vs e := by
  induction vs with
  | nil => exact gate_toList e
  | cons p ps ih =>
    obtain ⟨c, v⟩ := p
    have h1 : (castM ok err).emitsV () ((c, v) :: ps) =
        (match ok v with
         | some u => [Notif.next c u]
         | none => [Notif.error c err]) ++ (castM ok err).emitsV () ps := rfl
    rw [h1]
    unfold Spec.cast at ih ⊢
    cases h : ok v with
    | some u => simp [h, gate, ih]
    | none => simp [h, gate]

theorem cast_spec (ok : α → Option β) (err : Err) (mode : SrcMode) (sub : Ctx) (raw : List (Notif α)) :
    (runOp (castM ok err) mode sub raw).out = Spec.cast ok err (values raw) (ending raw) := by
  rw [runOp_out_plain _ _ _ _ rfl (fun _ _ => rfl)]
  rw [emitsE_fwd _ _ _ (fun _ _ _ => rfl) (fun _ _ => rfl)]
  exact castM_gate ok err _ _

private def ex_cast : List (Notif Nat) :=
  [.next (Ctx.bg.tag 1) 4, .next (Ctx.bg.tag 2) 7, .next (Ctx.bg.tag 3) 6, .complete (Ctx.bg.tag 4),
   .next Ctx.bg 8]
private def ex_castOk : Nat → Option Bool := fun v => if v % 2 = 0 then some (decide (v > 5)) else none
example :
    (runOp (castM ex_castOk (.sentinel 3)) .hot Ctx.bg ex_cast).out =
      [.next (Ctx.bg.tag 1) false, .error (Ctx.bg.tag 2) (.sentinel 3)] ∧
    Spec.cast ex_castOk (.sentinel 3) (values ex_cast) (ending ex_cast) =
      [.next (Ctx.bg.tag 1) false, .error (Ctx.bg.tag 2) (.sentinel 3)] := by
  decide
private def ex_castAllOk : List (Notif Nat) :=
  [.next (Ctx.bg.tag 1) 4, .next (Ctx.bg.tag 3) 6, .complete (Ctx.bg.tag 4), .next Ctx.bg 7]
example :
    (runOp (castM ex_castOk (.sentinel 3)) .sync Ctx.bg ex_castAllOk).out =
      [.next (Ctx.bg.tag 1) false, .next (Ctx.bg.tag 3) true, .complete (Ctx.bg.tag 4)] ∧
    Spec.cast ex_castOk (.sentinel 3) (values ex_castAllOk) (ending ex_castAllOk) =
      [.next (Ctx.bg.tag 1) false, .next (Ctx.bg.tag 3) true, .complete (Ctx.bg.tag 4)] := by
  decide

/-! ### the state after a run

  `fold_out` (RoProofs/Gate.lean) describes what is delivered; the lemmas below describe the
  machine state at the end of the run, i.e. which upstream notifications the operator's callbacks
  were invoked on. While the upstream gate is open the state follows `m.after`; the upstream gate
  closes at the source's own terminal or — hot source — when downstream has closed. For a machine
  that never answers a *value* with a terminal, downstream can only close at the source's own
  terminal, so in both modes the callbacks see exactly `gate raw`. -/

theorem fold_closed_st (m : Machine σ α β) (mode) (raw : List (Notif α)) (r : RunSt σ α β)
    (h : r.upOpen = false) : (raw.foldl (RunSt.feed m mode) r).st = r.st := by
  induction raw generalizing r with
  | nil => rfl
  | cons x xs ih =>
    simp only [List.foldl]
    rw [ih _ (feed_closed_out m mode r x h).2]
    simp [RunSt.feed, h]

theorem push_downOpen_of_nonterm (r : RunSt σ α β) (n : Notif β) (hd : r.downOpen = true)
    (hn : n.isTerminal = false) : (r.push n).downOpen = true := by
  unfold RunSt.push; simp [hd, hn]

theorem pushAll_downOpen_of_noTerm (r : RunSt σ α β) (ns : List (Notif β)) (hd : r.downOpen = true)
    (h : hasTerm ns = false) : (r.pushAll ns).downOpen = true := by
  induction ns generalizing r with
  | nil => simpa [RunSt.pushAll] using hd
  | cons n ns ih =>
    simp only [hasTerm_cons, Bool.or_eq_false_iff] at h
    simp only [RunSt.pushAll, List.foldl] at *
    exact ih _ (push_downOpen_of_nonterm r n hd h.1) h.2

/-- **State of a run, quiet machines.** If the machine never emits a terminal in reaction to a
    value, then from any state with both gates open the final machine state is the state after
    the upstream-gated script — whatever the raw script and the source mode. -/
theorem fold_st_quiet (m : Machine σ α β) (hq : ∀ s c v, hasTerm (m.onNext s c v).2 = false)
    (mode) (raw : List (Notif α)) (r : RunSt σ α β) (hu : r.upOpen = true) (hd : r.downOpen = true) :
    (raw.foldl (RunSt.feed m mode) r).st = m.after r.st (gate raw) := by
  induction raw generalizing r with
  | nil => rfl
  | cons x xs ih =>
    simp only [List.foldl]
    rw [feed_open m mode r x hu]
    cases x with
    | next c v =>
      have hd1 : (({ r with st := (m.step r.st (.next c v)).1 } : RunSt σ α β).pushAll
          (m.step r.st (.next c v)).2).downOpen = true :=
        pushAll_downOpen_of_noTerm _ _ hd (hq r.st c v)
      rw [gate_cons_next, ih (RunSt.settle _ mode _ r.out.length) ?_ hd1]
      · exact congrArg (m.after · _) (pushAll_st _ _)
      · rw [RunSt.settle, hd1]; cases mode <;> rfl
    | error c e =>
      rw [fold_closed_st _ _ _ _ rfl, gate_cons_error]
      exact pushAll_st _ _
    | complete c =>
      rw [fold_closed_st _ _ _ _ rfl, gate_cons_complete]
      exact pushAll_st _ _

theorem runOp_st_quiet (m : Machine σ α β) (mode : SrcMode) (sub : Ctx) (raw : List (Notif α))
    (hs : m.subscribes = true) (h0 : ∀ s c, m.onSubscribe s c = (s, []))
    (hq : ∀ s c v, hasTerm (m.onNext s c v).2 = false) :
    (runOp m mode sub raw).st = m.after m.init (gate raw) := by
  unfold runOp
  simp only [hs, if_true]
  have hstart : m.start sub = ({ st := m.init } : RunSt σ α β) := by
    simp [Machine.start, h0, RunSt.pushAll]
  rw [hstart]
  have hafter : (({ st := m.init } : RunSt σ α β)).afterSubscribe mode = { st := m.init } := by
    simp [RunSt.afterSubscribe]
  rw [hafter, fold_st_quiet m hq mode raw _ rfl rfl]

/-! ### Tap / Do (and the OnNext / OnError / OnComplete forms) -/

theorem tapM_emitsE (sel : Notif α → Bool) (log : List (Notif α)) (e : Ending) :
    (tapM sel).emitsE log e = e.toList := by
  cases e <;> rfl

theorem tap_spec (sel : Notif α → Bool) (mode : SrcMode) (sub : Ctx) (raw : List (Notif α)) :
    (runOp (tapM sel) mode sub raw).out = Spec.tap (values raw) (ending raw) := by
  rw [runOp_out_values _ _ _ _ rfl (fun _ _ => rfl) (emitsV_pass _ (fun _ _ _ => rfl) _ _) (hasTerm_nexts _),
    tapM_emitsE, gate_toList]
  rfl

/-- the log after a script: one entry per selected notification, in order -/
theorem tapM_after (sel : Notif α → Bool) (log : List (Notif α)) (l : List (Notif α)) :
    (tapM sel).after log l = log ++ l.filter sel := by
  induction l generalizing log with
  | nil => simp [Machine.after]
  | cons x xs ih =>
    have h1 : (tapM sel).after log (x :: xs) =
        (tapM sel).after (if sel x then log ++ [x] else log) xs := by
      cases x <;> rfl
    rw [h1, ih]
    cases h : sel x <;> simp [h]

/-- **Side effects of Tap/Do**: the callbacks selected by `sel` are invoked exactly on the
    selected notifications of the legal part of the script, in order, once each — for every
    raw script and both source modes (an illegal suffix never reaches a callback). -/
theorem tap_effects (sel : Notif α → Bool) (mode : SrcMode) (sub : Ctx) (raw : List (Notif α)) :
    (runOp (tapM sel) mode sub raw).st = Spec.tapEffects sel (values raw) (ending raw) := by
  rw [runOp_st_quiet _ _ _ _ rfl (fun _ _ => rfl) (fun _ _ _ => rfl)]
  rw [show (tapM sel).init = [] from rfl, tapM_after, gate_eq_legal]
  simp [Spec.tapEffects, legal, Spec.nexts]

private def ex_tap : List (Notif Nat) :=
  [.next (Ctx.bg.tag 1) 5, .next (Ctx.bg.tag 2) 6, .error (Ctx.bg.tag 3) (.user 4), .next Ctx.bg 7,
   .complete Ctx.bg]
example :
    (runOp (tapM (α := Nat) selAll) .hot Ctx.bg ex_tap).out =
      [.next (Ctx.bg.tag 1) 5, .next (Ctx.bg.tag 2) 6, .error (Ctx.bg.tag 3) (.user 4)] ∧
    Spec.tap (values ex_tap) (ending ex_tap) =
      [.next (Ctx.bg.tag 1) 5, .next (Ctx.bg.tag 2) 6, .error (Ctx.bg.tag 3) (.user 4)] := by
  decide
example :
    (runOp (tapM (α := Nat) selAll) .hot Ctx.bg ex_tap).st =
      [.next (Ctx.bg.tag 1) 5, .next (Ctx.bg.tag 2) 6, .error (Ctx.bg.tag 3) (.user 4)] ∧
    Spec.tapEffects selAll (values ex_tap) (ending ex_tap) =
      [.next (Ctx.bg.tag 1) 5, .next (Ctx.bg.tag 2) 6, .error (Ctx.bg.tag 3) (.user 4)] ∧
    (runOp (tapM (α := Nat) selNext) .sync Ctx.bg ex_tap).st =
      [.next (Ctx.bg.tag 1) 5, .next (Ctx.bg.tag 2) 6] ∧
    Spec.tapEffects selNext (values ex_tap) (ending ex_tap) =
      [.next (Ctx.bg.tag 1) 5, .next (Ctx.bg.tag 2) 6] ∧
    (runOp (tapM (α := Nat) selError) .hot Ctx.bg ex_tap).st = [.error (Ctx.bg.tag 3) (.user 4)] ∧
    Spec.tapEffects selError (values ex_tap) (ending ex_tap) = [.error (Ctx.bg.tag 3) (.user 4)] ∧
    (runOp (tapM (α := Nat) selComplete) .hot Ctx.bg ex_tap).st = [] ∧
    Spec.tapEffects selComplete (values ex_tap) (ending ex_tap) = [] := by
  decide

/-! ### TimeInterval / Timestamp -/

theorem timed_spec (clock : Nat → τ) (mode : SrcMode) (sub : Ctx) (raw : List (Notif α)) :
    (runOp (timedM (α := α) clock) mode sub raw).out = Spec.timed clock (values raw) (ending raw) := by
  refine runOp_out_fwd _ _ _ _ rfl (fun _ _ => rfl) (fun _ _ _ => rfl) (fun _ _ => rfl) ?_
    (hasTerm_map_nextlike _ _ _)
  rw [((timedM clock).emitsV_init_indexed (fun i => i) _ rfl (fun _ _ _ => rfl) _).1, ← List.map_eq_flatMap]

private def ex_timed : List (Notif Nat) :=
  [.next (Ctx.bg.tag 1) 5, .next (Ctx.bg.tag 2) 6, .complete (Ctx.bg.tag 3), .next Ctx.bg 7,
   .error Ctx.bg (.user 1)]
example :
    (runOp (timedM (α := Nat) (fun i => 100 + 10 * i)) .hot Ctx.bg ex_timed).out =
      [.next (Ctx.bg.tag 1) (5, 100), .next (Ctx.bg.tag 2) (6, 110), .complete (Ctx.bg.tag 3)] ∧
    Spec.timed (fun i => 100 + 10 * i) (values ex_timed) (ending ex_timed) =
      [.next (Ctx.bg.tag 1) (5, 100), .next (Ctx.bg.tag 2) (6, 110), .complete (Ctx.bg.tag 3)] := by
  decide

/-! ### Average -/

theorem averageM_afterV (div : Int → Nat → β) (nan : β) (s : Int) (n : Nat) (vs : List (Ctx × Int)) :
    (averageM div nan).afterV (s, n) vs = ((vs.map (·.2)).foldl (· + ·) s, n + vs.length) := by
  induction vs generalizing s n with
  | nil => rfl
  | cons p ps ih => exact (ih _ _).trans (by rw [Nat.add_right_comm]; rfl)

/-- The DELIVERED trace of `Average` is as documented. (On an empty source the machine emits a
    second `next`/`complete` pair after the `NaN` one; the downstream gate refuses it — see
    `average_empty_second_emission_dropped`.) -/
theorem average_spec (div : Int → Nat → β) (nan : β) (mode : SrcMode) (sub : Ctx) (raw : List (Notif Int)) :
    (runOp (averageM div nan) mode sub raw).out = Spec.average div nan (values raw) (ending raw) := by
  rw [runOp_out_silent _ _ _ _ rfl (fun _ _ => rfl) (fun _ _ _ => rfl),
    show (averageM div nan).init = (0, 0) from rfl, averageM_afterV, Nat.zero_add]
  cases ending raw with
  | never => rfl
  | error c e => rfl
  | complete c => cases values raw <;> rfl

private def ex_average : List (Notif Int) :=
  [.next (Ctx.bg.tag 1) 3, .next (Ctx.bg.tag 2) (-9), .next (Ctx.bg.tag 3) 12, .complete (Ctx.bg.tag 7),
   .next Ctx.bg 1, .error Ctx.bg (.user 1)]
example :
    (runOp (averageM (fun s n => s / (n : Int)) (-1)) .hot Ctx.bg ex_average).out =
      [.next (Ctx.bg.tag 7) 2, .complete (Ctx.bg.tag 7)] ∧
    Spec.average (fun s n => s / (n : Int)) (-1) (values ex_average) (ending ex_average) =
      [.next (Ctx.bg.tag 7) 2, .complete (Ctx.bg.tag 7)] ∧
    (runOp (averageM (fun s n => s / (n : Int)) (-1)) .hot Ctx.bg
        [.complete (Ctx.bg.tag 7), .next Ctx.bg 1]).out =
      [.next (Ctx.bg.tag 7) (-1), .complete (Ctx.bg.tag 7)] ∧
    Spec.average (fun s n => s / (n : Int)) (-1) [] (.complete (Ctx.bg.tag 7)) =
      [.next (Ctx.bg.tag 7) (-1), .complete (Ctx.bg.tag 7)] ∧
    (runOp (averageM (fun s n => s / (n : Int)) (-1)) .sync Ctx.bg
        [.next Ctx.bg 4, .error (Ctx.bg.tag 7) (.user 2), .complete Ctx.bg]).out =
      [.error (Ctx.bg.tag 7) (.user 2)] := by
  decide

/-- what a refused notification was, in a comparable form (`Drop` derives only `Repr`) -/
private def dropView {α β : Type} : Drop α β → Sum (Notif α) (Notif β)
  | .up n => .inl n
  | .down n => .inr n

/-- WITNESS (fall-through in operator_math.go:45-75): on an empty source `Average` emits `NaN`
    and completes, then emits `sum / count` (here `div 0 0 = 0`) and completes a second time; the
    downstream subscriber refuses both, so the delivered trace is still the documented one. -/
theorem average_empty_second_emission_dropped :
    (runOp (averageM (fun s _ => s) (-1)) .sync {} [.complete {}]).out =
      [.next {} (-1), .complete {}] ∧
    (runOp (averageM (fun s _ => s) (-1)) .sync {} [.complete {}]).drops.length = 2 ∧
    (runOp (averageM (fun s _ => s) (-1)) .sync {} [.complete {}]).drops.map dropView =
      [.inr (.next {} 0), .inr (.complete {})] := by
  decide +kernel

/-! ### Round / Abs / Floor / Ceil / Trunc: `Map` with an (uninterpreted) float function -/

theorem floatMap_spec (f : α → β) (mode : SrcMode) (sub : Ctx) (raw : List (Notif α)) :
    (runOp (mapM (fun c v _ => (c, f v))) mode sub raw).out =
      (values raw).map (fun p => Notif.next p.1 (f p.2)) ++ (ending raw).toList := by
  refine runOp_out_fwd _ _ _ _ rfl (fun _ _ => rfl) (fun _ _ _ => rfl) (fun _ _ => rfl) ?_
    (hasTerm_map_nextlike _ _ _)
  rw [Machine.emitsV_stateless _ (fun c v => [Notif.next c (f v)]) (fun _ _ _ => rfl), ← List.map_eq_flatMap]

private def ex_floatMap : List (Notif Int) :=
  [.next (Ctx.bg.tag 1) (-5), .next (Ctx.bg.tag 2) 6, .complete (Ctx.bg.tag 3), .next Ctx.bg 7]
example :
    (runOp (mapM (fun c (v : Int) _ => (c, v.natAbs))) .hot Ctx.bg ex_floatMap).out =
      [.next (Ctx.bg.tag 1) 5, .next (Ctx.bg.tag 2) 6, .complete (Ctx.bg.tag 3)] ∧
    (values ex_floatMap).map (fun p => Notif.next p.1 p.2.natAbs) ++ (ending ex_floatMap).toList =
      [.next (Ctx.bg.tag 1) 5, .next (Ctx.bg.tag 2) 6, .complete (Ctx.bg.tag 3)] := by
  decide

end Ro
