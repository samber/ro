/-
  RoProofs.Ops.CreateSpecs — C04 for the synchronous creation operators
  (Of/Just, FromSlice, Empty, Throw, Range, Repeat, Start, Defer, Iif).

  A. the script generated by the Go loop (RoModel.Ops.Create) is the documented plain list
     expression (RoModel.Spec.Create), and nothing escapes the subscribe function;
  B. what a direct subscriber receives is `gate` of that script — for these legal scripts, all of
     it, with nothing refused;
  C. with a machine downstream the run is an instance of `runOp_out` (synchronous source), and the
     creation operator keeps looping after the downstream subscriber has closed;
  D. C12: a `Gen` is a function of the subscription context, every subscription delivers the same
     trace.
-/
import RoProofs.Script
import RoModel.Ops.Create
import RoModel.Spec.Create
import RoModel.Ops.Filter
namespace Ro
variable {α : Type}

/-! ### generic lemmas -/

theorem gate_terminal_singleton (t : Notif α) (ht : t.isTerminal = true) : gate [t] = [t] := by
  simp [gate, ht]

theorem gateDropped_append_of_noTerm (a l : List (Notif α)) (h : hasTerm a = false) :
    gateDropped (a ++ l) = gateDropped l := by
  induction a with
  | nil => rfl
  | cons x xs ih =>
    simp only [hasTerm_cons, Bool.or_eq_false_iff] at h
    simp [gateDropped, h.1, ih h.2]

/-- a legal script — values carrying one context, then one terminal — passes the gate whole … -/
theorem gate_values_then_terminal (c : Ctx) (l : List α) (t : Notif α) (ht : t.isTerminal = true) :
    gate (l.map (Notif.next c) ++ [t]) = l.map (Notif.next c) ++ [t] := by
  rw [gate_append_of_noTerm _ _ (hasTerm_map_nextc c l), gate_terminal_singleton t ht]

/-- … and nothing of it is refused -/
theorem gateDropped_values_then_terminal (c : Ctx) (l : List α) (t : Notif α) (ht : t.isTerminal = true) :
    gateDropped (l.map (Notif.next c) ++ [t]) = [] := by
  rw [gateDropped_append_of_noTerm _ _ (hasTerm_map_nextc c l)]
  simp [gateDropped, ht]

/-- an emission that does not panic offers exactly its script -/
theorem Emission.raw_of_noPanic (em : Emission α) (c : Ctx) (h : em.panic = none) : em.raw c = em.script := by
  simp [Emission.raw, h]

/-! ### A. generated script = plain list expression -/

/-! #### Of / Just -/

theorem foldr_next_eq (c : Ctx) (vs : List α) (acc : List (Notif α)) :
    vs.foldr (fun v acc => Notif.next c v :: acc) acc = vs.map (Notif.next c) ++ acc := by
  induction vs with
  | nil => rfl
  | cons v vs ih => simp [ih]

theorem ofG_script (vs : List α) (c : Ctx) :
    (ofG vs c).script = Spec.ofScript vs c ∧ (ofG vs c).panic = none :=
  ⟨foldr_next_eq c vs _, rfl⟩

example : (ofG [7, 8, 9] ({} : Ctx)).script = [.next {} 7, .next {} 8, .next {} 9, .complete {}] := by decide
example : Spec.ofScript [7, 8, 9] ({} : Ctx) = [.next {} 7, .next {} 8, .next {} 9, .complete {}] := by decide
example : (ofG ([] : List Nat) ({} : Ctx)).script = [.complete {}] := by decide

/-! #### FromSlice -/

theorem fromSliceG_script (vss : List (List α)) (c : Ctx) :
    (fromSliceG vss c).script = Spec.fromSliceScript vss c ∧ (fromSliceG vss c).panic = none := by
  refine ⟨?_, rfl⟩
  show vss.foldr (fun vs acc => vs.foldr (fun v acc' => Notif.next c v :: acc') acc) [.complete c]
      = vss.flatten.map (Notif.next c) ++ [.complete c]
  induction vss with
  | nil => rfl
  | cons vs vss ih =>
    simp only [List.foldr_cons, List.flatten_cons, List.map_append, List.append_assoc]
    rw [ih, foldr_next_eq]

example : (fromSliceG [[1, 2], [], [3]] ({} : Ctx)).script
    = [.next {} 1, .next {} 2, .next {} 3, .complete {}] := by decide
example : Spec.fromSliceScript [[1, 2], [], [3]] ({} : Ctx)
    = [.next {} 1, .next {} 2, .next {} 3, .complete {}] := by decide

/-! #### Empty, Throw -/

theorem emptyG_script (c : Ctx) :
    (emptyG c : Emission α).script = Spec.emptyScript c ∧ (emptyG c : Emission α).panic = none := ⟨rfl, rfl⟩

theorem throwG_script (e : Err) (c : Ctx) :
    (throwG e c : Emission α).script = Spec.throwScript e c ∧ (throwG e c : Emission α).panic = none := ⟨rfl, rfl⟩

/-! #### RangeWithStep (integral bounds and step) -/

theorem ceilDiv_step (d s : Nat) (hs : 0 < s) (hd : 0 < d) : (d + s - 1) / s = ((d - s) + s - 1) / s + 1 := by
  rw [Nat.sub_add_comm hd, Nat.add_div_right _ hs]
  by_cases h : s ≤ d
  · rw [Nat.sub_add_cancel h]
  · have h' := Nat.lt_of_not_le h
    rw [Nat.sub_eq_zero_of_le (Nat.le_of_lt h'), Nat.zero_add,
      Nat.div_eq_of_lt (Nat.lt_of_le_of_lt (Nat.sub_le d 1) h'), Nat.div_eq_of_lt (Nat.sub_lt hs Nat.one_pos)]

theorem ceilDiv_zero (s : Nat) (hs : 0 < s) : (0 + s - 1) / s = 0 := by
  rw [Nat.zero_add]; exact Nat.div_eq_of_lt (Nat.sub_lt hs Nat.one_pos)

theorem rangeStepLoop_up (endv : Int) (s : Nat) (hs : 0 < s) : ∀ (fuel : Nat) (cur : Int), (endv - cur).toNat ≤ fuel →
    rangeStepLoop 1 (s : Int) endv fuel cur
      = (List.range (((endv - cur).toNat + s - 1) / s)).map (fun (i : Nat) => cur + ((i * s : Nat) : Int)) := by
  intro fuel
  induction fuel with
  | zero =>
    intro cur h
    rw [Nat.le_zero.1 h, ceilDiv_zero s hs]; rfl
  | succ fuel ih =>
    intro cur h
    unfold rangeStepLoop
    rw [Int.mul_one, Int.mul_one, Int.mul_one]
    by_cases hlt : cur < endv
    · have hd : 0 < (endv - cur).toNat := Int.pos_iff_toNat_pos.1 (Int.sub_pos_of_lt hlt)
      have hstep : (endv - (cur + (s : Int))).toNat = (endv - cur).toNat - s := by
        rw [← Int.sub_sub, Int.toNat_sub']
      rw [if_pos hlt, ih (cur + (s : Int)) (by rw [hstep]; exact Nat.sub_le_of_le_add (Nat.le_trans h (Nat.add_le_add_left hs fuel))),
        hstep, ceilDiv_step (endv - cur).toNat s hs hd, List.range_succ_eq_map, List.map_cons, List.map_map,
        Nat.zero_mul, Int.natCast_zero, Int.add_zero]
      refine congrArg (cur :: ·) (List.map_congr_left fun i _ => ?_)
      simp only [Function.comp, Nat.succ_mul, Int.natCast_add]
      omega
    · rw [if_neg hlt, Int.toNat_of_nonpos (Int.sub_nonpos_of_le (Int.not_lt.1 hlt)), ceilDiv_zero s hs]; rfl

/-- the descending loop is the ascending one, mirrored -/
theorem rangeStepLoop_neg (step endv : Int) (fuel : Nat) (cur : Int) :
    rangeStepLoop (-1) step endv fuel cur = (rangeStepLoop 1 step (-endv) fuel (-cur)).map (- ·) := by
  induction fuel generalizing cur with
  | zero => rfl
  | succ n ih =>
    unfold rangeStepLoop
    rw [Int.mul_neg_one, Int.mul_neg_one, Int.mul_neg_one, Int.mul_one, Int.mul_one, Int.mul_one]
    by_cases h : -cur < -endv
    · rw [if_pos h, if_pos h, ih, Int.neg_add, Int.neg_neg, List.map_cons, Int.neg_neg]
    · rw [if_neg h, if_neg h]; rfl

theorem rangeStepLoop_down (endv : Int) (s : Nat) (hs : 0 < s) (fuel : Nat) (cur : Int)
    (h : (cur - endv).toNat ≤ fuel) :
    rangeStepLoop (-1) (s : Int) endv fuel cur
      = (List.range (((cur - endv).toNat + s - 1) / s)).map (fun (i : Nat) => cur - ((i * s : Nat) : Int)) := by
  have he : -endv - -cur = cur - endv := by rw [Int.sub_neg, Int.add_comm]; rfl
  rw [rangeStepLoop_neg, rangeStepLoop_up (-endv) s hs fuel (-cur) (by rw [he]; exact h), List.map_map, he]
  exact List.map_congr_left fun i _ => by simp only [Function.comp, Int.neg_add, Int.neg_neg]; rfl

theorem natAbs_sub_of_le {a b : Int} (h : a ≤ b) : (b - a).natAbs = (b - a).toNat :=
  Int.ofNat_inj.1 ((Int.natAbs_of_nonneg (Int.sub_nonneg_of_le h)).trans
    (Int.toNat_of_nonneg (Int.sub_nonneg_of_le h)).symm)

theorem natAbs_sub_of_not_le {a b : Int} (h : ¬ a ≤ b) : (b - a).natAbs = (a - b).toNat := by
  rw [← natAbs_sub_of_le (Int.le_of_lt (Int.not_le.1 h)), ← Int.neg_sub, Int.natAbs_neg]

/-- the loop of `RangeWithStep` computes the documented values — every `start ± i·step` inside `[start:end)`, none
    missing at the end when the span is not a multiple of the step -/
theorem rangeStepLoop_values (start endv : Int) (s : Nat) (hs : 0 < s) :
    rangeStepLoop (if start > endv then -1 else 1) (s : Int) endv (endv - start).natAbs start
      = Spec.rangeStepValues start endv s := by
  unfold Spec.rangeStepValues
  by_cases h : start ≤ endv
  · simp only [Int.not_lt.2 h, h, if_true, if_false]
    rw [natAbs_sub_of_le h]
    exact rangeStepLoop_up endv s hs _ start (Nat.le_refl _)
  · simp only [Int.not_le.1 h, h, if_true, if_false]
    rw [natAbs_sub_of_not_le h]
    exact rangeStepLoop_down endv s hs _ start (Nat.le_refl _)

theorem rangeStepValues_self (start : Int) (s : Nat) (hs : 0 < s) : Spec.rangeStepValues start start s = [] := by
  simp [Spec.rangeStepValues, Nat.div_eq_of_lt (show s - 1 < s by omega)]

theorem rangeStepG_script (start endv : Int) (s : Nat) (hs : 0 < s) (c : Ctx) :
    (rangeStepG start endv (s : Int) c).script = Spec.rangeStepScript start endv s c ∧ (rangeStepG start endv (s : Int) c).panic = none := by
  by_cases h : start = endv
  · subst h
    have hg : rangeStepG start start (s : Int) = emptyG := if_pos rfl
    rw [hg, Spec.rangeStepScript, rangeStepValues_self start s hs]
    exact ⟨rfl, rfl⟩
  · have hg : rangeStepG start endv (s : Int) = fun c =>
        ({ script := (rangeStepLoop (if start > endv then -1 else 1) (s : Int) endv (endv - start).natAbs start).map
            (Notif.next c) ++ [.complete c] } : Emission Int) := if_neg h
    rw [hg, Spec.rangeStepScript, ← rangeStepLoop_values start endv s hs]
    exact ⟨rfl, rfl⟩

/-- with step 1 the documented values are those of `Range` -/
theorem rangeStepValues_one (start endv : Int) : Spec.rangeStepValues start endv 1 = Spec.rangeValues start endv := by
  unfold Spec.rangeStepValues Spec.rangeValues
  by_cases h : start ≤ endv
  · simp only [h, if_true, Nat.add_sub_cancel, Nat.div_one, Nat.mul_one]
    rw [natAbs_sub_of_le h]
  · simp only [h, if_false, Nat.add_sub_cancel, Nat.div_one, Nat.mul_one]
    rw [natAbs_sub_of_not_le h]

example : Spec.rangeStepValues 0 5 2 = [0, 2, 4] := by decide
example : Spec.rangeStepValues 0 6 2 = [0, 2, 4] := by decide
example : Spec.rangeStepValues 0 1 2 = [0] := by decide
example : Spec.rangeStepValues 7 0 3 = [7, 4, 1] := by decide
example : (rangeStepG 0 5 2 {}).script = [.next {} 0, .next {} 2, .next {} 4, .complete {}] := by decide

/-! #### Range: `RangeWithStep` with step 1 -/

theorem rangeLoop_eq_step (sign endv : Int) (fuel : Nat) (cur : Int) :
    rangeLoop sign endv fuel cur = rangeStepLoop sign 1 endv fuel cur := by
  induction fuel generalizing cur with
  | zero => rfl
  | succ n ih => unfold rangeLoop rangeStepLoop; rw [ih, Int.one_mul]

theorem rangeG_eq_step (start endv : Int) : rangeG start endv = rangeStepG start endv 1 := by
  unfold rangeG rangeStepG
  simp only [rangeLoop_eq_step]

/-- the loop of `Range` computes the documented values -/
theorem rangeLoop_values (start endv : Int) :
    rangeLoop (if start > endv then -1 else 1) endv (endv - start).natAbs start = Spec.rangeValues start endv :=
  (rangeLoop_eq_step _ _ _ _).trans
    ((rangeStepLoop_values start endv 1 Nat.one_pos).trans (rangeStepValues_one start endv))

theorem rangeValues_self (start : Int) : Spec.rangeValues start start = [] := by
  simp [Spec.rangeValues]

theorem rangeG_script (start endv : Int) (c : Ctx) :
    (rangeG start endv c).script = Spec.rangeScript start endv c ∧ (rangeG start endv c).panic = none := by
  rw [rangeG_eq_step, Spec.rangeScript, ← rangeStepValues_one]
  exact rangeStepG_script start endv 1 Nat.one_pos c

example : Spec.rangeValues 1 4 = [1, 2, 3] := by decide
example : Spec.rangeValues 4 1 = [4, 3, 2] := by decide
example : Spec.rangeValues 2 2 = [] := by decide
example : Spec.rangeValues (-2) 1 = [-2, -1, 0] := by decide
example : Spec.rangeValues 1 (-2) = [1, 0, -1] := by decide
example : rangeLoop 1 4 3 1 = [1, 2, 3] := by decide
example : rangeLoop (-1) 1 3 4 = [4, 3, 2] := by decide
example : (rangeG 1 4 {}).script = [.next {} 1, .next {} 2, .next {} 3, .complete {}] := by decide
example : (rangeG 4 1 {}).script = [.next {} 4, .next {} 3, .next {} 2, .complete {}] := by decide
example : (rangeG 2 2 {}).script = [.complete {}] := by decide

/-! #### Repeat -/

theorem repeatLoop_eq (c : Ctx) (item : α) (n : Nat) :
    repeatLoop c item n = List.replicate n (Notif.next c item) := by
  induction n with
  | zero => rfl
  | succ n ih => simp [repeatLoop, ih, List.replicate_succ]

theorem repeatG_script (item : α) (count : Nat) (c : Ctx) :
    (repeatG item count c).script = Spec.repeatScript item count c ∧ (repeatG item count c).panic = none := by
  by_cases h : count = 0
  · subst h
    exact ⟨rfl, rfl⟩
  · have hg : repeatG item count = fun c =>
        ({ script := repeatLoop c item count ++ [.complete c] } : Emission α) := if_neg h
    rw [hg, Spec.repeatScript, ← repeatLoop_eq]
    exact ⟨rfl, rfl⟩

example : (repeatG 5 3 ({} : Ctx)).script = [.next {} 5, .next {} 5, .next {} 5, .complete {}] := by decide
example : Spec.repeatScript 5 3 ({} : Ctx) = [.next {} 5, .next {} 5, .next {} 5, .complete {}] := by decide
example : (repeatG 5 0 ({} : Ctx)).script = [.complete {}] := by decide

/-! #### Start -/

theorem startG_ok (v : α) (c : Ctx) : (startG (.ok v) c).raw c = Spec.startScript v c := rfl

/-- a panicking callback: nothing is emitted, the recovered panic surfaces once as
    `Error(observableError(p))` with the subscription context -/
theorem startG_panic (p : Err) (c : Ctx) : (startG (.panic p : Outcome α) c).raw c = Spec.panicScript p c := rfl

theorem startG_calls (cb : Outcome α) (c : Ctx) : (startG cb c).calls = 1 := by
  cases cb <;> rfl

example : (startG (.ok 3) ({} : Ctx)).raw {} = [.next {} 3, .complete {}] := by decide
example : (startG (.panic (.panicVal 9) : Outcome Nat) ({} : Ctx)).raw {}
    = [.error {} (.observable (.panicVal 9))] := by decide

/-! #### Defer -/

/-- `Defer` is a pass-through of whatever the factory's observable does — including that
    observable's own recovered panic — and nothing escapes the outer subscribe function -/
theorem deferG_ok (g : Gen α) (c : Ctx) : (deferG (.ok g) c).raw c = (g c).raw c := by
  simp [deferG, Emission.raw]

theorem deferG_panic (p : Err) (c : Ctx) :
    (deferG (.panic p : Outcome (Gen α)) c).raw c = Spec.panicScript p c := rfl

/-- the factory is called once per subscription, plus whatever its observable calls -/
theorem deferG_calls (g : Gen α) (c : Ctx) : (deferG (.ok g) c).calls = 1 + (g c).calls := rfl

example : (deferG (.ok (ofG [1, 2])) ({} : Ctx)).raw {} = [.next {} 1, .next {} 2, .complete {}] := by decide
example : (deferG (.ok (startG (.panic (.user 4) : Outcome Nat))) ({} : Ctx)).raw {}
    = [.error {} (.observable (.user 4))] := by decide
example : (deferG (.ok (startG (.ok 4))) ({} : Ctx)).calls = 2 := by decide

/-! #### Iif -/

theorem iifG_true (g1 g2 : Gen α) : iifG true g1 g2 = g1 := rfl
theorem iifG_false (g1 g2 : Gen α) : iifG false g1 g2 = g2 := rfl

/-! ### B. what is delivered -/

theorem Gen.delivered_eq (g : Gen α) (c : Ctx) : g.delivered c = gate ((g c).raw c) := rfl
theorem Gen.dropped_eq (g : Gen α) (c : Ctx) : g.dropped c = gateDropped ((g c).raw c) := rfl

/-- nothing is invented and nothing is lost: delivered ++ refused is the offered script -/
theorem Gen.delivered_dropped (g : Gen α) (c : Ctx) : g.delivered c ++ g.dropped c = (g c).raw c :=
  gate_partition _

/-- C01: whatever a creation operator offers, what is delivered obeys the grammar -/
theorem Gen.delivered_grammar (g : Gen α) (c : Ctx) : Grammar (g.delivered c) := gate_grammar _

/-- the common shape: a generator whose script is `values ++ [terminal]` and that does not panic
    delivers the script whole and has nothing refused -/
theorem Gen.delivered_of_legal (g : Gen α) (c : Ctx) (l : List α) (t : Notif α) (ht : t.isTerminal = true)
    (hs : (g c).script = l.map (Notif.next c) ++ [t]) (hp : (g c).panic = none) :
    g.delivered c = l.map (Notif.next c) ++ [t] ∧ g.dropped c = [] := by
  unfold Gen.delivered Gen.dropped
  rw [Emission.raw_of_noPanic _ _ hp, hs]
  exact ⟨gate_values_then_terminal c l t ht, gateDropped_values_then_terminal c l t ht⟩

theorem ofG_delivered (vs : List α) (c : Ctx) :
    (ofG vs).delivered c = Spec.ofScript vs c ∧ (ofG vs).dropped c = [] :=
  Gen.delivered_of_legal _ c vs (.complete c) rfl (ofG_script vs c).1 rfl

theorem fromSliceG_delivered (vss : List (List α)) (c : Ctx) :
    (fromSliceG vss).delivered c = Spec.fromSliceScript vss c ∧ (fromSliceG vss).dropped c = [] :=
  Gen.delivered_of_legal _ c vss.flatten (.complete c) rfl (fromSliceG_script vss c).1 rfl

theorem emptyG_delivered (c : Ctx) :
    (emptyG : Gen α).delivered c = Spec.emptyScript c ∧ (emptyG : Gen α).dropped c = [] := ⟨rfl, rfl⟩

theorem throwG_delivered (e : Err) (c : Ctx) :
    (throwG e : Gen α).delivered c = Spec.throwScript e c ∧ (throwG e : Gen α).dropped c = [] := ⟨rfl, rfl⟩

theorem rangeG_delivered (start endv : Int) (c : Ctx) :
    (rangeG start endv).delivered c = Spec.rangeScript start endv c ∧ (rangeG start endv).dropped c = [] :=
  Gen.delivered_of_legal _ c (Spec.rangeValues start endv) (.complete c) rfl
    (rangeG_script start endv c).1 (rangeG_script start endv c).2

theorem rangeStepG_delivered (start endv : Int) (s : Nat) (hs : 0 < s) (c : Ctx) :
    (rangeStepG start endv (s : Int)).delivered c = Spec.rangeStepScript start endv s c ∧ (rangeStepG start endv (s : Int)).dropped c = [] :=
  Gen.delivered_of_legal _ c (Spec.rangeStepValues start endv s) (.complete c) rfl
    (rangeStepG_script start endv s hs c).1 (rangeStepG_script start endv s hs c).2

theorem map_const_range (n : Nat) (x : Notif α) : (List.range n).map (fun _ => x) = List.replicate n x := by
  rw [List.map_const', List.length_range]

/-- the documented script of `Repeat` in the shape `values ++ [terminal]` -/
theorem Spec.repeatScript_eq_map (item : α) (count : Nat) (c : Ctx) :
    Spec.repeatScript item count c = (List.replicate count item).map (Notif.next c) ++ [.complete c] := by
  rw [List.map_replicate]; rfl

theorem repeatG_delivered (item : α) (count : Nat) (c : Ctx) :
    (repeatG item count).delivered c = Spec.repeatScript item count c ∧ (repeatG item count).dropped c = [] :=
  Spec.repeatScript_eq_map item count c ▸ Gen.delivered_of_legal (repeatG item count) c (List.replicate count item)
    (.complete c) rfl ((repeatG_script item count c).1.trans (Spec.repeatScript_eq_map item count c))
    (repeatG_script item count c).2

theorem startG_ok_delivered (v : α) (c : Ctx) :
    (startG (.ok v)).delivered c = Spec.startScript v c ∧ (startG (.ok v)).dropped c = [] := ⟨rfl, rfl⟩

theorem startG_panic_delivered (p : Err) (c : Ctx) :
    (startG (.panic p : Outcome α)).delivered c = Spec.panicScript p c ∧
    (startG (.panic p : Outcome α)).dropped c = [] := ⟨rfl, rfl⟩

/-- Defer delivers and refuses exactly what the factory's observable would -/
theorem deferG_ok_delivered (g : Gen α) (c : Ctx) :
    (deferG (.ok g)).delivered c = g.delivered c ∧ (deferG (.ok g)).dropped c = g.dropped c := by
  unfold Gen.delivered Gen.dropped
  rw [deferG_ok]
  exact ⟨rfl, rfl⟩

theorem deferG_panic_delivered (p : Err) (c : Ctx) :
    (deferG (.panic p : Outcome (Gen α))).delivered c = Spec.panicScript p c ∧
    (deferG (.panic p : Outcome (Gen α))).dropped c = [] := ⟨rfl, rfl⟩

example : (rangeG 4 1).delivered {} = [.next {} 4, .next {} 3, .next {} 2, .complete {}] := by decide
example : (rangeG 4 1).dropped {} = [] := by decide
example : (rangeG (-1) 2).delivered {} = [.next {} (-1), .next {} 0, .next {} 1, .complete {}] := by decide
example : (rangeG 3 3).delivered {} = [.complete {}] := by decide
example : (ofG [1, 2, 3]).delivered (Ctx.bg.tag 5)
    = [.next (Ctx.bg.tag 5) 1, .next (Ctx.bg.tag 5) 2, .next (Ctx.bg.tag 5) 3, .complete (Ctx.bg.tag 5)] := by decide
example : (repeatG 7 2).delivered {} = [.next {} 7, .next {} 7, .complete {}] := by decide
example : (throwG (.user 1) : Gen Nat).delivered {} = [.error {} (.user 1)] := by decide
/-- the gate is not vacuous here: a Defer'd generator that offers an illegal script is cut -/
example : (deferG (.ok (fun c => ({ script := [.next c 1, .complete c, .next c 2] } : Emission Nat)))).delivered {}
    = [.next {} 1, .complete {}] := by decide
example : (deferG (.ok (fun c => ({ script := [.next c 1, .complete c, .next c 2] } : Emission Nat)))).dropped {}
    = [.next {} 2] := by decide

/-! ### C. with a machine downstream -/

theorem Gen.pipe_out {σ β : Type} (g : Gen α) (m : Machine σ α β) (c : Ctx) (hs : m.subscribes = true) :
    (g.pipe m c).out =
      gate ((m.onSubscribe m.init c).2 ++ m.emits (m.onSubscribe m.init c).1 (gate ((g c).raw c))) :=
  runOp_out m .sync c _ hs

/-- in terms of what a direct subscriber would have received -/
theorem Gen.pipe_out_delivered {σ β : Type} (g : Gen α) (m : Machine σ α β) (c : Ctx) (hs : m.subscribes = true) :
    (g.pipe m c).out =
      gate ((m.onSubscribe m.init c).2 ++ m.emits (m.onSubscribe m.init c).1 (g.delivered c)) :=
  Gen.pipe_out g m c hs

theorem Gen.pipe_grammar {σ β : Type} (g : Gen α) (m : Machine σ α β) (c : Ctx) : Grammar (g.pipe m c).out :=
  runOp_grammar m .sync c _

/-- a refused notification in a comparable form: `false`/`true` = upstream/downstream subscriber -/
def Drop.toPair {α β : Type} : Drop α β → Bool × (Notif α ⊕ Notif β)
  | .up n => (false, .inl n)
  | .down n => (true, .inr n)

/-- `Just(1,2,3) |> Take(1)`: the observer receives 1 and the completion; `Just` keeps looping after
    the downstream subscriber has closed — 2 and 3 reach `Take` (whose upstream subscriber is still
    open: a synchronous source is not unsubscribed before `Subscribe` returns). `Take`'s callback
    (operator_filter.go:360-368) forwards each of them and, since `index >= count` still holds,
    calls `Complete` again after each; `Just`'s own completion is forwarded too. All five
    notifications — the values 2 and 3, and three completions — are refused by the closed
    downstream subscriber; none is refused upstream. -/
theorem just_take_drops :
    ((ofG [1, 2, 3] : Gen Int).pipe (takeM 1) {}).out = [.next {} 1, .complete {}] ∧
    ((ofG [1, 2, 3] : Gen Int).pipe (takeM 1) {}).drops.map Drop.toPair =
      [(true, .inr (.next {} 2)), (true, .inr (.complete {})),
       (true, .inr (.next {} 3)), (true, .inr (.complete {})),
       (true, .inr (.complete {}))] ∧
    ((ofG [1, 2, 3] : Gen Int).pipe (takeM 1) {}).drops.length = 5 ∧
    -- the refused *values* are exactly the rest of `Just`'s loop
    (((ofG [1, 2, 3] : Gen Int).pipe (takeM 1) {}).drops.map Drop.toPair).filter
        (fun p => match p.2 with | .inr (.next _ _) => true | _ => false) =
      [(true, .inr (.next {} 2)), (true, .inr (.next {} 3))] := by
  decide +kernel

/-- the same pipeline through the generic theorem: `Take` sees the whole of `Just`'s script -/
example : ((ofG [1, 2, 3] : Gen Int).pipe (takeM 1) {}).out
    = gate ((takeM 1).emits (0 : Nat) ((ofG [1, 2, 3] : Gen Int).delivered {})) :=
  Gen.pipe_out_delivered _ _ _ rfl

/-- a creation operator under a machine that never closes early: everything is delivered -/
example : ((rangeG 3 0).pipe (takeM 5) {}).out = [.next {} 3, .next {} 2, .next {} 1, .complete {}] ∧
    ((rangeG 3 0).pipe (takeM 5) {}).drops.length = 0 := by decide

/-! ### D. C12 — a creation operator is a reusable recipe -/

/-- every subscription (with the same context) delivers the same trace: a `Gen` is a function, it
    has no state outside the subscribe function -/
theorem Gen.resubscribe (g : Gen α) (c : Ctx) (k : Nat) :
    List.replicate k (g.delivered c) = (List.range k).map (fun _ => g.delivered c) := by
  rw [List.map_const', List.length_range]

/-- the same for the user callbacks: each subscription calls them the same number of times
    (`Start`'s callback and `Defer`'s factory run once per subscription, never at construction) -/
theorem Gen.resubscribe_calls (g : Gen α) (c : Ctx) (k : Nat) :
    ((List.range k).map (fun _ => (g c).calls)).sum = k * (g c).calls := by
  induction k with
  | zero => simp
  | succ n ih => simp [List.range_succ, ih, Nat.succ_mul]

example : List.replicate 2 ((rangeG 2 0).delivered {})
    = [[.next {} 2, .next {} 1, .complete {}], [.next {} 2, .next {} 1, .complete {}]] := by decide

end Ro
