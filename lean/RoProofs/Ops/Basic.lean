/-
  RoProofs.Ops.Basic — machine = specification, first family (template for the others).
  Pattern: `runOp_out_plain` reduces the run to `gate (emitsV … ++ emitsE …)`; the lemmas of
  RoProofs/Script.lean give `emitsV` for the usual shapes of machine (stateless, counter) and
  dispose of the gate for machines that forward the ending (`runOp_out_fwd`) or wait for it
  (`runOp_out_silent`); what is particular to an operator is an induction on the value list with
  the machine state generalised.
-/
import RoProofs.Script
import RoModel.Ops.Aggregate
import RoModel.Spec.Ops
namespace Ro
variable {α β : Type}

theorem hasTerm_nexts (vs : List (Ctx × α)) : hasTerm (Spec.nexts vs) = false := hasTerm_map_next vs

/-- a machine that re-emits every value unchanged, whatever its state -/
theorem emitsV_pass {σ : Type} (m : Machine σ α α) (h : ∀ s c v, (m.onNext s c v).2 = [Notif.next c v])
    (s : σ) (vs : List (Ctx × α)) : m.emitsV s vs = Spec.nexts vs := by
  rw [m.emitsV_stateless _ h, ← List.map_eq_flatMap]; rfl

/-! ### Map -/

theorem map_spec (f : Ctx → α → Nat → Ctx × β) (mode : SrcMode) (sub : Ctx) (raw : List (Notif α)) :
    (runOp (mapM f) mode sub raw).out = Spec.map f (values raw) (ending raw) := by
  refine runOp_out_fwd _ _ _ _ rfl (fun _ _ => rfl) (fun _ _ _ => rfl) (fun _ _ => rfl) ?_
    (hasTerm_map_nextlike _ _ _)
  rw [((mapM f).emitsV_init_indexed (fun i => i) _ rfl (fun _ _ _ => rfl) _).1, ← List.map_eq_flatMap]

/-! ### Skip -/

theorem skipM_emitsV (n i : Nat) (vs : List (Ctx × α)) :
    (skipM n).emitsV i vs = Spec.nexts (vs.drop (n - i)) := by
  induction vs generalizing i with
  | nil => rw [List.drop_nil]; rfl
  | cons p ps ih =>
    show (if i ≥ n then [Notif.next p.1 p.2] else []) ++ (skipM n).emitsV (i + 1) ps = _
    rw [ih]
    by_cases h : i ≥ n
    · rw [if_pos h, Nat.sub_eq_zero_of_le h, Nat.sub_eq_zero_of_le (Nat.le_succ_of_le h)]; rfl
    · rw [if_neg h, show n - i = (n - (i + 1)) + 1 by omega]; rfl

theorem skip_spec (n : Nat) (mode : SrcMode) (sub : Ctx) (raw : List (Notif α)) :
    (runOp (skipM n) mode sub raw).out = Spec.skip n (values raw) (ending raw) :=
  runOp_out_fwd _ _ _ _ rfl (fun _ _ => rfl) (fun _ _ _ => rfl) (fun _ _ => rfl)
    (skipM_emitsV n 0 _) (hasTerm_nexts _)

/-! ### IgnoreElements -/

theorem ignoreElements_spec (mode : SrcMode) (sub : Ctx) (raw : List (Notif α)) :
    (runOp (ignoreElementsM (α := α)) mode sub raw).out = Spec.ignoreElements (values raw) (ending raw) := by
  rw [runOp_out_silent _ _ _ _ rfl (fun _ _ => rfl) (fun _ _ _ => rfl),
    emitsE_fwd _ _ _ (fun _ _ _ => rfl) (fun _ _ => rfl)]
  exact gate_toList _

/-! ### Take -/

theorem Spec.take_succ_cons (k : Nat) (hk : 0 < k) (p : Ctx × α) (ps : List (Ctx × α)) (e : Ending) :
    Spec.take (k + 1) (p :: ps) e = Notif.next p.1 p.2 :: Spec.take k ps e := by
  unfold Spec.take
  by_cases hl : k ≤ ps.length
  · have hne : ps.take k ≠ [] := by
      intro h
      have := congrArg List.length h
      rw [List.length_take, List.length_nil] at this
      omega
    simp [hl, Spec.nexts, List.getLast?_cons_of_ne_nil hne]
  · simp [hl, Spec.nexts]

/-- with `i` values already taken, `Take n` behaves as `Take (n - i)` -/
theorem takeM_gate (n i : Nat) (hi : i < n) (vs : List (Ctx × α)) (e : Ending) :
    gate ((takeM n).emitsV i vs ++ e.toList) = Spec.take (n - i) vs e := by
  induction vs generalizing i with
  | nil =>
    rw [Spec.take, if_neg (by rw [List.length_nil]; omega)]
    exact gate_toList e
  | cons p ps ih =>
    show gate (((if i + 1 ≥ n then [Notif.next p.1 p.2, Notif.complete p.1] else [Notif.next p.1 p.2]) ++
      (takeM n).emitsV (i + 1) ps) ++ e.toList) = _
    by_cases h : i + 1 ≥ n
    · rw [if_pos h, show n - i = 1 by omega, List.append_assoc, gate_append_of_term _ _ rfl]
      rfl
    · rw [if_neg h, show n - i = (n - (i + 1)) + 1 by omega, Spec.take_succ_cons _ (by omega),
        ← ih (i + 1) (by omega)]
      rfl

theorem take_spec (n : Nat) (hn : 0 < n) (mode : SrcMode) (sub : Ctx) (raw : List (Notif α)) :
    (runOp (takeM n) mode sub raw).out = Spec.take n (values raw) (ending raw) := by
  rw [runOp_out_plain _ _ _ _ rfl (fun _ _ => rfl), emitsE_fwd _ _ _ (fun _ _ _ => rfl) (fun _ _ => rfl)]
  exact takeM_gate n 0 hn _ _

end Ro
