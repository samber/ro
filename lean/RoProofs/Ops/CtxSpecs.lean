/-
  RoProofs.Ops.CtxSpecs — C09 (context propagation) for every single-source machine of
  RoModel/Ops/{Filter,Transform,Aggregate}.lean.

  For each machine `<op>M` the theorem

      <op>_ctx : (∀ x ∈ raw, x.ctx.derivedFrom sub) → AllFrom sub (runOp (<op>M …) mode sub raw).out

  is `CtxSafe.run` of a certificate `CtxSafe (<op>M …) sub`: if the source only sends contexts derived
  from the subscription context, so does the operator — for every raw script (legal or not) and both
  source modes. Most machines store no context (`CtxSafe.stateless`: each emission is read off the
  reaction); those that buffer (context, value) pairs carry the invariant "every stored context is
  derived from `sub`". Hypotheses:
   * `sub.isNil = false` only for the two machines that emit at subscription (`emptyM`, `startWithM`);
   * "given a non-nil context, the callback returns a context derived from it" for the
     `…WithContext` callbacks that return a context (`∀ c v i, c.isNil = false → (p c v i).1.derivedFrom c`;
     the premise `c.isNil = false` makes the hypothesis satisfiable by the identity callback and by
     `context.WithValue`-style callbacks — see the examples at the end);
   * `dc.derivedFrom sub` for `defaultIfEmptyM dc d` (deviation witness below for `ro.DefaultIfEmpty`);
   * `maxM` is NOT certifiable (nil context on an empty source): partial theorem + witness.

  Exact provenance for the pure pass-through machines (`PassThrough`): they answer a notification
  with that notification or a terminal carrying its context, so they are certified as they stand.
-/
import RoProofs.CtxFlow
import RoModel.Ops.Aggregate
namespace Ro
variable {σ α β κ : Type}

theorem ctx_next (c : Ctx) (v : β) : (Notif.next c v).ctx = c := rfl
theorem ctx_error (c : Ctx) (e : Err) : (Notif.error c e : Notif β).ctx = c := rfl
theorem ctx_complete (c : Ctx) : (Notif.complete c : Notif β).ctx = c := rfl

/-! ## Pass-through machines

  A machine `α → α` is a *pass-through* when it emits nothing at subscription and every
  notification it emits in reaction to `x` carries exactly `x`'s context, a value being `x` itself.
  Then every delivered notification carries the very context of some notification of the raw
  script, and every delivered value is a notification of the raw script (same value, same context).
-/

/-- what a pass-through answers `x` with: `x` itself, or a terminal carrying `x`'s context -/
def Passes (x n : Notif α) : Prop := n.ctx = x.ctx ∧ (n.isTerminal = false → n = x)

theorem Passes.self {x : Notif α} : Passes x x := ⟨rfl, fun _ => rfl⟩
theorem Passes.error {x : Notif α} {e : Err} : Passes x (.error x.ctx e) := ⟨rfl, nofun⟩
theorem Passes.complete {x : Notif α} : Passes x (.complete x.ctx) := ⟨rfl, nofun⟩

structure PassThrough (m : Machine σ α α) : Prop where
  onSub : ∀ s c, (m.onSubscribe s c).2 = []
  step : ∀ s x, ∀ n ∈ (m.step s x).2, n.ctx = x.ctx ∧ (n.isTerminal = false → n = x)

/-- every delivered notification carries the context of a notification of the raw script, and
    every delivered value is literally one of the raw script's notifications -/
theorem PassThrough.run {m : Machine σ α α} (pt : PassThrough m) (mode : SrcMode) (sub : Ctx)
    (raw : List (Notif α)) :
    ∀ n ∈ (runOp m mode sub raw).out, ∃ x ∈ raw, Passes x n := by
  intro n hn
  rcases mem_runOp_out hn with h | h
  · cases pt.onSub _ _ ▸ h
  · obtain ⟨s, x, hx, hn⟩ := mem_emits h
    exact ⟨x, mem_gate hx, pt.step s x n hn⟩

theorem PassThrough.ctx_exact {m : Machine σ α α} (pt : PassThrough m) (mode : SrcMode) (sub : Ctx)
    (raw : List (Notif α)) : ∀ n ∈ (runOp m mode sub raw).out, ∃ x ∈ raw, n.ctx = x.ctx := by
  intro n hn
  obtain ⟨x, hx, hp, _⟩ := pt.run mode sub raw n hn
  exact ⟨x, hx, hp⟩

theorem PassThrough.value_exact {m : Machine σ α α} (pt : PassThrough m) (mode : SrcMode) (sub : Ctx)
    (raw : List (Notif α)) (c : Ctx) (v : α) (h : .next c v ∈ (runOp m mode sub raw).out) :
    .next c v ∈ raw := by
  obtain ⟨x, hx, _, hp⟩ := pt.run mode sub raw _ h
  rw [hp rfl]; exact hx

/-- it emits no context of its own -/
def PassThrough.ctxSafe {m : Machine σ α α} (pt : PassThrough m) (sub : Ctx) : CtxSafe m sub :=
  .stateless m sub (fun s c v h n hn => (pt.step s (.next c v) n hn).1 ▸ h)
    (fun s c e h n hn => (pt.step s (.error c e) n hn).1 ▸ h)
    (fun s c h n hn => (pt.step s (.complete c) n hn).1 ▸ h)
    (fun s => pt.onSub s sub ▸ each_nil)

/-- reaction by reaction, with the defaults of `Machine` as defaults -/
theorem PassThrough.of (m : Machine σ α α)
    (hN : ∀ s c v, ∀ n ∈ (m.onNext s c v).2, Passes (.next c v) n)
    (hE : ∀ s c e, ∀ n ∈ (m.onError s c e).2, Passes (.error c e) n := by exact fun _ _ _ => each_one .self)
    (hC : ∀ s c, ∀ n ∈ (m.onComplete s c).2, Passes (.complete c) n := by exact fun _ _ => each_one .self)
    (hS : ∀ s c, (m.onSubscribe s c).2 = [] := by exact fun _ _ => rfl) :
    PassThrough m :=
  ⟨hS, fun s x => match x with
    | .next c v => hN s c v
    | .error c e => hE s c e
    | .complete c => hC s c⟩

/-! ## operator_filter.go -/

/-! ### Filter -/

/-- `Filter` with a predicate that returns the context it was given -/
theorem filterM_pass (p : Pred α) (hp : ∀ c v i, (p c v i).1 = c) : PassThrough (filterM p) :=
  .of (filterM p) fun i c v => each_ite (each_one ((hp c v i).symm ▸ .self)) each_nil

theorem filter_ctx (p : Pred α) (sub : Ctx) (hp : ∀ c v i, c.isNil = false → (p c v i).1.derivedFrom c)
    (mode : SrcMode) (raw : List (Notif α)) (hraw : ∀ x ∈ raw, x.ctx.derivedFrom sub) :
    AllFrom sub (runOp (filterM p) mode sub raw).out :=
  CtxSafe.run (.stateless (filterM p) sub
    fun i c v h => each_ite (each_one ((hp c v i h.1).trans h)) each_nil) mode raw hraw

theorem filter_ctx_exact (p : Pred α) (hp : ∀ c v i, (p c v i).1 = c)
    (mode : SrcMode) (sub : Ctx) (raw : List (Notif α)) :
    ∀ n ∈ (runOp (filterM p) mode sub raw).out, ∃ x ∈ raw, n.ctx = x.ctx :=
  (filterM_pass p hp).ctx_exact mode sub raw

theorem filter_value_exact (p : Pred α) (hp : ∀ c v i, (p c v i).1 = c)
    (mode : SrcMode) (sub : Ctx) (raw : List (Notif α)) (c : Ctx) (v : α)
    (h : .next c v ∈ (runOp (filterM p) mode sub raw).out) : .next c v ∈ raw :=
  (filterM_pass p hp).value_exact mode sub raw c v h

/-! ### Distinct -/

theorem distinctByM_pass [DecidableEq κ] (key : Ctx → α → Ctx × κ) (hk : ∀ c v, (key c v).1 = c) :
    PassThrough (distinctByM key) :=
  .of (distinctByM key) fun _ c v => each_ite_snd each_nil (each_one ((hk c v).symm ▸ .self))

theorem distinctBy_ctx [DecidableEq κ] (key : Ctx → α → Ctx × κ) (sub : Ctx)
    (hk : ∀ c v, c.isNil = false → (key c v).1.derivedFrom c)
    (mode : SrcMode) (raw : List (Notif α)) (hraw : ∀ x ∈ raw, x.ctx.derivedFrom sub) :
    AllFrom sub (runOp (distinctByM key) mode sub raw).out :=
  CtxSafe.run (.stateless (distinctByM key) sub
    fun _ c v h => each_ite_snd each_nil (each_one ((hk c v h.1).trans h))) mode raw hraw

theorem distinctBy_ctx_exact [DecidableEq κ] (key : Ctx → α → Ctx × κ) (hk : ∀ c v, (key c v).1 = c)
    (mode : SrcMode) (sub : Ctx) (raw : List (Notif α)) :
    ∀ n ∈ (runOp (distinctByM key) mode sub raw).out, ∃ x ∈ raw, n.ctx = x.ctx :=
  (distinctByM_pass key hk).ctx_exact mode sub raw

theorem distinctBy_value_exact [DecidableEq κ] (key : Ctx → α → Ctx × κ) (hk : ∀ c v, (key c v).1 = c)
    (mode : SrcMode) (sub : Ctx) (raw : List (Notif α)) (c : Ctx) (v : α)
    (h : .next c v ∈ (runOp (distinctByM key) mode sub raw).out) : .next c v ∈ raw :=
  (distinctByM_pass key hk).value_exact mode sub raw c v h

/-! ### IgnoreElements -/

theorem ignoreElementsM_pass : PassThrough (ignoreElementsM (α := α)) :=
  .of ignoreElementsM fun _ _ _ => each_nil

theorem ignoreElements_ctx (sub : Ctx)
    (mode : SrcMode) (raw : List (Notif α)) (hraw : ∀ x ∈ raw, x.ctx.derivedFrom sub) :
    AllFrom sub (runOp (ignoreElementsM (α := α)) mode sub raw).out :=
  (ignoreElementsM_pass.ctxSafe sub).run mode raw hraw

/-! ### Skip -/

theorem skipM_pass (count : Nat) : PassThrough (skipM (α := α) count) :=
  .of (skipM count) fun _ _ _ => each_ite (each_one .self) each_nil

theorem skip_ctx (count : Nat) (sub : Ctx)
    (mode : SrcMode) (raw : List (Notif α)) (hraw : ∀ x ∈ raw, x.ctx.derivedFrom sub) :
    AllFrom sub (runOp (skipM count) mode sub raw).out :=
  ((skipM_pass count).ctxSafe sub).run mode raw hraw

theorem skip_ctx_exact (k : Nat) (mode : SrcMode) (sub : Ctx) (raw : List (Notif α)) :
    ∀ n ∈ (runOp (skipM k) mode sub raw).out, ∃ x ∈ raw, n.ctx = x.ctx :=
  (skipM_pass k).ctx_exact mode sub raw

theorem skip_value_exact (k : Nat) (mode : SrcMode) (sub : Ctx) (raw : List (Notif α)) (c : Ctx) (v : α)
    (h : .next c v ∈ (runOp (skipM k) mode sub raw).out) : .next c v ∈ raw :=
  (skipM_pass k).value_exact mode sub raw c v h

/-! ### SkipWhile -/

theorem skipWhileM_pass (p : Pred α) (hp : ∀ c v i, (p c v i).1 = c) : PassThrough (skipWhileM p) :=
  .of (skipWhileM p) fun s c v =>
    each_ite_snd (each_one .self) (each_ite_snd each_nil (each_one ((hp c v s.2).symm ▸ .self)))

theorem skipWhile_ctx (p : Pred α) (sub : Ctx) (hp : ∀ c v i, c.isNil = false → (p c v i).1.derivedFrom c)
    (mode : SrcMode) (raw : List (Notif α)) (hraw : ∀ x ∈ raw, x.ctx.derivedFrom sub) :
    AllFrom sub (runOp (skipWhileM p) mode sub raw).out :=
  CtxSafe.run (.stateless (skipWhileM p) sub fun s c v h =>
    each_ite_snd (each_one h) (each_ite_snd each_nil (each_one ((hp c v s.2 h.1).trans h)))) mode raw hraw

/-! ### SkipLast — invariant: every buffered context is derived from `sub` -/

theorem skipLast_ctx (count : Nat) (sub : Ctx)
    (mode : SrcMode) (raw : List (Notif α)) (hraw : ∀ x ∈ raw, x.ctx.derivedFrom sub) :
    AllFrom sub (runOp (skipLastM count) mode sub raw).out :=
  CtxSafe.run (m := skipLastM count)
    { Inv := fun q => ∀ p ∈ q, p.1.derivedFrom sub
      init := each_nil
      onSub := fun _ hq => ⟨hq, each_nil⟩
      onNext := fun q c v hq h => by
        dsimp only [skipLastM]
        split
        · exact ⟨each_append hq (each_one h), each_nil⟩
        · cases q with
          | nil => exact ⟨each_one h, each_nil⟩
          | cons p q =>
            have ⟨hp, hq⟩ := List.forall_mem_cons.1 hq
            exact ⟨each_append hq (each_one h), each_one hp⟩
      onError := fun _ _ _ hq h => ⟨hq, each_one h⟩
      onComplete := fun _ _ hq h => ⟨hq, each_one h⟩ } mode raw hraw

/-! ### Take -/

theorem takeM_pass (count : Nat) : PassThrough (takeM (α := α) count) :=
  .of (takeM count) fun _ _ _ => each_ite (each_cons .self (each_one .complete)) (each_one .self)

theorem take_ctx (count : Nat) (sub : Ctx)
    (mode : SrcMode) (raw : List (Notif α)) (hraw : ∀ x ∈ raw, x.ctx.derivedFrom sub) :
    AllFrom sub (runOp (takeM count) mode sub raw).out :=
  ((takeM_pass count).ctxSafe sub).run mode raw hraw

theorem take_ctx_exact (k : Nat) (mode : SrcMode) (sub : Ctx) (raw : List (Notif α)) :
    ∀ n ∈ (runOp (takeM k) mode sub raw).out, ∃ x ∈ raw, n.ctx = x.ctx :=
  (takeM_pass k).ctx_exact mode sub raw

theorem take_value_exact (k : Nat) (mode : SrcMode) (sub : Ctx) (raw : List (Notif α)) (c : Ctx) (v : α)
    (h : .next c v ∈ (runOp (takeM k) mode sub raw).out) : .next c v ∈ raw :=
  (takeM_pass k).value_exact mode sub raw c v h

/-! ### Empty (`Take(0)`, …): completes with the subscription context itself -/

theorem empty_ctx (sub : Ctx) (hsub : sub.isNil = false)
    (mode : SrcMode) (raw : List (Notif α)) (hraw : ∀ x ∈ raw, x.ctx.derivedFrom sub) :
    AllFrom sub (runOp (emptyM (α := α) (β := β)) mode sub raw).out :=
  CtxSafe.run (.stateless emptyM sub (fun _ _ _ _ => each_nil) (fun _ _ _ _ => each_nil) (fun _ _ _ => each_nil)
    fun _ => each_one (Ctx.derivedFrom_refl sub hsub)) mode raw hraw

/-! ### TakeWhile -/

theorem takeWhileM_pass (p : Pred α) (hp : ∀ c v i, (p c v i).1 = c) : PassThrough (takeWhileM p) :=
  .of (takeWhileM p)
    (fun s c v => each_ite_snd each_nil
      (each_ite_snd (each_one ((hp c v s.2).symm ▸ .self)) (each_one ((hp c v s.2).symm ▸ .complete))))
    (fun _ _ _ => each_ite each_nil (each_one .self))
    (fun _ _ => each_ite each_nil (each_one .self))

theorem takeWhile_ctx (p : Pred α) (sub : Ctx) (hp : ∀ c v i, c.isNil = false → (p c v i).1.derivedFrom c)
    (mode : SrcMode) (raw : List (Notif α)) (hraw : ∀ x ∈ raw, x.ctx.derivedFrom sub) :
    AllFrom sub (runOp (takeWhileM p) mode sub raw).out :=
  CtxSafe.run (.stateless (takeWhileM p) sub
    (fun s c v h =>
      have hp := (hp c v s.2 h.1).trans h
      each_ite_snd each_nil (each_ite_snd (each_one hp) (each_one hp)))
    (fun _ _ _ h => each_ite each_nil (each_one h))
    (fun _ _ h => each_ite each_nil (each_one h))) mode raw hraw

/-! ### TakeLast — invariant: every buffered context is derived from `sub` -/

theorem takeLast_ctx (count : Nat) (sub : Ctx)
    (mode : SrcMode) (raw : List (Notif α)) (hraw : ∀ x ∈ raw, x.ctx.derivedFrom sub) :
    AllFrom sub (runOp (takeLastM count) mode sub raw).out :=
  CtxSafe.run (m := takeLastM count)
    { Inv := fun q => ∀ p ∈ q, p.1.derivedFrom sub
      init := each_nil
      onSub := fun _ hq => ⟨hq, each_nil⟩
      onNext := fun _ _ _ hq h =>
        ⟨each_append (each_ite (fun p hp => hq p (List.mem_of_mem_drop hp)) hq) (each_one h), each_nil⟩
      onError := fun _ _ _ hq h => ⟨hq, each_one h⟩
      onComplete := fun _ _ hq h => ⟨hq, each_append (List.forall_mem_map.2 hq) (each_one h)⟩ } mode raw hraw

/-! ### Head -/

theorem headM_pass : PassThrough (headM (α := α)) :=
  .of headM (fun _ _ _ => each_cons .self (each_one .complete)) (hC := fun _ _ => each_one .error)

theorem head_ctx (sub : Ctx)
    (mode : SrcMode) (raw : List (Notif α)) (hraw : ∀ x ∈ raw, x.ctx.derivedFrom sub) :
    AllFrom sub (runOp (headM (α := α)) mode sub raw).out :=
  (headM_pass.ctxSafe sub).run mode raw hraw

/-! ### Tail — invariant: the stored context is derived from `sub` -/

theorem tail_ctx (sub : Ctx)
    (mode : SrcMode) (raw : List (Notif α)) (hraw : ∀ x ∈ raw, x.ctx.derivedFrom sub) :
    AllFrom sub (runOp (tailM (α := α)) mode sub raw).out :=
  CtxSafe.run (m := tailM)
    { Inv := fun s => ∀ p ∈ s, p.1.derivedFrom sub
      init := nofun
      onSub := fun _ hs => ⟨hs, each_nil⟩
      onNext := fun _ _ _ _ h => ⟨each_some h, each_nil⟩
      onError := fun _ _ _ hs h => ⟨hs, each_one h⟩
      onComplete := fun s _ hs h => ⟨hs, match s, hs with
        | none, _ => each_one h
        | some _, hs => each_cons (hs _ rfl) (each_one h)⟩ } mode raw hraw

/-! ### First -/

theorem firstM_pass (p : Pred α) (hp : ∀ c v i, (p c v i).1 = c) : PassThrough (firstM p) :=
  .of (firstM p)
    (fun i c v => each_ite (each_cons ((hp c v i).symm ▸ .self) (each_one ((hp c v i).symm ▸ .complete))) each_nil)
    (hC := fun _ _ => each_one .error)

theorem first_ctx (p : Pred α) (sub : Ctx) (hp : ∀ c v i, c.isNil = false → (p c v i).1.derivedFrom c)
    (mode : SrcMode) (raw : List (Notif α)) (hraw : ∀ x ∈ raw, x.ctx.derivedFrom sub) :
    AllFrom sub (runOp (firstM p) mode sub raw).out :=
  CtxSafe.run (.stateless (firstM p) sub fun i c v h =>
    have hp := (hp c v i h.1).trans h
    each_ite (each_cons hp (each_one hp)) each_nil) mode raw hraw

/-! ### Last — invariant: the stored (predicate's) context is derived from `sub` -/

theorem last_ctx (p : Pred α) (sub : Ctx) (hp : ∀ c v i, c.isNil = false → (p c v i).1.derivedFrom c)
    (mode : SrcMode) (raw : List (Notif α)) (hraw : ∀ x ∈ raw, x.ctx.derivedFrom sub) :
    AllFrom sub (runOp (lastM p) mode sub raw).out :=
  CtxSafe.run (m := lastM p)
    { Inv := fun s => ∀ q ∈ s.1, q.1.derivedFrom sub
      init := nofun
      onSub := fun _ hs => ⟨hs, each_nil⟩
      onNext := fun s c v hs h => ⟨each_ite (each_some ((hp c v s.2 h.1).trans h)) hs, each_nil⟩
      onError := fun _ _ _ hs h => ⟨hs, each_one h⟩
      onComplete := fun s _ hs h => ⟨hs, match s, hs with
        | (none, _), _ => each_one h
        | (some _, _), hs => each_cons (hs _ rfl) (each_one (hs _ rfl))⟩ } mode raw hraw

/-! ### ElementAt / ElementAtOrDefault -/

theorem elementAtM_pass (nth : Nat) : PassThrough (elementAtM (α := α) nth) :=
  .of (elementAtM nth) (fun _ _ _ => each_ite_snd (each_cons .self (each_one .complete)) each_nil)
    (hC := fun _ _ => each_one .error)

theorem elementAt_ctx (nth : Nat) (sub : Ctx)
    (mode : SrcMode) (raw : List (Notif α)) (hraw : ∀ x ∈ raw, x.ctx.derivedFrom sub) :
    AllFrom sub (runOp (elementAtM nth) mode sub raw).out :=
  ((elementAtM_pass nth).ctxSafe sub).run mode raw hraw

theorem elementAtOrDefault_ctx (nth : Nat) (fallback : α) (sub : Ctx)
    (mode : SrcMode) (raw : List (Notif α)) (hraw : ∀ x ∈ raw, x.ctx.derivedFrom sub) :
    AllFrom sub (runOp (elementAtOrDefaultM nth fallback) mode sub raw).out :=
  CtxSafe.run (.stateless (elementAtOrDefaultM nth fallback) sub
    (fun _ _ _ h => each_ite_snd (each_cons h (each_one h)) each_nil)
    (hC := fun _ _ h => each_cons h (each_one h))) mode raw hraw

/-! ## operator_transformations.go and friends -/

/-! ### Map -/

theorem map_ctx (f : Ctx → α → Nat → Ctx × β) (sub : Ctx) (hf : ∀ c v i, c.isNil = false → (f c v i).1.derivedFrom c)
    (mode : SrcMode) (raw : List (Notif α)) (hraw : ∀ x ∈ raw, x.ctx.derivedFrom sub) :
    AllFrom sub (runOp (mapM f) mode sub raw).out :=
  CtxSafe.run (.stateless (mapM f) sub fun i c v h => each_one ((hf c v i h.1).trans h)) mode raw hraw

/-! ### MapTo -/

theorem mapTo_ctx (b : β) (sub : Ctx)
    (mode : SrcMode) (raw : List (Notif α)) (hraw : ∀ x ∈ raw, x.ctx.derivedFrom sub) :
    AllFrom sub (runOp (mapToM (α := α) b) mode sub raw).out :=
  CtxSafe.run (.stateless (mapToM b) sub fun _ _ _ h => each_one h) mode raw hraw

/-! ### MapErr -/

theorem mapErr_ctx (f : Ctx → α → Nat → β × Ctx × Option Err) (sub : Ctx)
    (hf : ∀ c v i, c.isNil = false → (f c v i).2.1.derivedFrom c)
    (mode : SrcMode) (raw : List (Notif α)) (hraw : ∀ x ∈ raw, x.ctx.derivedFrom sub) :
    AllFrom sub (runOp (mapErrM f) mode sub raw).out :=
  CtxSafe.run (.stateless (mapErrM f) sub fun i c v h => by
    dsimp only [mapErrM]
    split <;> exact each_one ((hf c v i h.1).trans h)) mode raw hraw

/-! ### Flatten -/

theorem flatten_ctx (sub : Ctx)
    (mode : SrcMode) (raw : List (Notif (List α))) (hraw : ∀ x ∈ raw, x.ctx.derivedFrom sub) :
    AllFrom sub (runOp (flattenM (α := α)) mode sub raw).out :=
  CtxSafe.run (.stateless flattenM sub fun _ _ vs h => allFrom_map_next h vs) mode raw hraw

/-! ### Scan -/

theorem scan_ctx (f : Ctx → β → α → Nat → Ctx × β) (seed : β) (sub : Ctx)
    (hf : ∀ c b v i, c.isNil = false → (f c b v i).1.derivedFrom c)
    (mode : SrcMode) (raw : List (Notif α)) (hraw : ∀ x ∈ raw, x.ctx.derivedFrom sub) :
    AllFrom sub (runOp (scanM f seed) mode sub raw).out :=
  CtxSafe.run (.stateless (scanM f seed) sub
    fun s c v h => each_one ((hf c s.1 v s.2 h.1).trans h)) mode raw hraw

/-! ### BufferWithCount -/

theorem bufferCount_ctx (size : Nat) (sub : Ctx)
    (mode : SrcMode) (raw : List (Notif α)) (hraw : ∀ x ∈ raw, x.ctx.derivedFrom sub) :
    AllFrom sub (runOp (bufferCountM size) mode sub raw).out :=
  CtxSafe.run (.stateless (bufferCountM size) sub
    (fun _ _ _ h => each_ite_snd (each_one h) each_nil)
    (hC := fun _ _ h => each_append (each_ite (each_one h) each_nil) (each_one h))) mode raw hraw

/-! ### Pairwise -/

theorem pairwise_ctx (sub : Ctx)
    (mode : SrcMode) (raw : List (Notif α)) (hraw : ∀ x ∈ raw, x.ctx.derivedFrom sub) :
    AllFrom sub (runOp (pairwiseM (α := α)) mode sub raw).out :=
  CtxSafe.run (.stateless pairwiseM sub fun s _ _ h => match s with
    | none => each_nil
    | some _ => each_one h) mode raw hraw

/-! ### StartWith: the prefixes are emitted with the subscription context itself -/

theorem startWith_ctx (pre : List α) (sub : Ctx) (hsub : sub.isNil = false)
    (mode : SrcMode) (raw : List (Notif α)) (hraw : ∀ x ∈ raw, x.ctx.derivedFrom sub) :
    AllFrom sub (runOp (startWithM pre) mode sub raw).out :=
  CtxSafe.run (.stateless (startWithM pre) sub (fun _ _ _ h => each_one h)
    (hS := fun _ => allFrom_map_next (Ctx.derivedFrom_refl sub hsub) pre)) mode raw hraw

/-! ### EndWith -/

theorem endWith_ctx (suf : List α) (sub : Ctx)
    (mode : SrcMode) (raw : List (Notif α)) (hraw : ∀ x ∈ raw, x.ctx.derivedFrom sub) :
    AllFrom sub (runOp (endWithM suf) mode sub raw).out :=
  CtxSafe.run (.stateless (endWithM suf) sub (fun _ _ _ h => each_one h)
    (hC := fun _ _ h => each_append (allFrom_map_next h suf) (each_one h))) mode raw hraw

/-! ### identity pass-through (Tap…, Serialize) -/

theorem idM_pass : PassThrough (idM (α := α)) :=
  .of idM fun _ _ _ => each_one .self

theorem id_ctx (sub : Ctx)
    (mode : SrcMode) (raw : List (Notif α)) (hraw : ∀ x ∈ raw, x.ctx.derivedFrom sub) :
    AllFrom sub (runOp (idM (α := α)) mode sub raw).out :=
  (idM_pass.ctxSafe sub).run mode raw hraw

theorem id_ctx_exact (mode : SrcMode) (sub : Ctx) (raw : List (Notif α)) :
    ∀ n ∈ (runOp (idM (α := α)) mode sub raw).out, ∃ x ∈ raw, n.ctx = x.ctx :=
  idM_pass.ctx_exact mode sub raw

theorem id_value_exact (mode : SrcMode) (sub : Ctx) (raw : List (Notif α)) (c : Ctx) (v : α)
    (h : .next c v ∈ (runOp (idM (α := α)) mode sub raw).out) : .next c v ∈ raw :=
  idM_pass.value_exact mode sub raw c v h

/-! ### OnErrorReturn -/

theorem onErrorReturn_ctx (d : α) (sub : Ctx)
    (mode : SrcMode) (raw : List (Notif α)) (hraw : ∀ x ∈ raw, x.ctx.derivedFrom sub) :
    AllFrom sub (runOp (onErrorReturnM d) mode sub raw).out :=
  CtxSafe.run (.stateless (onErrorReturnM d) sub (fun _ _ _ h => each_one h)
    (hE := fun _ _ _ h => each_cons h (each_one h))) mode raw hraw

/-! ### ThrowIfEmpty -/

theorem throwIfEmptyM_pass (e : Err) : PassThrough (throwIfEmptyM (α := α) e) :=
  .of (throwIfEmptyM e) (fun _ _ _ => each_one .self) (hC := fun _ _ => each_ite (each_one .self) (each_one .error))

theorem throwIfEmpty_ctx (err : Err) (sub : Ctx)
    (mode : SrcMode) (raw : List (Notif α)) (hraw : ∀ x ∈ raw, x.ctx.derivedFrom sub) :
    AllFrom sub (runOp (throwIfEmptyM (α := α) err) mode sub raw).out :=
  ((throwIfEmptyM_pass err).ctxSafe sub).run mode raw hraw

/-! ### Materialize / Dematerialize -/

theorem materialize_ctx (sub : Ctx)
    (mode : SrcMode) (raw : List (Notif α)) (hraw : ∀ x ∈ raw, x.ctx.derivedFrom sub) :
    AllFrom sub (runOp (materializeM (α := α)) mode sub raw).out :=
  CtxSafe.run (.stateless materializeM sub (fun _ _ _ h => each_one h)
    (fun _ _ _ h => each_cons h (each_one h)) (fun _ _ h => each_cons h (each_one h))) mode raw hraw

/-- the context *inside* a materialised notification is ignored: the replay uses the context of
    the value that carries it, so nothing is required of the payload -/
theorem dematerialize_ctx (sub : Ctx)
    (mode : SrcMode) (raw : List (Notif (Notif α))) (hraw : ∀ x ∈ raw, x.ctx.derivedFrom sub) :
    AllFrom sub (runOp (dematerializeM (α := α)) mode sub raw).out :=
  CtxSafe.run (.stateless dematerializeM sub
    fun _ _ n h => each_one (by cases n <;> exact h)) mode raw hraw

/-! ### ToSlice / ToMap -/

theorem toSlice_ctx (sub : Ctx)
    (mode : SrcMode) (raw : List (Notif α)) (hraw : ∀ x ∈ raw, x.ctx.derivedFrom sub) :
    AllFrom sub (runOp (toSliceM (α := α)) mode sub raw).out :=
  CtxSafe.run (.stateless toSliceM sub (fun _ _ _ _ => each_nil)
    (hC := fun _ _ h => each_cons h (each_one h))) mode raw hraw

theorem toMap_ctx [DecidableEq κ] (kv : Ctx → α → Nat → κ × β) (sub : Ctx)
    (mode : SrcMode) (raw : List (Notif α)) (hraw : ∀ x ∈ raw, x.ctx.derivedFrom sub) :
    AllFrom sub (runOp (toMapM kv) mode sub raw).out :=
  CtxSafe.run (.stateless (toMapM kv) sub (fun _ _ _ _ => each_nil)
    (hC := fun _ _ h => each_cons h (each_one h))) mode raw hraw

/-! ## operator_conditional.go, operator_math.go -/

/-! ### All / Contains / Find -/

theorem all_ctx (p : Ctx → α → Nat → Bool) (sub : Ctx)
    (mode : SrcMode) (raw : List (Notif α)) (hraw : ∀ x ∈ raw, x.ctx.derivedFrom sub) :
    AllFrom sub (runOp (allM p) mode sub raw).out :=
  CtxSafe.run (.stateless (allM p) sub (fun _ _ _ _ => each_nil)
    (hC := fun _ _ h => each_cons h (each_one h))) mode raw hraw

theorem contains_ctx (p : Ctx → α → Nat → Bool) (sub : Ctx)
    (mode : SrcMode) (raw : List (Notif α)) (hraw : ∀ x ∈ raw, x.ctx.derivedFrom sub) :
    AllFrom sub (runOp (containsM p) mode sub raw).out :=
  CtxSafe.run (.stateless (containsM p) sub (fun _ _ _ h => each_ite (each_cons h (each_one h)) each_nil)
    (hC := fun _ _ h => each_cons h (each_one h))) mode raw hraw

theorem findM_pass (p : Ctx → α → Nat → Bool) : PassThrough (findM p) :=
  .of (findM p) fun _ _ _ => each_ite (each_cons .self (each_one .complete)) each_nil

theorem find_ctx (p : Ctx → α → Nat → Bool) (sub : Ctx)
    (mode : SrcMode) (raw : List (Notif α)) (hraw : ∀ x ∈ raw, x.ctx.derivedFrom sub) :
    AllFrom sub (runOp (findM p) mode sub raw).out :=
  ((findM_pass p).ctxSafe sub).run mode raw hraw

/-! ### DefaultIfEmpty — the default travels with the *configured* context `dc` -/

theorem defaultIfEmpty_ctx (dc : Ctx) (d : α) (sub : Ctx) (hdc : dc.derivedFrom sub)
    (mode : SrcMode) (raw : List (Notif α)) (hraw : ∀ x ∈ raw, x.ctx.derivedFrom sub) :
    AllFrom sub (runOp (defaultIfEmptyM dc d) mode sub raw).out :=
  CtxSafe.run (.stateless (defaultIfEmptyM dc d) sub (fun _ _ _ h => each_one h)
    (hC := fun _ _ h => each_append (each_ite (each_one hdc) each_nil) (each_one h))) mode raw hraw

/-! ### Count / Sum -/

theorem count_ctx (sub : Ctx)
    (mode : SrcMode) (raw : List (Notif α)) (hraw : ∀ x ∈ raw, x.ctx.derivedFrom sub) :
    AllFrom sub (runOp (countM (α := α)) mode sub raw).out :=
  CtxSafe.run (.stateless countM sub (fun _ _ _ _ => each_nil)
    (hC := fun _ _ h => each_cons h (each_one h))) mode raw hraw

theorem sum_ctx (sub : Ctx)
    (mode : SrcMode) (raw : List (Notif Int)) (hraw : ∀ x ∈ raw, x.ctx.derivedFrom sub) :
    AllFrom sub (runOp sumM mode sub raw).out :=
  CtxSafe.run (.stateless sumM sub (fun _ _ _ _ => each_nil)
    (hC := fun _ _ h => each_cons h (each_one h))) mode raw hraw

/-! ### Clamp -/

theorem clamp_ctx (lo hi : Int) (sub : Ctx)
    (mode : SrcMode) (raw : List (Notif Int)) (hraw : ∀ x ∈ raw, x.ctx.derivedFrom sub) :
    AllFrom sub (runOp (clampM lo hi) mode sub raw).out :=
  CtxSafe.run (.stateless (clampM lo hi) sub fun _ _ _ h => each_one h) mode raw hraw

/-! ### Min — invariant: the context stored with the current minimum is derived from `sub` -/

theorem min_ctx (sub : Ctx)
    (mode : SrcMode) (raw : List (Notif Int)) (hraw : ∀ x ∈ raw, x.ctx.derivedFrom sub) :
    AllFrom sub (runOp minM mode sub raw).out :=
  CtxSafe.run (m := minM)
    { Inv := fun s => ∀ p ∈ s, p.1.derivedFrom sub
      init := nofun
      onSub := fun _ hs => ⟨hs, each_nil⟩
      onNext := fun s _ _ hs h => ⟨match s, hs with
        | none, _ => each_some h
        | some _, hs => each_ite (each_some h) hs, each_nil⟩
      onError := fun _ _ _ hs h => ⟨hs, each_one h⟩
      onComplete := fun s _ hs h => ⟨hs, match s, hs with
        | none, _ => each_one h
        | some _, hs => each_cons (hs _ rfl) (each_one h)⟩ } mode raw hraw


/-! ### Max — DEVIATION: on an empty source the pinned code emits `0` with a nil context.

  The full statement

      theorem max_ctx (sub : Ctx) (mode : SrcMode) (raw : List (Notif Int))
          (hraw : ∀ x ∈ raw, x.ctx.derivedFrom sub) : AllFrom sub (runOp maxM mode sub raw).out

  is FALSE (`max_ctx_witness`). It holds exactly when the source does not complete before its
  first value (`max_ctx_partial'`), in particular when it sends at least one value
  (`max_ctx_partial`). No `CtxSafe maxM sub` exists: the invariant "a value is held, with a context
  derived from `sub`" only starts after the first value. -/

theorem max_ctx_partial' (sub : Ctx) (mode : SrcMode) (raw : List (Notif Int))
    (hne : ∀ c rest, raw ≠ .complete c :: rest)
    (hraw : ∀ x ∈ raw, x.ctx.derivedFrom sub) :
    AllFrom sub (runOp maxM mode sub raw).out := by
  intro n hn
  rcases mem_runOp_out hn with h | h
  · cases h
  match raw, h with
  | .next c v :: xs, h =>
    rw [gate_cons_next] at h
    have ⟨hc, hxs⟩ := List.forall_mem_cons.1 hraw
    refine emits_allFrom maxM sub (fun s => ∃ p, s = some p ∧ p.1.derivedFrom sub) ?_
      (some (c, v)) ⟨_, rfl, hc⟩ (gate xs) (fun x hx => hxs x (mem_gate hx)) n h
    rintro _ x ⟨p, rfl, hp⟩ hx
    cases x with
    | next c' v' =>
      refine ⟨?_, each_nil⟩
      dsimp only [Machine.step, maxM]
      split
      · exact ⟨_, rfl, hx⟩
      · exact ⟨_, rfl, hp⟩
    | error => exact ⟨⟨p, rfl, hp⟩, each_one hx⟩
    | complete => exact ⟨⟨p, rfl, hp⟩, each_cons hp (each_one hx)⟩
  | .error c e :: xs, h =>
    rw [gate_cons_error] at h
    exact List.mem_singleton.mp h ▸ hraw _ (.head _)
  | .complete c :: xs, _ => exact absurd rfl (hne c xs)

theorem max_ctx_partial (sub : Ctx) (mode : SrcMode) (raw : List (Notif Int))
    (hv : values raw ≠ [])
    (hraw : ∀ x ∈ raw, x.ctx.derivedFrom sub) :
    AllFrom sub (runOp maxM mode sub raw).out :=
  max_ctx_partial' sub mode raw (fun c rest h => hv (by rw [h]; rfl)) hraw

theorem max_empty_out_ctx (sub : Ctx) (mode : SrcMode) :
    (runOp maxM mode sub [.complete sub]).out = [.next Ctx.nil 0, .complete sub] := by
  rw [runOp_out maxM mode sub _ rfl]; rfl

/-- the deviation: a source that just completes (with the subscription context itself) makes
    `Max` deliver a value whose context is nil — for every subscription context and source mode -/
theorem max_ctx_witness (sub : Ctx) (mode : SrcMode) :
    ¬ AllFrom sub (runOp maxM mode sub [.complete sub]).out := by
  intro h
  rw [max_empty_out_ctx] at h
  exact absurd (h _ (.head _)).1 (by decide)

/-- … and the hypothesis of `max_ctx` is satisfied by that script whenever `sub` is not nil -/
theorem max_ctx_witness_hyp (sub : Ctx) (hsub : sub.isNil = false) :
    ∀ x ∈ [(Notif.complete sub : Notif Int)], x.ctx.derivedFrom sub :=
  each_one (Ctx.derivedFrom_refl sub hsub)

/-! ### DefaultIfEmpty — DEVIATION of `ro.DefaultIfEmpty` (= `DefaultIfEmptyWithContext(context.Background(), v)`) -/

theorem defaultIfEmpty_empty_out (dc : Ctx) (d : α) (sub : Ctx) (mode : SrcMode) :
    (runOp (defaultIfEmptyM dc d) mode sub [.complete sub]).out = [.next dc d, .complete sub] := by
  rw [runOp_out (defaultIfEmptyM dc d) mode sub _ rfl]; rfl

/-- with the background context as configured context, the default delivered on an empty source
    does not carry any marker of the subscription context -/
theorem defaultIfEmpty_background_witness (d : α) (sub : Ctx) (m : Nat) (hm : m ∈ sub.marks)
    (mode : SrcMode) :
    ∃ n ∈ (runOp (defaultIfEmptyM Ctx.bg d) mode sub [.complete sub]).out,
      n = .next Ctx.bg d ∧ m ∉ n.ctx.marks ∧ ¬ n.ctx.derivedFrom sub := by
  rw [defaultIfEmpty_empty_out]
  exact ⟨_, .head _, rfl, List.not_mem_nil, fun h => List.not_mem_nil (h.2 m hm)⟩

theorem defaultIfEmpty_background_not_allFrom (d : α) (sub : Ctx) (m : Nat) (hm : m ∈ sub.marks)
    (mode : SrcMode) :
    ¬ AllFrom sub (runOp (defaultIfEmptyM Ctx.bg d) mode sub [.complete sub]).out := by
  intro h
  obtain ⟨n, hn, _, _, hnot⟩ := defaultIfEmpty_background_witness d sub m hm mode
  exact hnot (h n hn)

/-- concrete instance: subscription context carrying marker 7, non-nil; source completes at once -/
example : ¬ AllFrom (Ctx.bg.tag 7)
    (runOp (defaultIfEmptyM Ctx.bg (42 : Nat)) .sync (Ctx.bg.tag 7) [.complete (Ctx.bg.tag 7)]).out :=
  defaultIfEmpty_background_not_allFrom 42 (Ctx.bg.tag 7) 7 (by decide) .sync

/-! ### Reduce — invariant: `lastCtx` is derived from `sub` as soon as one value has been seen
    (its initial value `Ctx.nil` is never emitted: at `i = 0` the completion's context is used) -/

theorem reduce_ctx (f : Ctx → β → α → Nat → Ctx × β) (seed : β) (sub : Ctx)
    (hf : ∀ c b v i, c.isNil = false → (f c b v i).1.derivedFrom c)
    (mode : SrcMode) (raw : List (Notif α)) (hraw : ∀ x ∈ raw, x.ctx.derivedFrom sub) :
    AllFrom sub (runOp (reduceM f seed) mode sub raw).out :=
  CtxSafe.run (m := reduceM f seed)
    { Inv := fun s => s.2.2 = 0 ∨ s.2.1.derivedFrom sub
      init := .inl rfl
      onSub := fun _ hs => ⟨hs, each_nil⟩
      onNext := fun s c v _ h => ⟨.inr ((hf c s.1 v s.2.2 h.1).trans h), each_nil⟩
      onError := fun _ _ _ hs h => ⟨hs, each_one h⟩
      onComplete := fun s c hs h => ⟨hs, each_cons (by
        dsimp only [Notif.ctx]
        split
        · exact h
        · exact hs.resolve_left ‹_›) (each_one h)⟩ } mode raw hraw

/-! ## Non-vacuity: the hypotheses are satisfiable on scripts that deliver something -/

section Examples

local instance (d c : Ctx) : Decidable (d.derivedFrom c) := by unfold Ctx.derivedFrom; exact inferInstance

/-- subscription context with marker 1 -/
private def sub1 : Ctx := Ctx.bg.tag 1
/-- a legal prefix (per-item marker on the first value), a terminal, and an illegal suffix -/
private def script1 : List (Notif Nat) :=
  [.next (sub1.tag 5) 10, .next sub1 11, .next sub1 12, .complete (sub1.tag 9), .next sub1 13]

example : ∀ x ∈ script1, x.ctx.derivedFrom sub1 := by decide

example : (runOp (takeM 2) .hot sub1 script1).out =
    [.next (sub1.tag 5) 10, .next sub1 11, .complete sub1] := by decide

example : (runOp (takeLastM 2) .sync sub1 script1).out =
    [.next sub1 11, .next sub1 12, .complete (sub1.tag 9)] := by decide

/-- a reducer that adds a marker to the context it is given -/
example : (runOp (reduceM (fun c b v _ => (c.tag 3, b + v)) 0) .sync sub1 script1).out =
    [.next (sub1.tag 3) 33, .complete (sub1.tag 9)] := by decide

/-- … and it satisfies the callback hypothesis of `reduce_ctx` -/
example : ∀ (c : Ctx) (b v i : Nat), c.isNil = false →
    ((fun (c : Ctx) (b v _ : Nat) => (c.tag 3, b + v)) c b v i).1.derivedFrom c :=
  fun c _ _ _ h => Ctx.derivedFrom_tag c 3 h

/-- the identity callback (returns the context it was given) satisfies the hypothesis of `filter_ctx` -/
example (q : Nat → Bool) : ∀ (c : Ctx) (v i : Nat), c.isNil = false →
    ((fun (c : Ctx) (v _ : Nat) => (c, q v)) c v i).1.derivedFrom c :=
  fun c _ _ h => Ctx.derivedFrom_refl c h

/-- `Max` on a script with a value: fine; on the empty script: nil context -/
example : (runOp maxM .sync sub1 [.next (sub1.tag 5) 4, .next sub1 3, .complete sub1]).out =
    [.next (sub1.tag 5) 4, .complete sub1] := by decide
example : (runOp maxM .sync sub1 [.complete sub1]).out = [.next Ctx.nil 0, .complete sub1] := by decide

/-- `DefaultIfEmpty` (background context) on the empty script: marker 1 is lost -/
example : (runOp (defaultIfEmptyM Ctx.bg (42 : Nat)) .sync sub1 [.complete sub1]).out =
    [.next Ctx.bg 42, .complete sub1] := by decide

end Examples

end Ro
