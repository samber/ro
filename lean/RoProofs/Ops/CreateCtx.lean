/-
  RoProofs.Ops.CreateCtx — C09 for the synchronous creation operators
  (Of/Just, FromSlice, Empty, Throw, Range, Repeat, Start, Defer, Iif).

  "The context flows from Subscribe through every callback and is never nil": a creation operator
  has no upstream, so the only context it can (and does) hand to the subscriber is the
  subscription context itself — for every value, for the terminal, and for the panic that
  `SubscribeWithContext` recovers from a panicking `Start` callback / `Defer` factory.

  A. `Gen.SubCtx g`: every notification `g` offers carries exactly the subscription context;
     one theorem per generator (Defer and Iif relative to their inner generators);
  B. what a direct subscriber receives carries the subscription context (`Gen.delivered_ctx`),
     hence a context derived from it, never nil (`Gen.delivered_allFrom`);
  C. with a certified machine downstream the whole pipeline does (`Gen.pipe_allFrom`);
  D. non-vacuity: concrete runs, and a hand-made generator that is *not* `SubCtx`.
-/
import RoProofs.Ops.CreateSpecs
import RoProofs.CtxFlow
namespace Ro
variable {α : Type}

/-- every notification a creation operator offers (recovered panic included) carries exactly the
    subscription context -/
def Gen.SubCtx (g : Gen α) : Prop := ∀ c, ∀ n ∈ (g c).raw c, n.ctx = c

/-! ### A. one theorem per generator -/

/-- the common shape: values carrying `c`, then one notification carrying `c`, and no panic -/
theorem Emission.raw_ctx_of_legal (em : Emission α) (c : Ctx) (l : List α) (t : Notif α) (ht : t.ctx = c)
    (hs : em.script = l.map (Notif.next c) ++ [t]) (hp : em.panic = none) :
    ∀ n ∈ em.raw c, n.ctx = c :=
  Emission.raw_of_noPanic em c hp ▸ hs ▸ each_append (List.forall_mem_map.2 fun _ _ => rfl) (each_one ht)

theorem ofG_subCtx (vs : List α) : (ofG vs).SubCtx := fun c =>
  Emission.raw_ctx_of_legal _ c vs (.complete c) rfl (ofG_script vs c).1 (ofG_script vs c).2

theorem fromSliceG_subCtx (vss : List (List α)) : (fromSliceG vss).SubCtx := fun c =>
  Emission.raw_ctx_of_legal _ c vss.flatten (.complete c) rfl
    (fromSliceG_script vss c).1 (fromSliceG_script vss c).2

theorem emptyG_subCtx : (emptyG : Gen α).SubCtx := fun c =>
  Emission.raw_ctx_of_legal _ c [] (.complete c) rfl rfl rfl

theorem throwG_subCtx (e : Err) : (throwG e : Gen α).SubCtx := fun c =>
  Emission.raw_ctx_of_legal _ c [] (.error c e) rfl rfl rfl

theorem rangeG_subCtx (start endv : Int) : (rangeG start endv).SubCtx := fun c =>
  Emission.raw_ctx_of_legal _ c (Spec.rangeValues start endv) (.complete c) rfl
    (rangeG_script start endv c).1 (rangeG_script start endv c).2

theorem repeatG_subCtx (item : α) (count : Nat) : (repeatG item count).SubCtx := fun c =>
  Emission.raw_ctx_of_legal _ c (List.replicate count item) (.complete c) rfl
    ((repeatG_script item count c).1.trans (Spec.repeatScript_eq_map item count c)) (repeatG_script item count c).2

/-- `Start`, both outcomes: the value and the completion carry the subscription context, and so
    does the recovered panic of a panicking callback (observable.go:313-317) -/
theorem startG_subCtx (cb : Outcome α) : (startG cb).SubCtx := fun _ =>
  match cb with
  | .ok _ => each_cons rfl (each_one rfl)
  | .panic _ => each_one rfl

/-- `Defer` subscribes the factory's observable with the same context: it is `SubCtx` as soon as
    that observable is -/
theorem deferG_subCtx_ok (g : Gen α) (h : g.SubCtx) : (deferG (.ok g)).SubCtx :=
  fun c => deferG_ok g c ▸ h c

/-- a panicking factory: the recovered panic is delivered with the subscription context -/
theorem deferG_subCtx_panic (p : Err) : (deferG (.panic p : Outcome (Gen α))).SubCtx :=
  fun _ => each_one rfl

theorem iifG_subCtx (b : Bool) (g1 g2 : Gen α) (h1 : g1.SubCtx) (h2 : g2.SubCtx) : (iifG b g1 g2).SubCtx := by
  cases b
  · exact h2
  · exact h1

/-! ### B. what a direct subscriber receives -/

/-- every delivered notification carries exactly the subscription context -/
theorem Gen.delivered_ctx (g : Gen α) (h : g.SubCtx) (c : Ctx) : ∀ n ∈ g.delivered c, n.ctx = c :=
  fun n hn => h c n (mem_gate hn)

/-- **C09 for a creation operator subscribed directly**: every delivered context is derived from
    the subscription context (it *is* that context) — never nil when the subscription context
    is not -/
theorem Gen.delivered_allFrom (g : Gen α) (h : g.SubCtx) (c : Ctx) (hc : c.isNil = false) :
    AllFrom c (g.delivered c) :=
  fun n hn => Gen.delivered_ctx g h c n hn ▸ Ctx.derivedFrom_refl c hc

theorem Gen.delivered_notNil (g : Gen α) (h : g.SubCtx) (c : Ctx) (hc : c.isNil = false) :
    ∀ n ∈ g.delivered c, n.ctx.isNil = false :=
  (Gen.delivered_allFrom g h c hc).notNil

/-! ### C. with a certified machine downstream -/

/-- **C09 for `creation operator |> certified machine`**: the generator feeds the machine only the
    subscription context, the machine only emits contexts derived from what it is given -/
theorem Gen.pipe_allFrom {σ β : Type} (g : Gen α) (h : g.SubCtx) (m : Machine σ α β) (c : Ctx)
    (hc : c.isNil = false) (cs : CtxSafe m c) : AllFrom c (g.pipe m c).out :=
  cs.run .sync ((g c).raw c) fun x hx => h c x hx ▸ Ctx.derivedFrom_refl c hc

/-! ### D. non-vacuity -/

example : ((rangeG 1 3).delivered { marks := [7] }).map Notif.ctx
    = [{ marks := [7] }, { marks := [7] }, { marks := [7] }] := by decide

example : ((startG (.panic (.panicVal 9) : Outcome Nat)).delivered { marks := [7] }).map Notif.ctx
    = [{ marks := [7] }] := by decide

example : ((deferG (.ok (iifG false (throwG (.user 1)) (ofG [1, 2]))) : Gen Nat).delivered (Ctx.bg.tag 3)).map Notif.ctx
    = [{ marks := [3] }, { marks := [3] }, { marks := [3] }] := by decide

/-- the composed theorems apply to a nested generator -/
example : (deferG (.ok (iifG true (rangeG 1 3) (startG (.panic (.user 2)))))).SubCtx :=
  deferG_subCtx_ok _ (iifG_subCtx _ _ _ (rangeG_subCtx 1 3) (startG_subCtx _))

/-- the property is not vacuous: a generator that emits with `context.Background()` instead of the
    subscription context is refuted by any marked subscription context -/
theorem bgGen_not_subCtx : ¬ Gen.SubCtx (fun _ => { script := [.complete Ctx.bg] } : Gen Nat) := by
  intro h
  have := h { marks := [7] } (.complete Ctx.bg) (by decide)
  revert this
  decide

/-- … and its delivered context is indeed not derived from the subscription context -/
example : ¬ AllFrom { marks := [7] }
    (Gen.delivered (fun _ => { script := [.complete Ctx.bg] } : Gen Nat) { marks := [7] }) := by
  intro h
  have := (h (.complete Ctx.bg) (by decide)).2 7 (by decide)
  revert this
  decide

end Ro
