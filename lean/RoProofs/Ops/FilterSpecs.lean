/-
  RoProofs.Ops.FilterSpecs — machine = specification for the operators of operator_filter.go
  (machines: RoModel/Ops/Filter.lean, specifications: RoModel/Spec/Filter.lean and Spec/Ops.lean).
  Pattern: see RoProofs/Ops/Basic.lean.
-/
import RoProofs.Ops.Basic
import RoModel.Spec.Filter
namespace Ro
variable {α β κ : Type}

/-! ### Filter -/

theorem filter_spec (p : Pred α) (mode : SrcMode) (sub : Ctx) (raw : List (Notif α)) :
    (runOp (filterM p) mode sub raw).out = Spec.filter p (values raw) (ending raw) := by
  refine runOp_out_fwd _ _ _ _ rfl (fun _ _ => rfl) (fun _ _ _ => rfl) (fun _ _ => rfl) ?_
    (hasTerm_map_nextlike _ _ _)
  rw [((filterM p).emitsV_init_indexed (fun i => i) _ rfl (fun _ _ _ => rfl) _).1, flatMap_ite_singleton]

/-- keeps the even values at even indices, tags the context; the script has an illegal suffix -/
example :
    (runOp (filterM (fun c v i => (c.tag 7, v % 2 == 0 && i % 2 == 0))) .hot Ctx.bg
      [.next Ctx.bg 4, .next (Ctx.bg.tag 1) 6, .next Ctx.bg 5, .next Ctx.bg 3, .next (Ctx.bg.tag 2) 8,
       .error Ctx.bg (.user 1), .next Ctx.bg 10, .complete Ctx.bg]).out
    = [.next (Ctx.bg.tag 7) 4, .next ((Ctx.bg.tag 2).tag 7) 8, .error Ctx.bg (.user 1)] := by decide

/-! ### DistinctBy -/

theorem distinctByM_seen [DecidableEq κ] (key : Ctx → α → Ctx × κ) (seen : List κ) (vs : List (Ctx × α))
    (k : κ) : k ∈ (distinctByM key).afterV seen vs ↔ k ∈ seen ∨ ∃ y ∈ vs, (key y.1 y.2).2 = k := by
  induction vs generalizing seen with
  | nil => simp [Machine.afterV]
  | cons x ps ih =>
    have hon : ((distinctByM key).onNext seen x.1 x.2).1 =
        if (key x.1 x.2).2 ∈ seen then seen else (key x.1 x.2).2 :: seen := apply_ite Prod.fst _ _ _
    rw [Machine.afterV_cons, ih, hon]
    by_cases hm : (key x.1 x.2).2 ∈ seen
    · rw [if_pos hm]; simp only [List.mem_cons, exists_eq_or_imp]
      constructor
      · rintro (h | h); exact Or.inl h; exact Or.inr (Or.inr h)
      · rintro (h | h | h); exact Or.inl h; exact Or.inl (h ▸ hm); exact Or.inr h
    · rw [if_neg hm]; simp only [List.mem_cons, exists_eq_or_imp]
      rw [or_assoc, or_left_comm, eq_comm]

theorem distinctByM_emitsV [DecidableEq κ] (key : Ctx → α → Ctx × κ) (vs : List (Ctx × α)) :
    (distinctByM key).emitsV [] vs =
      (vs.zipIdx.filter (fun q =>
          (vs.take q.2).all (fun y => decide ((key y.1 y.2).2 ≠ (key q.1.1 q.1.2).2)))).map
        (fun q => Notif.next (key q.1.1 q.1.2).1 q.1.2) := by
  rw [Machine.emitsV_eq_flatMap, ← flatMap_ite_singleton]
  congr 1; funext q
  have hon : ∀ s, ((distinctByM key).onNext s q.1.1 q.1.2).2 =
      if (key q.1.1 q.1.2).2 ∈ s then [] else [.next (key q.1.1 q.1.2).1 q.1.2] :=
    fun s => apply_ite Prod.snd _ _ _
  have hseen := distinctByM_seen key [] (vs.take q.2) (key q.1.1 q.1.2).2
  rw [hon]
  by_cases h : (key q.1.1 q.1.2).2 ∈ (distinctByM key).afterV [] (vs.take q.2)
  · obtain ⟨y, hy, e⟩ := (hseen.1 h).resolve_left List.not_mem_nil
    have hall : ¬ (vs.take q.2).all (fun y => decide ((key y.1 y.2).2 ≠ (key q.1.1 q.1.2).2)) = true :=
      fun hall => absurd e (of_decide_eq_true (List.all_eq_true.1 hall y hy))
    rw [if_pos h, if_neg hall]
  · have hall : (vs.take q.2).all (fun y => decide ((key y.1 y.2).2 ≠ (key q.1.1 q.1.2).2)) = true :=
      List.all_eq_true.2 fun y hy => decide_eq_true fun e => h (hseen.2 (Or.inr ⟨y, hy, e⟩))
    rw [if_neg h, if_pos hall]

theorem distinctBy_spec [DecidableEq κ] (key : Ctx → α → Ctx × κ)
    (mode : SrcMode) (sub : Ctx) (raw : List (Notif α)) :
    (runOp (distinctByM key) mode sub raw).out = Spec.distinctBy key (values raw) (ending raw) :=
  runOp_out_fwd _ _ _ _ rfl (fun _ _ => rfl) (fun _ _ _ => rfl) (fun _ _ => rfl)
    (distinctByM_emitsV key _) (hasTerm_map_nextlike _ _ _)

/-- distinct modulo 3, the selector tags the context; illegal suffix after the completion -/
example :
    (runOp (distinctByM (fun c (v : Nat) => (c.tag 9, v % 3))) .sync Ctx.bg
      [.next Ctx.bg 1, .next (Ctx.bg.tag 1) 4, .next Ctx.bg 2, .next Ctx.bg 7, .next (Ctx.bg.tag 2) 3,
       .next Ctx.bg 5, .complete (Ctx.bg.tag 3), .next Ctx.bg 6, .error Ctx.bg (.user 1)]).out
    = [.next (Ctx.bg.tag 9) 1, .next (Ctx.bg.tag 9) 2, .next ((Ctx.bg.tag 2).tag 9) 3,
       .complete (Ctx.bg.tag 3)] := by decide

/-! ### SkipWhile -/

/-- once skipping has stopped, everything passes unchanged -/
theorem skipWhileM_emitsV_passing (p : Pred α) (i : Nat) (vs : List (Ctx × α)) :
    (skipWhileM p).emitsV (false, i) vs = Spec.nexts vs := by
  induction vs generalizing i with
  | nil => rfl
  | cons x ps ih => exact congrArg (_ :: ·) (ih (i + 1))

theorem skipWhileM_emitsV (p : Pred α) (i : Nat) (vs : List (Ctx × α)) :
    (skipWhileM p).emitsV (true, i) vs =
      match (vs.zipIdx i).dropWhile (Spec.holds p) with
      | [] => []
      | q :: rest => Spec.nextP p q :: Spec.nexts (rest.map (·.1)) := by
  induction vs generalizing i with
  | nil => rfl
  | cons x ps ih =>
    have hon : (skipWhileM p).onNext (true, i) x.1 x.2 =
        if Spec.holds p (x, i) then ((true, i + 1), []) else ((false, i + 1), [Spec.nextP p (x, i)]) := rfl
    rw [Machine.emitsV_cons, hon, List.zipIdx_cons, List.dropWhile_cons]
    cases Spec.holds p (x, i)
    · exact congrArg (_ :: ·)
        ((skipWhileM_emitsV_passing p (i + 1) ps).trans (by rw [List.zipIdx_map_fst]))
    · exact ih (i + 1)

theorem skipWhile_spec (p : Pred α) (mode : SrcMode) (sub : Ctx) (raw : List (Notif α)) :
    (runOp (skipWhileM p) mode sub raw).out = Spec.skipWhile p (values raw) (ending raw) := by
  refine runOp_out_fwd _ _ _ _ rfl (fun _ _ => rfl) (fun _ _ _ => rfl) (fun _ _ => rfl)
    (skipWhileM_emitsV p 0 _) ?_
  split
  · rfl
  · exact hasTerm_nexts _

/-- skips while `v < 3`; the predicate (which would reject 1 again) is not consulted afterwards;
    the boundary value carries the predicate's context, later ones their own -/
example :
    (runOp (skipWhileM (fun c (v : Nat) i => (c.tag (10 + i), v < 3))) .hot Ctx.bg
      [.next Ctx.bg 1, .next Ctx.bg 2, .next (Ctx.bg.tag 1) 5, .next (Ctx.bg.tag 2) 1, .next Ctx.bg 7,
       .complete (Ctx.bg.tag 3), .next Ctx.bg 9, .complete Ctx.bg]).out
    = [.next ((Ctx.bg.tag 1).tag 12) 5, .next (Ctx.bg.tag 2) 1, .next Ctx.bg 7,
       .complete (Ctx.bg.tag 3)] := by decide

/-! ### SkipLast -/

/-- a FIFO of capacity `n` holding `q` and fed with `vs`: the values that fall out are emitted,
    the last `n` are held back -/
theorem skipLastM_run (n : Nat) (hn : 0 < n) (q vs : List (Ctx × α)) (hq : q.length ≤ n) :
    (skipLastM n).emitsV q vs = Spec.nexts ((q ++ vs).take (q.length + vs.length - n)) ∧
    (skipLastM n).afterV q vs = (q ++ vs).drop (q.length + vs.length - n) := by
  induction vs generalizing q with
  | nil => rw [List.append_nil, List.length_nil, Nat.add_zero, Nat.sub_eq_zero_of_le hq]; exact ⟨rfl, rfl⟩
  | cons x ps ih =>
    rw [Machine.emitsV_cons, Machine.afterV_cons]
    by_cases hlt : q.length < n
    · have hstep : (skipLastM n).onNext q x.1 x.2 = (q ++ [x], []) := if_pos hlt
      have ih' := ih (q ++ [x]) (by rw [List.length_append]; exact hlt)
      rw [hstep, ih'.1, ih'.2, List.append_assoc, List.length_append, Nat.add_right_comm]
      exact ⟨rfl, rfl⟩
    · cases q with
      | nil => exact absurd hn hlt
      | cons y rest =>
        have hlen : rest.length + 1 = n := Nat.le_antisymm hq (Nat.le_of_not_lt hlt)
        have hstep : (skipLastM n).onNext (y :: rest) x.1 x.2 = (rest ++ [x], [Notif.next y.1 y.2]) :=
          if_neg hlt
        have hq' : (rest ++ [x]).length = n := by rw [List.length_append]; exact hlen
        have ih' := ih (rest ++ [x]) (Nat.le_of_eq hq')
        rw [hstep, ih'.1, ih'.2, hq', List.length_cons, hlen, List.length_cons, Nat.add_sub_cancel_left,
          Nat.add_sub_cancel_left, List.append_assoc]
        exact ⟨rfl, rfl⟩

theorem skipLast_spec (n : Nat) (hn : 0 < n) (mode : SrcMode) (sub : Ctx) (raw : List (Notif α)) :
    (runOp (skipLastM n) mode sub raw).out = Spec.skipLast n (values raw) (ending raw) := by
  refine runOp_out_fwd _ _ _ _ rfl (fun _ _ => rfl) (fun _ _ _ => rfl) (fun _ _ => rfl)
    ((skipLastM_run n hn [] (values raw) (Nat.zero_le n)).1.trans ?_) (hasTerm_nexts _)
  rw [List.nil_append, List.length_nil, Nat.zero_add]

/-- drops the last two of five values; the error is forwarded, the illegal suffix refused -/
example :
    (runOp (skipLastM 2) .sync Ctx.bg
      [.next (Ctx.bg.tag 1) 1, .next (Ctx.bg.tag 2) 2, .next (Ctx.bg.tag 3) 3, .next Ctx.bg 4,
       .next Ctx.bg 5, .error (Ctx.bg.tag 4) (.user 7), .next Ctx.bg 6, .complete Ctx.bg]).out
    = [.next (Ctx.bg.tag 1) 1, .next (Ctx.bg.tag 2) 2, .next (Ctx.bg.tag 3) 3,
       .error (Ctx.bg.tag 4) (.user 7)] := by decide

/-! ### TakeWhile -/

/-- What follows the completion at the first failing value is cut by the gate, so the silence of
    the machine after that point plays no part. -/
theorem takeWhileM_gate (p : Pred α) (i : Nat) (vs : List (Ctx × α)) (e : Ending) :
    gate ((takeWhileM p).emitsV (false, i) vs ++
      (takeWhileM p).emitsE ((takeWhileM p).afterV (false, i) vs) e) =
    ((vs.zipIdx i).takeWhile (Spec.holds p)).map (Spec.nextP p) ++
      (match (vs.zipIdx i).find? (fun q => !Spec.holds p q) with
       | some q => [.complete (p q.1.1 q.1.2 q.2).1]
       | none => e.toList) := by
  induction vs generalizing i with
  | nil => cases e <;> rfl
  | cons x ps ih =>
    have hon : (takeWhileM p).onNext (false, i) x.1 x.2 =
        if Spec.holds p (x, i) then ((false, i + 1), [Spec.nextP p (x, i)])
        else ((true, i + 1), [.complete (p x.1 x.2 i).1]) := rfl
    rw [Machine.emitsV_cons, Machine.afterV_cons, hon, List.zipIdx_cons, List.takeWhile_cons,
      List.find?_cons]
    cases Spec.holds p (x, i)
    · exact gate_cons_complete _ _
    · exact (gate_cons_next _ _ _).trans (congrArg (_ :: ·) (ih (i + 1)))

theorem takeWhile_spec (p : Pred α) (mode : SrcMode) (sub : Ctx) (raw : List (Notif α)) :
    (runOp (takeWhileM p) mode sub raw).out = Spec.takeWhile p (values raw) (ending raw) := by
  rw [runOp_out_plain _ _ _ _ rfl (fun _ _ => rfl)]
  exact takeWhileM_gate p 0 _ _

/-- passes while `v < 5` with the predicate's contexts, completes at the first failing value with
    the context returned by that call; the source's own error comes too late -/
example :
    (runOp (takeWhileM (fun c (v : Nat) i => (c.tag (10 + i), v < 5))) .hot Ctx.bg
      [.next Ctx.bg 1, .next (Ctx.bg.tag 1) 2, .next (Ctx.bg.tag 2) 8, .next Ctx.bg 3,
       .error Ctx.bg (.user 1), .next Ctx.bg 0]).out
    = [.next (Ctx.bg.tag 10) 1, .next ((Ctx.bg.tag 1).tag 11) 2, .complete ((Ctx.bg.tag 2).tag 12)] := by
  decide

/-- the predicate never fails: the source's ending is forwarded -/
example :
    (runOp (takeWhileM (fun c (v : Nat) _ => (c, v < 5))) .sync Ctx.bg
      [.next Ctx.bg 1, .next (Ctx.bg.tag 1) 2, .error (Ctx.bg.tag 3) (.user 1), .next Ctx.bg 0]).out
    = [.next Ctx.bg 1, .next (Ctx.bg.tag 1) 2, .error (Ctx.bg.tag 3) (.user 1)] := by decide

/-! ### TakeLast -/

/-- `TakeLast` keeps exactly what `SkipLast` holds back -/
theorem takeLastM_state (n : Nat) (q : List (Ctx × α)) (c : Ctx) (v : α) :
    ((takeLastM n).onNext q c v).1 = ((skipLastM n).onNext q c v).1 := by
  show (if q.length ≥ n then q.drop 1 else q) ++ [(c, v)] =
    (if q.length < n then (q ++ [(c, v)], ([] : List (Notif α))) else _).1
  by_cases h : q.length < n
  · rw [if_pos h, if_neg (Nat.not_le_of_lt h)]
  · rw [if_neg h, if_pos (Nat.le_of_not_lt h)]
    cases q <;> rfl

theorem takeLast_spec (n : Nat) (hn : 0 < n) (mode : SrcMode) (sub : Ctx) (raw : List (Notif α)) :
    (runOp (takeLastM n) mode sub raw).out = Spec.takeLast n (values raw) (ending raw) := by
  rw [runOp_out_silent _ _ _ _ rfl (fun _ _ => rfl) (fun _ _ _ => rfl),
    (takeLastM n).afterV_congr (skipLastM n) (takeLastM_state n),
    show (takeLastM (α := α) n).init = [] from rfl, (skipLastM_run n hn [] _ (Nat.zero_le n)).2,
    List.nil_append, List.length_nil, Nat.zero_add]
  cases ending raw with
  | never => rfl
  | error c e => rfl
  | complete c => exact gate_values_ending _ (.complete c) (hasTerm_nexts _)

/-- the last two of four values with their stored contexts, at completion -/
example :
    (runOp (takeLastM 2) .sync Ctx.bg
      [.next (Ctx.bg.tag 1) 1, .next (Ctx.bg.tag 2) 2, .next (Ctx.bg.tag 3) 3, .next (Ctx.bg.tag 4) 4,
       .complete (Ctx.bg.tag 5), .next Ctx.bg 6, .error Ctx.bg (.user 1)]).out
    = [.next (Ctx.bg.tag 3) 3, .next (Ctx.bg.tag 4) 4, .complete (Ctx.bg.tag 5)] := by decide

/-- nothing but the error on error -/
example :
    (runOp (takeLastM 2) .hot Ctx.bg
      [.next (Ctx.bg.tag 1) 1, .next (Ctx.bg.tag 2) 2, .next (Ctx.bg.tag 3) 3,
       .error (Ctx.bg.tag 5) (.user 1), .complete Ctx.bg]).out
    = [.error (Ctx.bg.tag 5) (.user 1)] := by decide

/-! ### Empty (Take 0, TakeLast 0) -/

theorem empty_spec (mode : SrcMode) (sub : Ctx) (raw : List (Notif α)) :
    (runOp (emptyM (α := α) (β := β)) mode sub raw).out = Spec.empty sub (values raw) (ending raw) := by
  rw [runOp_out_nosub _ _ _ _ rfl]
  rfl

/-- the source is never subscribed: only the completion with the subscription context -/
example :
    (runOp (emptyM (α := Nat) (β := Nat)) .sync (Ctx.bg.tag 4)
      [.next Ctx.bg 1, .next Ctx.bg 2, .error Ctx.bg (.user 1), .next Ctx.bg 3]).out
    = [.complete (Ctx.bg.tag 4)] := by decide

/-! ### Head -/

theorem head_spec (mode : SrcMode) (sub : Ctx) (raw : List (Notif α)) :
    (runOp (headM (α := α)) mode sub raw).out = Spec.head (values raw) (ending raw) := by
  rw [runOp_out_plain _ _ _ _ rfl (fun _ _ => rfl)]
  cases values raw with
  | nil => cases ending raw <;> rfl
  | cons x ps =>
    obtain ⟨c, v⟩ := x
    show gate (([Notif.next c v, Notif.complete c] ++ headM.emitsV () ps) ++ _) = _
    rw [List.append_assoc, gate_append_of_term _ _ rfl]
    rfl

/-- the first value and a completion with its context; later values and the error are refused -/
example :
    (runOp headM .hot Ctx.bg
      [.next (Ctx.bg.tag 1) 5, .next (Ctx.bg.tag 2) 6, .error Ctx.bg (.user 1), .next Ctx.bg 7]).out
    = [.next (Ctx.bg.tag 1) 5, .complete (Ctx.bg.tag 1)] := by decide

/-- `ErrHeadEmpty` when an empty source completes -/
example :
    (runOp (headM (α := Nat)) .sync Ctx.bg [.complete (Ctx.bg.tag 1), .next Ctx.bg 7]).out
    = [.error (Ctx.bg.tag 1) (.sentinel 1)] := by decide

/-! ### Tail -/

theorem tailM_afterV (s : Option (Ctx × α)) (vs : List (Ctx × α)) :
    tailM.afterV s vs = vs.getLast?.or s := by
  induction vs generalizing s with
  | nil => rfl
  | cons x ps ih =>
    rw [Machine.afterV_cons, ih, List.getLast?_cons]
    cases ps.getLast? <;> rfl

theorem tail_spec (mode : SrcMode) (sub : Ctx) (raw : List (Notif α)) :
    (runOp (tailM (α := α)) mode sub raw).out = Spec.tail (values raw) (ending raw) := by
  rw [runOp_out_silent _ _ _ _ rfl (fun _ _ => rfl) (fun _ _ _ => rfl), tailM_afterV]
  cases ending raw with
  | never => rfl
  | error c e => rfl
  | complete c =>
    unfold Spec.tail
    cases (values raw).getLast? <;> rfl

/-- the last value with its stored context, then the completion with the completion's context -/
example :
    (runOp tailM .sync Ctx.bg
      [.next (Ctx.bg.tag 1) 5, .next (Ctx.bg.tag 2) 6, .next (Ctx.bg.tag 3) 7,
       .complete (Ctx.bg.tag 4), .next Ctx.bg 8, .error Ctx.bg (.user 1)]).out
    = [.next (Ctx.bg.tag 3) 7, .complete (Ctx.bg.tag 4)] := by decide

/-- `ErrTailEmpty` on an empty source; an error is forwarded alone -/
example :
    (runOp (tailM (α := Nat)) .hot Ctx.bg [.complete (Ctx.bg.tag 1), .next Ctx.bg 7]).out
    = [.error (Ctx.bg.tag 1) (.sentinel 2)] := by decide
example :
    (runOp tailM .hot Ctx.bg [.next Ctx.bg 7, .error (Ctx.bg.tag 1) (.user 3), .complete Ctx.bg]).out
    = [.error (Ctx.bg.tag 1) (.user 3)] := by decide

/-! ### First -/

theorem first_spec (p : Pred α) (mode : SrcMode) (sub : Ctx) (raw : List (Notif α)) :
    (runOp (firstM p) mode sub raw).out = Spec.first p (values raw) (ending raw) := by
  rw [runOp_out_plain _ _ _ _ rfl (fun _ _ => rfl),
    ((firstM p).emitsV_init_indexed (fun i => i) _ rfl (fun _ _ _ => rfl) _).1,
    gate_flatMap_ite _ _ (fun _ => rfl)]
  unfold Spec.first Spec.firstMatch
  cases (values raw).zipIdx.find? (fun q => (p q.1.1 q.1.2 q.2).2) with
  | some q => rfl
  | none => cases ending raw <;> rfl

/-- the first value ≥ 5 at an odd index, with the predicate's context for value and completion;
    the second match (8) is refused -/
example :
    (runOp (firstM (fun c (v : Nat) i => (c.tag (10 + i), v ≥ 5 && i % 2 == 1))) .sync Ctx.bg
      [.next Ctx.bg 6, .next (Ctx.bg.tag 1) 2, .next Ctx.bg 3, .next (Ctx.bg.tag 2) 7, .next Ctx.bg 1,
       .next Ctx.bg 8, .complete Ctx.bg]).out
    = [.next ((Ctx.bg.tag 2).tag 13) 7, .complete ((Ctx.bg.tag 2).tag 13)] := by decide

/-- `ErrFirstEmpty` when nothing matched -/
example :
    (runOp (firstM (fun c (v : Nat) _ => (c.tag 9, v ≥ 5))) .hot Ctx.bg
      [.next Ctx.bg 1, .next Ctx.bg 2, .complete (Ctx.bg.tag 1), .next Ctx.bg 8]).out
    = [.error (Ctx.bg.tag 1) (.sentinel 3)] := by decide

/-! ### Last -/

theorem lastM_afterV (p : Pred α) (s : Option (Ctx × α)) (i : Nat) (vs : List (Ctx × α)) :
    ((lastM p).afterV (s, i) vs).1 =
      ((((vs.zipIdx i).filter (Spec.holds p)).getLast?).map
        (fun q => ((p q.1.1 q.1.2 q.2).1, q.1.2))).or s := by
  induction vs generalizing s i with
  | nil => rfl
  | cons x ps ih =>
    obtain ⟨c, v⟩ := x
    have hstep : (lastM p).afterV (s, i) ((c, v) :: ps) =
        (lastM p).afterV (if (p c v i).2 then some ((p c v i).1, v) else s, i + 1) ps := rfl
    have hh : Spec.holds p ((c, v), i) = (p c v i).2 := rfl
    rw [hstep, ih, List.zipIdx_cons, List.filter_cons, hh]
    cases hp : (p c v i).2
    · simp
    · simp only [if_true, List.getLast?_cons]
      cases ((ps.zipIdx (i + 1)).filter (Spec.holds p)).getLast? <;> rfl

theorem last_spec (p : Pred α) (mode : SrcMode) (sub : Ctx) (raw : List (Notif α)) :
    (runOp (lastM p) mode sub raw).out = Spec.last p (values raw) (ending raw) := by
  rw [runOp_out_silent _ _ _ _ rfl (fun _ _ => rfl) (fun _ _ _ => rfl),
    show (lastM p).init = (none, 0) from rfl]
  cases ending raw with
  | never => rfl
  | error c e => rfl
  | complete c =>
    have hE : ∀ s, (lastM p).emitsE s (.complete c) =
        match s.1 with
        | some (c0, v0) => [.next c0 v0, .complete c0]
        | none => [.error c (.sentinel 4)] := fun _ => rfl
    rw [hE, lastM_afterV, Option.or_none]
    unfold Spec.last
    cases ((values raw).zipIdx.filter (Spec.holds p)).getLast? <;> rfl

/-- the last even value, emitted and completed with the context the predicate returned for it
    (not the completion's context) -/
example :
    (runOp (lastM (fun c (v : Nat) i => (c.tag (10 + i), v % 2 == 0))) .sync Ctx.bg
      [.next Ctx.bg 2, .next (Ctx.bg.tag 1) 4, .next Ctx.bg 3, .complete (Ctx.bg.tag 2),
       .next Ctx.bg 6, .complete Ctx.bg]).out
    = [.next ((Ctx.bg.tag 1).tag 11) 4, .complete ((Ctx.bg.tag 1).tag 11)] := by decide

/-- `ErrLastEmpty` when nothing matched -/
example :
    (runOp (lastM (fun c (v : Nat) _ => (c.tag 9, v % 2 == 0))) .hot Ctx.bg
      [.next Ctx.bg 1, .next Ctx.bg 3, .complete (Ctx.bg.tag 2), .next Ctx.bg 6]).out
    = [.error (Ctx.bg.tag 2) (.sentinel 4)] := by decide

/-! ### ElementAt, ElementAtOrDefault -/

/-- both machines react to values in the same way: the counter stops at `n`, every value seen
    with the counter at `n` is emitted followed by a completion; the gate keeps the first -/
theorem elementAt_gate (m : Machine Nat α α) (n : Nat)
    (hm : ∀ k c v, m.onNext k c v = if k = n then (k, [.next c v, .complete c]) else (k + 1, []))
    (j k : Nat) (hk : k + j = n) (vs : List (Ctx × α)) (rest : List (Notif α)) :
    gate (m.emitsV k vs ++ rest) =
      match vs[j]? with
      | some p => [.next p.1 p.2, .complete p.1]
      | none => gate rest := by
  induction vs generalizing j k with
  | nil => rfl
  | cons x ps ih =>
    rw [Machine.emitsV_cons, hm]
    cases j with
    | zero => rw [if_pos (show k = n from hk), List.append_assoc, gate_append_of_term _ _ rfl]; rfl
    | succ j =>
      rw [if_neg (by omega), List.getElem?_cons_succ]
      exact ih j (k + 1) (by omega)

theorem elementAt_spec (n : Nat) (mode : SrcMode) (sub : Ctx) (raw : List (Notif α)) :
    (runOp (elementAtM n) mode sub raw).out = Spec.elementAt n (values raw) (ending raw) := by
  rw [runOp_out_plain _ _ _ _ rfl (fun _ _ => rfl)]
  rw [show (elementAtM (α := α) n).init = 0 from rfl,
    elementAt_gate _ n (fun _ _ _ => rfl) n 0 (Nat.zero_add n)]
  unfold Spec.elementAt
  cases (values raw)[n]? with
  | some p => rfl
  | none => cases ending raw <;> rfl

/-- the value of index 2 and a completion with its context; everything after is refused -/
example :
    (runOp (elementAtM 2) .sync Ctx.bg
      [.next (Ctx.bg.tag 1) 5, .next (Ctx.bg.tag 2) 6, .next (Ctx.bg.tag 3) 7, .next (Ctx.bg.tag 4) 8,
       .error Ctx.bg (.user 1), .next Ctx.bg 9]).out
    = [.next (Ctx.bg.tag 3) 7, .complete (Ctx.bg.tag 3)] := by decide

/-- `ErrElementAtNotFound` when the source completes too early -/
example :
    (runOp (elementAtM 2) .hot Ctx.bg
      [.next (Ctx.bg.tag 1) 5, .next (Ctx.bg.tag 2) 6, .complete (Ctx.bg.tag 3), .next Ctx.bg 9]).out
    = [.error (Ctx.bg.tag 3) (.sentinel 5)] := by decide

theorem elementAtOrDefault_spec (n : Nat) (d : α) (mode : SrcMode) (sub : Ctx) (raw : List (Notif α)) :
    (runOp (elementAtOrDefaultM n d) mode sub raw).out =
      Spec.elementAtOrDefault n d (values raw) (ending raw) := by
  rw [runOp_out_plain _ _ _ _ rfl (fun _ _ => rfl)]
  rw [show (elementAtOrDefaultM n d).init = 0 from rfl,
    elementAt_gate _ n (fun _ _ _ => rfl) n 0 (Nat.zero_add n)]
  unfold Spec.elementAtOrDefault
  cases (values raw)[n]? with
  | some p => rfl
  | none => cases ending raw <;> rfl

/-- found: same as ElementAt -/
example :
    (runOp (elementAtOrDefaultM 1 0) .hot Ctx.bg
      [.next (Ctx.bg.tag 1) 5, .next (Ctx.bg.tag 2) 6, .next (Ctx.bg.tag 3) 7, .complete Ctx.bg]).out
    = [.next (Ctx.bg.tag 2) 6, .complete (Ctx.bg.tag 2)] := by decide

/-- not found: the fallback and the completion, both with the completion's context;
    an error is forwarded alone -/
example :
    (runOp (elementAtOrDefaultM 2 42) .sync Ctx.bg
      [.next (Ctx.bg.tag 1) 5, .next (Ctx.bg.tag 2) 6, .complete (Ctx.bg.tag 3), .next Ctx.bg 9]).out
    = [.next (Ctx.bg.tag 3) 42, .complete (Ctx.bg.tag 3)] := by decide
example :
    (runOp (elementAtOrDefaultM 2 42) .sync Ctx.bg
      [.next (Ctx.bg.tag 1) 5, .error (Ctx.bg.tag 3) (.user 2), .next Ctx.bg 9]).out
    = [.error (Ctx.bg.tag 3) (.user 2)] := by decide

end Ro
