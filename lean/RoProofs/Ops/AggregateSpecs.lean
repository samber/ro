/-
  RoProofs.Ops.AggregateSpecs — machine = specification for the machines of
  RoModel/Ops/Aggregate.lean (All, Contains, Find, DefaultIfEmpty, Count, Sum, Min, Max, Clamp,
  Reduce), and the structural theorem `seq_out`: a chain behaves as the composition of its parts.
-/
import RoProofs.Ops.Basic
import RoModel.Spec.Aggregate
namespace Ro
variable {σ σ₁ σ₂ α β γ : Type}

/-! ### All -/

theorem allM_afterV_false (p : Ctx → α → Nat → Bool) (i : Nat) (vs : List (Ctx × α)) :
    (allM p).afterV (false, i) vs = (false, i) := by
  induction vs with
  | nil => rfl
  | cons q ps ih => exact ih

/-- The state of `All` after the values: the verdict is `all` over the values *with their own
    positions*, and the index (= number of predicate calls so far) has advanced over the values up
    to and including the first failing one, and no further. -/
theorem allM_afterV_true (p : Ctx → α → Nat → Bool) (i : Nat) (vs : List (Ctx × α)) :
    (allM p).afterV (true, i) vs =
      ((vs.zipIdx i).all (fun q => p q.1.1 q.1.2 q.2),
       i + (((vs.zipIdx i).takeWhile (fun q => p q.1.1 q.1.2 q.2)).length
            + (if (vs.zipIdx i).all (fun q => p q.1.1 q.1.2 q.2) then 0 else 1))) := by
  induction vs generalizing i with
  | nil => rfl
  | cons q ps ih =>
    show (allM p).afterV (p q.1 q.2 i, i + 1) ps = _
    rw [List.zipIdx_cons, List.all_cons, List.takeWhile_cons]
    cases p q.1 q.2 i
    · exact allM_afterV_false p _ ps
    · rw [ih (i + 1)]
      simp only [Bool.true_and, if_true, List.length_cons]
      congr 1
      omega

/-- the predicate calls of `All` (the final index), in spec terms -/
theorem allM_calls (p : Ctx → α → Nat → Bool) (vs : List (Ctx × α)) :
    ((allM p).afterV (allM p).init vs).2 = Spec.allCalls p vs :=
  (congrArg Prod.snd (allM_afterV_true p 0 vs)).trans (Nat.zero_add _)

theorem all_spec (p : Ctx → α → Nat → Bool) (mode : SrcMode) (sub : Ctx) (raw : List (Notif α)) :
    (runOp (allM p) mode sub raw).out = Spec.all p (values raw) (ending raw) := by
  rw [runOp_out_silent _ _ _ _ rfl (fun _ _ => rfl) (fun _ _ _ => rfl),
    show (allM p).init = (true, 0) from rfl, allM_afterV_true]
  cases ending raw <;> rfl

example : (runOp (allM (fun _ (v : Nat) i => decide (v + i < 10))) .hot Ctx.bg
      [.next (Ctx.bg.tag 1) 3, .next (Ctx.bg.tag 2) 9, .next Ctx.bg 0, .complete (Ctx.bg.tag 7),
       .next Ctx.bg 1, .error Ctx.bg (.user 1)]).out
    = [.next (Ctx.bg.tag 7) false, .complete (Ctx.bg.tag 7)]
  ∧ Spec.all (fun _ (v : Nat) i => decide (v + i < 10))
      [(Ctx.bg.tag 1, 3), (Ctx.bg.tag 2, 9), (Ctx.bg, 0)] (.complete (Ctx.bg.tag 7))
    = [.next (Ctx.bg.tag 7) false, .complete (Ctx.bg.tag 7)] := by decide

/-! ### Contains -/

theorem contains_spec (p : Ctx → α → Nat → Bool) (mode : SrcMode) (sub : Ctx) (raw : List (Notif α)) :
    (runOp (containsM p) mode sub raw).out = Spec.contains p (values raw) (ending raw) := by
  rw [runOp_out_plain _ _ _ _ rfl (fun _ _ => rfl),
    ((containsM p).emitsV_init_indexed (fun i => i) _ rfl (fun _ _ _ => rfl) _).1,
    gate_flatMap_ite _ _ (fun _ => rfl)]
  unfold Spec.contains
  cases (values raw).zipIdx.find? (fun q => p q.1.1 q.1.2 q.2) with
  | some q => rfl
  | none => cases ending raw <;> rfl

example : (runOp (containsM (fun _ (v : Nat) i => decide (v = 2 * i))) .sync Ctx.bg
      [.next (Ctx.bg.tag 1) 3, .next (Ctx.bg.tag 2) 2, .next Ctx.bg 0, .complete (Ctx.bg.tag 7)]).out
    = [.next (Ctx.bg.tag 2) true, .complete (Ctx.bg.tag 2)]
  ∧ Spec.contains (fun _ (v : Nat) i => decide (v = 2 * i))
      [(Ctx.bg.tag 1, 3), (Ctx.bg.tag 2, 2), (Ctx.bg, 0)] (.complete (Ctx.bg.tag 7))
    = [.next (Ctx.bg.tag 2) true, .complete (Ctx.bg.tag 2)]
  ∧ (runOp (containsM (fun _ (v : Nat) i => decide (v = 2 * i))) .hot Ctx.bg
      [.next (Ctx.bg.tag 1) 3, .complete (Ctx.bg.tag 7), .next Ctx.bg 0]).out
    = [.next (Ctx.bg.tag 7) false, .complete (Ctx.bg.tag 7)] := by decide

/-! ### Find -/

theorem find_spec (p : Ctx → α → Nat → Bool) (mode : SrcMode) (sub : Ctx) (raw : List (Notif α)) :
    (runOp (findM p) mode sub raw).out = Spec.find p (values raw) (ending raw) := by
  rw [runOp_out_plain _ _ _ _ rfl (fun _ _ => rfl),
    ((findM p).emitsV_init_indexed (fun i => i) _ rfl (fun _ _ _ => rfl) _).1,
    gate_flatMap_ite _ _ (fun _ => rfl)]
  unfold Spec.find
  cases (values raw).zipIdx.find? (fun q => p q.1.1 q.1.2 q.2) with
  | some q => rfl
  | none => cases ending raw <;> rfl

example : (runOp (findM (fun _ (v : Nat) i => decide (v = 2 * i))) .sync Ctx.bg
      [.next (Ctx.bg.tag 1) 3, .next (Ctx.bg.tag 2) 2, .next Ctx.bg 4, .complete (Ctx.bg.tag 7)]).out
    = [.next (Ctx.bg.tag 2) 2, .complete (Ctx.bg.tag 2)]
  ∧ Spec.find (fun _ (v : Nat) i => decide (v = 2 * i))
      [(Ctx.bg.tag 1, 3), (Ctx.bg.tag 2, 2), (Ctx.bg, 4)] (.complete (Ctx.bg.tag 7))
    = [.next (Ctx.bg.tag 2) 2, .complete (Ctx.bg.tag 2)]
  ∧ (runOp (findM (fun _ (v : Nat) i => decide (v = 2 * i))) .hot Ctx.bg
      [.next (Ctx.bg.tag 1) 3, .error (Ctx.bg.tag 7) (.user 4), .next Ctx.bg 0]).out
    = [.error (Ctx.bg.tag 7) (.user 4)] := by decide

/-! ### DefaultIfEmpty -/

theorem defaultIfEmptyM_afterV (dc : Ctx) (d : α) (s : Bool) (vs : List (Ctx × α)) :
    (defaultIfEmptyM dc d).afterV s vs = (s && vs.isEmpty) := by
  induction vs generalizing s with
  | nil => exact (Bool.and_true s).symm
  -- the first value clears the flag, whatever it was
  | cons q ps ih => exact (ih false).trans (Bool.and_false s).symm

theorem defaultIfEmpty_spec (dc : Ctx) (d : α) (mode : SrcMode) (sub : Ctx) (raw : List (Notif α)) :
    (runOp (defaultIfEmptyM dc d) mode sub raw).out = Spec.defaultIfEmpty dc d (values raw) (ending raw) := by
  rw [runOp_out_values _ _ _ _ rfl (fun _ _ => rfl) (emitsV_pass _ (fun _ _ _ => rfl) _ _) (hasTerm_nexts _),
    defaultIfEmptyM_afterV]
  cases ending raw with
  | never => rfl
  | error c e => rfl
  | complete c =>
    cases values raw with
    | nil => rfl
    | cons q ps => exact congrArg (· ++ [Notif.complete c]) (List.append_nil _).symm

example : (runOp (defaultIfEmptyM (Ctx.bg.tag 9) (5 : Nat)) .sync Ctx.bg
      [.complete (Ctx.bg.tag 7), .next Ctx.bg 0]).out
    = [.next (Ctx.bg.tag 9) 5, .complete (Ctx.bg.tag 7)]
  ∧ Spec.defaultIfEmpty (Ctx.bg.tag 9) (5 : Nat) [] (.complete (Ctx.bg.tag 7))
    = [.next (Ctx.bg.tag 9) 5, .complete (Ctx.bg.tag 7)]
  ∧ (runOp (defaultIfEmptyM (Ctx.bg.tag 9) (5 : Nat)) .hot Ctx.bg
      [.next (Ctx.bg.tag 1) 3, .complete (Ctx.bg.tag 7), .next Ctx.bg 0]).out
    = [.next (Ctx.bg.tag 1) 3, .complete (Ctx.bg.tag 7)]
  ∧ (runOp (defaultIfEmptyM (Ctx.bg.tag 9) (5 : Nat)) .hot Ctx.bg
      [.error (Ctx.bg.tag 7) (.user 1), .complete Ctx.bg]).out
    = [.error (Ctx.bg.tag 7) (.user 1)] := by decide

/-! ### Count -/

theorem count_spec (mode : SrcMode) (sub : Ctx) (raw : List (Notif α)) :
    (runOp (countM (α := α)) mode sub raw).out = Spec.count (values raw) (ending raw) := by
  rw [runOp_out_silent _ _ _ _ rfl (fun _ _ => rfl) (fun _ _ _ => rfl),
    ((countM (α := α)).emitsV_init_indexed (fun i => i) _ rfl (fun _ _ _ => rfl) _).2]
  cases ending raw <;> rfl

example : (runOp (countM (α := Nat)) .hot Ctx.bg
      [.next (Ctx.bg.tag 1) 3, .next (Ctx.bg.tag 2) 9, .complete (Ctx.bg.tag 7), .next Ctx.bg 1]).out
    = [.next (Ctx.bg.tag 7) 2, .complete (Ctx.bg.tag 7)]
  ∧ Spec.count [(Ctx.bg.tag 1, 3), (Ctx.bg.tag 2, 9)] (.complete (Ctx.bg.tag 7))
    = [.next (Ctx.bg.tag 7) 2, .complete (Ctx.bg.tag 7)] := by decide

/-! ### Sum -/

theorem sumM_afterV (s : Int) (vs : List (Ctx × Int)) :
    sumM.afterV s vs = (vs.map (·.2)).foldl (· + ·) s := by
  rw [Machine.afterV_eq_foldl, List.foldl_map]
  rfl

theorem sum_spec (mode : SrcMode) (sub : Ctx) (raw : List (Notif Int)) :
    (runOp sumM mode sub raw).out = Spec.sum (values raw) (ending raw) := by
  rw [runOp_out_silent _ _ _ _ rfl (fun _ _ => rfl) (fun _ _ _ => rfl), sumM_afterV]
  cases ending raw <;> rfl

example : (runOp sumM .hot Ctx.bg
      [.next (Ctx.bg.tag 1) 3, .next (Ctx.bg.tag 2) (-9), .complete (Ctx.bg.tag 7), .next Ctx.bg 1]).out
    = [.next (Ctx.bg.tag 7) (-6), .complete (Ctx.bg.tag 7)]
  ∧ Spec.sum [(Ctx.bg.tag 1, 3), (Ctx.bg.tag 2, -9)] (.complete (Ctx.bg.tag 7))
    = [.next (Ctx.bg.tag 7) (-6), .complete (Ctx.bg.tag 7)] := by decide

/-! ### Min -/

/-- a machine that keeps the best value seen so far, with the context it arrived with -/
theorem afterV_best {β : Type} (m : Machine (Option (Ctx × Int)) Int β) (R : Int → Int → Prop)
    [DecidableRel R]
    (h : ∀ b c v, (m.onNext (some b) c v).1 = if R v b.2 then some (c, v) else some b)
    (b : Ctx × Int) (vs : List (Ctx × Int)) :
    m.afterV (some b) vs = some (vs.foldl (fun m q => if R q.2 m.2 then q else m) b) := by
  induction vs generalizing b with
  | nil => rfl
  | cons q ps ih =>
    rw [Machine.afterV_cons, h, List.foldl_cons]
    split <;> exact ih _

theorem minM_afterV (vs : List (Ctx × Int)) : minM.afterV none vs = Spec.minOf vs := by
  cases vs with
  | nil => rfl
  | cons q ps => exact afterV_best minM (· < ·) (fun _ _ _ => rfl) q ps

theorem min_spec (mode : SrcMode) (sub : Ctx) (raw : List (Notif Int)) :
    (runOp minM mode sub raw).out = Spec.min (values raw) (ending raw) := by
  rw [runOp_out_silent _ _ _ _ rfl (fun _ _ => rfl) (fun _ _ _ => rfl), show minM.init = none from rfl,
    minM_afterV]
  cases ending raw with
  | never => rfl
  | error c e => rfl
  | complete c => unfold Spec.min; cases Spec.minOf (values raw) <;> rfl

example : (runOp minM .hot Ctx.bg
      [.next (Ctx.bg.tag 1) 3, .next (Ctx.bg.tag 2) (-9), .next (Ctx.bg.tag 3) (-9),
       .complete (Ctx.bg.tag 7), .next Ctx.bg (-20)]).out
    = [.next (Ctx.bg.tag 2) (-9), .complete (Ctx.bg.tag 7)]
  ∧ Spec.min [(Ctx.bg.tag 1, 3), (Ctx.bg.tag 2, -9), (Ctx.bg.tag 3, -9)] (.complete (Ctx.bg.tag 7))
    = [.next (Ctx.bg.tag 2) (-9), .complete (Ctx.bg.tag 7)]
  ∧ (runOp minM .sync Ctx.bg [.complete (Ctx.bg.tag 7)]).out = [.complete (Ctx.bg.tag 7)] := by decide

/-! ### Max

  Documented meaning (and full statement, which does NOT hold for the code as written):

      theorem max_spec (mode : SrcMode) (sub : Ctx) (raw : List (Notif Int)) :
          (runOp maxM mode sub raw).out = Spec.max (values raw) (ending raw)

  `Max` as written emits `0` with the nil context when an empty source completes
  (`max_empty_witness`); everywhere else it agrees with `Spec.max` (`max_spec_partial`). -/

theorem maxM_afterV (vs : List (Ctx × Int)) : maxM.afterV none vs = Spec.maxOf vs := by
  cases vs with
  | nil => rfl
  | cons q ps => exact afterV_best maxM (· > ·) (fun _ _ _ => rfl) q ps

theorem max_spec_partial (mode : SrcMode) (sub : Ctx) (raw : List (Notif Int))
    (hside : Spec.maxCovered (values raw) (ending raw) = true) :
    (runOp maxM mode sub raw).out = Spec.max (values raw) (ending raw) := by
  rw [runOp_out_silent _ _ _ _ rfl (fun _ _ => rfl) (fun _ _ _ => rfl), show maxM.init = none from rfl,
    maxM_afterV]
  cases hend : ending raw with
  | never => rfl
  | error c e => rfl
  | complete c =>
    cases hvs : values raw with
    | nil => rw [hend, hvs] at hside; exact absurd hside Bool.false_ne_true
    | cons q ps => rfl

/-- the deviation: an empty source that completes -/
theorem max_empty_out (mode : SrcMode) (sub c : Ctx) :
    (runOp maxM mode sub [.complete c]).out = [.next Ctx.nil 0, .complete c] := by
  cases mode <;> rfl

theorem max_empty_witness (sub c : Ctx) :
    (runOp maxM .sync sub [.complete c]).out ≠ Spec.max [] (.complete c) := by
  rw [max_empty_out]; simp [Spec.max, Spec.maxOf]

example : (runOp maxM .hot Ctx.bg
      [.next (Ctx.bg.tag 1) 3, .next (Ctx.bg.tag 2) 9, .next (Ctx.bg.tag 3) 9,
       .complete (Ctx.bg.tag 7), .next Ctx.bg 20]).out
    = [.next (Ctx.bg.tag 2) 9, .complete (Ctx.bg.tag 7)]
  ∧ Spec.max [(Ctx.bg.tag 1, 3), (Ctx.bg.tag 2, 9), (Ctx.bg.tag 3, 9)] (.complete (Ctx.bg.tag 7))
    = [.next (Ctx.bg.tag 2) 9, .complete (Ctx.bg.tag 7)]
  ∧ Spec.maxCovered [(Ctx.bg.tag 1, (3 : Int))] (.complete (Ctx.bg.tag 7)) = true
  ∧ Spec.maxCovered ([] : List (Ctx × Int)) (.error Ctx.bg (.user 1)) = true
  ∧ Spec.maxCovered ([] : List (Ctx × Int)) (.complete Ctx.bg) = false := by decide

/-! ### Clamp -/

theorem clampVal_eq (lo hi : Int) (h : lo ≤ hi) (v : Int) :
    (if v < lo then lo else if v > hi then hi else v) = Spec.clampVal lo hi v := by
  unfold Spec.clampVal
  by_cases h1 : v < lo
  · rw [if_pos h1, Int.max_eq_left (Int.le_trans (Int.min_le_right hi v) (Int.le_of_lt h1))]
  · by_cases h2 : v > hi
    · rw [if_neg h1, if_pos h2, Int.min_eq_left (Int.le_of_lt h2), Int.max_eq_right h]
    · rw [if_neg h1, if_neg h2, Int.min_eq_right (Int.not_lt.1 h2), Int.max_eq_right (Int.not_lt.1 h1)]

theorem clamp_spec (lo hi : Int) (h : lo ≤ hi) (mode : SrcMode) (sub : Ctx) (raw : List (Notif Int)) :
    (runOp (clampM lo hi) mode sub raw).out = Spec.clamp lo hi (values raw) (ending raw) := by
  refine runOp_out_fwd _ _ _ _ rfl (fun _ _ => rfl) (fun _ _ _ => rfl) (fun _ _ => rfl) ?_
    (hasTerm_map_nextlike _ _ _)
  rw [(clampM lo hi).emitsV_stateless _ (fun _ _ _ => rfl), ← List.map_eq_flatMap]
  simp only [clampVal_eq lo hi h]

example : (runOp (clampM (-2) 5) .hot Ctx.bg
      [.next (Ctx.bg.tag 1) 3, .next (Ctx.bg.tag 2) (-9), .next (Ctx.bg.tag 3) 9,
       .error (Ctx.bg.tag 7) (.user 1), .next Ctx.bg 20]).out
    = [.next (Ctx.bg.tag 1) 3, .next (Ctx.bg.tag 2) (-2), .next (Ctx.bg.tag 3) 5, .error (Ctx.bg.tag 7) (.user 1)]
  ∧ Spec.clamp (-2) 5 [(Ctx.bg.tag 1, 3), (Ctx.bg.tag 2, -9), (Ctx.bg.tag 3, 9)] (.error (Ctx.bg.tag 7) (.user 1))
    = [.next (Ctx.bg.tag 1) 3, .next (Ctx.bg.tag 2) (-2), .next (Ctx.bg.tag 3) 5, .error (Ctx.bg.tag 7) (.user 1)] := by
  decide

/-! ### Reduce -/

theorem reduceM_afterV (f : Ctx → β → α → Nat → Ctx × β) (seed : β) (a : β) (lc : Ctx) (i : Nat)
    (vs : List (Ctx × α)) :
    (reduceM f seed).afterV (a, lc, i) vs =
      (((vs.zipIdx i).foldl (fun (acc : Ctx × β) q => f q.1.1 acc.2 q.1.2 q.2) (lc, a)).2,
       ((vs.zipIdx i).foldl (fun (acc : Ctx × β) q => f q.1.1 acc.2 q.1.2 q.2) (lc, a)).1,
       i + vs.length) := by
  induction vs generalizing a lc i with
  | nil => rfl
  | cons q ps ih => exact (ih _ _ (i + 1)).trans (by rw [Nat.add_right_comm]; rfl)

theorem reduce_spec (f : Ctx → β → α → Nat → Ctx × β) (seed : β) (mode : SrcMode) (sub : Ctx)
    (raw : List (Notif α)) :
    (runOp (reduceM f seed) mode sub raw).out = Spec.reduce f seed (values raw) (ending raw) := by
  rw [runOp_out_silent _ _ _ _ rfl (fun _ _ => rfl) (fun _ _ _ => rfl),
    show (reduceM f seed).init = (seed, Ctx.nil, 0) from rfl, reduceM_afterV]
  cases ending raw with
  | never => rfl
  | error c e => rfl
  -- the context the fold starts from (nil in the machine, the completion's in the specification)
  -- is irrelevant as soon as there is one value
  | complete c => cases values raw <;> rfl

example : (runOp (reduceM (fun c (acc : Nat) (v : Nat) i => (c.tag i, acc * 10 + v)) 7) .hot Ctx.bg
      [.next (Ctx.bg.tag 11) 3, .next (Ctx.bg.tag 12) 4, .complete (Ctx.bg.tag 7), .next Ctx.bg 1]).out
    = [.next ((Ctx.bg.tag 12).tag 1) 734, .complete (Ctx.bg.tag 7)]
  ∧ Spec.reduce (fun c (acc : Nat) (v : Nat) i => (c.tag i, acc * 10 + v)) 7
      [(Ctx.bg.tag 11, 3), (Ctx.bg.tag 12, 4)] (.complete (Ctx.bg.tag 7))
    = [.next ((Ctx.bg.tag 12).tag 1) 734, .complete (Ctx.bg.tag 7)]
  ∧ (runOp (reduceM (fun c (acc : Nat) (v : Nat) i => (c.tag i, acc * 10 + v)) 7) .sync Ctx.bg
      [.complete (Ctx.bg.tag 7), .next Ctx.bg 1]).out
    = [.next (Ctx.bg.tag 7) 7, .complete (Ctx.bg.tag 7)] := by decide

/-! ### A chain behaves as the composition of its parts -/

/-- one notification arriving at the subscriber between the two operators of `Machine.seq` -/
def midStep (m2 : Machine σ₂ β γ) (acc : (σ₂ × Bool) × List (Notif γ)) (n : Notif β) :
    (σ₂ × Bool) × List (Notif γ) :=
  if acc.1.2 then (((m2.step acc.1.1 n).1, !n.isTerminal), acc.2 ++ (m2.step acc.1.1 n).2) else acc

/-- the local `feedMid` of `Machine.seq` -/
def feedMid (m2 : Machine σ₂ β γ) (s : σ₂ × Bool) (ns : List (Notif β)) : (σ₂ × Bool) × List (Notif γ) :=
  ns.foldl (midStep m2) (s, [])

theorem seq_step (m1 : Machine σ₁ α β) (m2 : Machine σ₂ β γ) (s1 : σ₁) (s2 : σ₂) (b : Bool) (x : Notif α) :
    (m1.seq m2).step (s1, s2, b) x =
      (((m1.step s1 x).1, (feedMid m2 (s2, b) (m1.step s1 x).2).1.1, (feedMid m2 (s2, b) (m1.step s1 x).2).1.2),
       (feedMid m2 (s2, b) (m1.step s1 x).2).2) := by
  cases x <;> rfl

theorem midFold_closed (m2 : Machine σ₂ β γ) (s2 : σ₂) (acc : List (Notif γ)) (ns : List (Notif β)) :
    ns.foldl (midStep m2) ((s2, false), acc) = ((s2, false), acc) := by
  induction ns with
  | nil => rfl
  | cons n ns ih => simpa [List.foldl_cons, midStep] using ih

theorem midFold_open (m2 : Machine σ₂ β γ) (s2 : σ₂) (acc : List (Notif γ)) (ns : List (Notif β)) :
    ns.foldl (midStep m2) ((s2, true), acc) =
      ((m2.after s2 (gate ns), !hasTerm ns), acc ++ m2.emits s2 (gate ns)) := by
  induction ns generalizing s2 acc with
  | nil => simp [Machine.after, Machine.emits]
  | cons n ns ih =>
    have hstep : (n :: ns).foldl (midStep m2) ((s2, true), acc) =
        ns.foldl (midStep m2) (((m2.step s2 n).1, !n.isTerminal), acc ++ (m2.step s2 n).2) := rfl
    rw [hstep]
    cases hn : n.isTerminal
    · rw [show (!false) = true from rfl, ih]
      simp [gate, hn, Machine.after, Machine.emits, List.append_assoc]
    · rw [show (!true) = false from rfl, midFold_closed]
      simp [gate, hn, Machine.after, Machine.emits]

/-- what the middle subscriber does with a batch of emissions of `m1` -/
theorem feedMid_open (m2 : Machine σ₂ β γ) (s2 : σ₂) (ns : List (Notif β)) :
    feedMid m2 (s2, true) ns = ((m2.after s2 (gate ns), !hasTerm ns), m2.emits s2 (gate ns)) := by
  unfold feedMid; rw [midFold_open]; simp

theorem feedMid_closed (m2 : Machine σ₂ β γ) (s2 : σ₂) (ns : List (Notif β)) :
    feedMid m2 (s2, false) ns = ((s2, false), []) := midFold_closed m2 s2 [] ns

/-- The emissions of the chain machine from any state: with the middle gate open, they are `m2`'s
    emissions over the gated emissions of `m1`; with the middle gate closed, nothing. -/
theorem seq_emits (m1 : Machine σ₁ α β) (m2 : Machine σ₂ β γ) (s1 : σ₁) (s2 : σ₂) (b : Bool)
    (xs : List (Notif α)) :
    (m1.seq m2).emits (s1, s2, b) xs = if b then m2.emits s2 (gate (m1.emits s1 xs)) else [] := by
  induction xs generalizing s1 s2 b with
  | nil => cases b <;> rfl
  | cons x xs ih =>
    have hstep : (m1.seq m2).emits (s1, s2, b) (x :: xs) =
        ((m1.seq m2).step (s1, s2, b) x).2 ++ (m1.seq m2).emits ((m1.seq m2).step (s1, s2, b) x).1 xs := rfl
    rw [hstep, seq_step]
    cases b
    · rw [feedMid_closed, ih]; rfl
    · rw [feedMid_open, ih]
      have he : m1.emits s1 (x :: xs) = (m1.step s1 x).2 ++ m1.emits (m1.step s1 x).1 xs := rfl
      rw [he]
      cases ht : hasTerm (m1.step s1 x).2
      · simp only [Bool.not_false, if_true]
        rw [gate_append_of_noTerm _ _ ht, gate_of_noTerm _ ht, emits_append]
      · simp only [Bool.not_true, if_true, Bool.false_eq_true, if_false, List.append_nil]
        rw [gate_append_of_term _ _ ht]

/-- **C04, structure.** A chain `source |> m1 |> m2` run as one machine delivers exactly what `m2`
    delivers when it is run on the trace delivered by `m1` — for every source mode, subscription
    context and raw script (legal or not). The source modes used for the two separate runs are
    irrelevant. -/
theorem seq_out_modes (m1 : Machine σ₁ α β) (m2 : Machine σ₂ β γ)
    (h1 : ∀ s c, m1.onSubscribe s c = (s, [])) (h2 : ∀ s c, m2.onSubscribe s c = (s, []))
    (hs1 : m1.subscribes = true) (hs2 : m2.subscribes = true)
    (mode mode1 mode2 : SrcMode) (sub : Ctx) (raw : List (Notif α)) :
    (runOp (m1.seq m2) mode sub raw).out = (runOp m2 mode2 sub (runOp m1 mode1 sub raw).out).out := by
  have hs : (m1.seq m2).subscribes = true := hs1
  have h0 : (m1.seq m2).onSubscribe (m1.seq m2).init sub = ((m1.init, m2.init, true), []) := by
    show (m1.seq m2).onSubscribe (m1.init, m2.init, true) sub = _
    simp [Machine.seq, h1, h2]
  rw [runOp_out _ mode sub raw hs, h0, seq_emits]
  rw [runOp_out m2 mode2 sub _ hs2, h2, runOp_out m1 mode1 sub raw hs1, h1]
  simp [gate_idem]

theorem seq_out (m1 : Machine σ₁ α β) (m2 : Machine σ₂ β γ)
    (h1 : ∀ s c, m1.onSubscribe s c = (s, [])) (h2 : ∀ s c, m2.onSubscribe s c = (s, []))
    (hs1 : m1.subscribes = true) (hs2 : m2.subscribes = true)
    (mode : SrcMode) (sub : Ctx) (raw : List (Notif α)) :
    (runOp (m1.seq m2) mode sub raw).out = (runOp m2 .sync sub (runOp m1 .sync sub raw).out).out :=
  seq_out_modes m1 m2 h1 h2 hs1 hs2 mode .sync .sync sub raw

example : (runOp ((findM (fun _ (v : Int) i => decide (v = 2 * i))).seq (clampM 0 1)) .hot Ctx.bg
      [.next (Ctx.bg.tag 1) 3, .next (Ctx.bg.tag 2) 2, .next Ctx.bg 4, .complete (Ctx.bg.tag 7)]).out
    = [.next (Ctx.bg.tag 2) 1, .complete (Ctx.bg.tag 2)]
  ∧ (runOp (clampM 0 1) .sync Ctx.bg
      (runOp (findM (fun _ (v : Int) i => decide (v = 2 * i))) .sync Ctx.bg
        [.next (Ctx.bg.tag 1) 3, .next (Ctx.bg.tag 2) 2, .next Ctx.bg 4, .complete (Ctx.bg.tag 7)]).out).out
    = [.next (Ctx.bg.tag 2) 1, .complete (Ctx.bg.tag 2)] := by decide

end Ro
