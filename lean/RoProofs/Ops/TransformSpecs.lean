/-
  RoProofs.Ops.TransformSpecs — machine = specification for the transformation family
  (RoModel/Ops/Transform.lean against RoModel/Spec/Transform.lean).
  Pattern: see RoProofs/Ops/Basic.lean.
-/
import RoProofs.Ops.Basic
import RoModel.Spec.Transform
namespace Ro
variable {α β κ : Type}

/-- the gate in list vocabulary: the values before the first terminal, then that terminal -/
private theorem gate_append_takeWhile_find (ns l : List (Notif α)) :
    gate (ns ++ l) = ns.takeWhile (fun n => !n.isTerminal) ++
      (match ns.find? Notif.isTerminal with
       | some t => [t]
       | none => gate l) := by
  induction ns with
  | nil => rfl
  | cons n ns ih =>
    cases hn : n.isTerminal
    · simp [gate, hn, ih]
    · simp [gate, hn]

/-! ### MapTo -/

theorem mapTo_spec (b : β) (mode : SrcMode) (sub : Ctx) (raw : List (Notif α)) :
    (runOp (mapToM (α := α) b) mode sub raw).out = Spec.mapTo b (values raw) (ending raw) := by
  refine runOp_out_fwd _ _ _ _ rfl (fun _ _ => rfl) (fun _ _ _ => rfl) (fun _ _ => rfl) ?_
    (hasTerm_map_nextlike _ _ _)
  rw [(mapToM b).emitsV_stateless _ (fun _ _ _ => rfl), ← List.map_eq_flatMap]

private def ex_mapTo : List (Notif Nat) :=
  [.next (Ctx.bg.tag 1) 5, .next (Ctx.bg.tag 2) 6, .complete (Ctx.bg.tag 3), .next Ctx.bg 7,
   .error Ctx.bg (.user 1)]
example :
    (runOp (mapToM (α := Nat) 'x') .hot Ctx.bg ex_mapTo).out =
      [.next (Ctx.bg.tag 1) 'x', .next (Ctx.bg.tag 2) 'x', .complete (Ctx.bg.tag 3)] ∧
    Spec.mapTo 'x' (values ex_mapTo) (ending ex_mapTo) =
      [.next (Ctx.bg.tag 1) 'x', .next (Ctx.bg.tag 2) 'x', .complete (Ctx.bg.tag 3)] := by
  decide

/-! ### identity -/

theorem id_spec (mode : SrcMode) (sub : Ctx) (raw : List (Notif α)) :
    (runOp (idM (α := α)) mode sub raw).out = Spec.identity (values raw) (ending raw) :=
  runOp_out_fwd _ _ _ _ rfl (fun _ _ => rfl) (fun _ _ _ => rfl) (fun _ _ => rfl)
    (emitsV_pass idM (fun _ _ _ => rfl) _ _) (hasTerm_nexts _)

/-- the identity machine delivers exactly what passes the gate -/
theorem id_spec_gate (mode : SrcMode) (sub : Ctx) (raw : List (Notif α)) :
    (runOp (idM (α := α)) mode sub raw).out = gate raw := by
  rw [id_spec, gate_eq_legal]; rfl

private def ex_id : List (Notif Nat) :=
  [.next (Ctx.bg.tag 1) 5, .error (Ctx.bg.tag 2) (.user 9), .next Ctx.bg 7, .complete Ctx.bg]
example :
    (runOp (idM (α := Nat)) .sync Ctx.bg ex_id).out =
      [.next (Ctx.bg.tag 1) 5, .error (Ctx.bg.tag 2) (.user 9)] ∧
    Spec.identity (values ex_id) (ending ex_id) =
      [.next (Ctx.bg.tag 1) 5, .error (Ctx.bg.tag 2) (.user 9)] := by
  decide

/-! ### Flatten -/

theorem flatten_spec (mode : SrcMode) (sub : Ctx) (raw : List (Notif (List α))) :
    (runOp (flattenM (α := α)) mode sub raw).out = Spec.flatten (values raw) (ending raw) := by
  refine runOp_out_fwd _ _ _ _ rfl (fun _ _ => rfl) (fun _ _ _ => rfl) (fun _ _ => rfl) ?_
    (hasTerm_nexts _)
  rw [flattenM.emitsV_stateless _ (fun _ _ _ => rfl), Spec.nexts, List.map_flatMap]
  simp only [List.map_map]
  rfl

private def ex_flatten : List (Notif (List Nat)) :=
  [.next (Ctx.bg.tag 1) [1, 2], .next (Ctx.bg.tag 2) [], .next (Ctx.bg.tag 3) [3],
   .error (Ctx.bg.tag 4) (.user 0), .next Ctx.bg [9]]
example :
    (runOp (flattenM (α := Nat)) .hot Ctx.bg ex_flatten).out =
      [.next (Ctx.bg.tag 1) 1, .next (Ctx.bg.tag 1) 2, .next (Ctx.bg.tag 3) 3,
       .error (Ctx.bg.tag 4) (.user 0)] ∧
    Spec.flatten (values ex_flatten) (ending ex_flatten) =
      [.next (Ctx.bg.tag 1) 1, .next (Ctx.bg.tag 1) 2, .next (Ctx.bg.tag 3) 3,
       .error (Ctx.bg.tag 4) (.user 0)] := by
  decide

/-! ### StartWith -/

theorem startWith_spec (pre : List α) (mode : SrcMode) (sub : Ctx) (raw : List (Notif α)) :
    (runOp (startWithM pre) mode sub raw).out = Spec.startWith pre sub (values raw) (ending raw) := by
  rw [runOp_out _ _ _ _ rfl, gate_eq_legal raw, emits_legal]
  show gate (pre.map (Notif.next sub) ++ ((startWithM pre).emitsV () _ ++ (startWithM pre).emitsE () _)) = _
  rw [emitsV_pass _ (fun _ _ _ => rfl), emitsE_fwd _ _ _ (fun _ _ _ => rfl) (fun _ _ => rfl),
    ← List.append_assoc]
  refine gate_values_ending _ _ ?_
  rw [hasTerm_append, hasTerm_nexts, hasTerm_map_nextc]
  rfl

private def ex_startWith : List (Notif Nat) :=
  [.next (Ctx.bg.tag 1) 5, .complete (Ctx.bg.tag 2), .next Ctx.bg 7]
example :
    (runOp (startWithM [10, 11]) .sync (Ctx.bg.tag 7) ex_startWith).out =
      [.next (Ctx.bg.tag 7) 10, .next (Ctx.bg.tag 7) 11, .next (Ctx.bg.tag 1) 5, .complete (Ctx.bg.tag 2)] ∧
    Spec.startWith [10, 11] (Ctx.bg.tag 7) (values ex_startWith) (ending ex_startWith) =
      [.next (Ctx.bg.tag 7) 10, .next (Ctx.bg.tag 7) 11, .next (Ctx.bg.tag 1) 5, .complete (Ctx.bg.tag 2)] := by
  decide

/-! ### EndWith -/

theorem endWith_spec (suf : List α) (mode : SrcMode) (sub : Ctx) (raw : List (Notif α)) :
    (runOp (endWithM suf) mode sub raw).out = Spec.endWith suf (values raw) (ending raw) := by
  rw [runOp_out_values _ _ _ _ rfl (fun _ _ => rfl) (emitsV_pass _ (fun _ _ _ => rfl) _ _) (hasTerm_nexts _)]
  cases ending raw with
  | never => rfl
  | error c e => rfl
  | complete c =>
    show _ ++ gate (suf.map (Notif.next c) ++ (Ending.complete c).toList) = _
    rw [gate_values_ending _ _ (hasTerm_map_nextc c suf), ← List.append_assoc]
    rfl

private def ex_endWith : List (Notif Nat) :=
  [.next (Ctx.bg.tag 1) 5, .complete (Ctx.bg.tag 2), .next Ctx.bg 7]
example :
    (runOp (endWithM [10, 11]) .hot Ctx.bg ex_endWith).out =
      [.next (Ctx.bg.tag 1) 5, .next (Ctx.bg.tag 2) 10, .next (Ctx.bg.tag 2) 11, .complete (Ctx.bg.tag 2)] ∧
    Spec.endWith [10, 11] (values ex_endWith) (ending ex_endWith) =
      [.next (Ctx.bg.tag 1) 5, .next (Ctx.bg.tag 2) 10, .next (Ctx.bg.tag 2) 11, .complete (Ctx.bg.tag 2)] := by
  decide
private def ex_endWithErr : List (Notif Nat) :=
  [.next (Ctx.bg.tag 1) 5, .error (Ctx.bg.tag 2) (.user 3), .complete Ctx.bg]
example :
    (runOp (endWithM [10, 11]) .hot Ctx.bg ex_endWithErr).out =
      [.next (Ctx.bg.tag 1) 5, .error (Ctx.bg.tag 2) (.user 3)] ∧
    Spec.endWith [10, 11] (values ex_endWithErr) (ending ex_endWithErr) =
      [.next (Ctx.bg.tag 1) 5, .error (Ctx.bg.tag 2) (.user 3)] := by
  decide

/-! ### OnErrorReturn -/

theorem onErrorReturn_spec (v : α) (mode : SrcMode) (sub : Ctx) (raw : List (Notif α)) :
    (runOp (onErrorReturnM v) mode sub raw).out = Spec.onErrorReturn v (values raw) (ending raw) := by
  rw [runOp_out_values _ _ _ _ rfl (fun _ _ => rfl) (emitsV_pass _ (fun _ _ _ => rfl) _ _) (hasTerm_nexts _)]
  cases ending raw <;> rfl

private def ex_onErrorReturn : List (Notif Nat) :=
  [.next (Ctx.bg.tag 1) 5, .error (Ctx.bg.tag 2) (.user 3), .next Ctx.bg 7, .complete Ctx.bg]
example :
    (runOp (onErrorReturnM 42) .hot Ctx.bg ex_onErrorReturn).out =
      [.next (Ctx.bg.tag 1) 5, .next (Ctx.bg.tag 2) 42, .complete (Ctx.bg.tag 2)] ∧
    Spec.onErrorReturn 42 (values ex_onErrorReturn) (ending ex_onErrorReturn) =
      [.next (Ctx.bg.tag 1) 5, .next (Ctx.bg.tag 2) 42, .complete (Ctx.bg.tag 2)] := by
  decide

/-! ### ThrowIfEmpty -/

theorem throwIfEmptyM_afterV (err : Err) (s : Bool) (vs : List (Ctx × α)) :
    (throwIfEmptyM (α := α) err).afterV s vs = (s || !vs.isEmpty) := by
  induction vs generalizing s with
  | nil => exact (Bool.or_false s).symm
  -- the first value sets the flag, whatever it was
  | cons p ps ih => exact (ih true).trans (Bool.or_true s).symm

theorem throwIfEmpty_spec (err : Err) (mode : SrcMode) (sub : Ctx) (raw : List (Notif α)) :
    (runOp (throwIfEmptyM (α := α) err) mode sub raw).out = Spec.throwIfEmpty err (values raw) (ending raw) := by
  rw [runOp_out_values _ _ _ _ rfl (fun _ _ => rfl) (emitsV_pass _ (fun _ _ _ => rfl) _ _) (hasTerm_nexts _),
    throwIfEmptyM_afterV]
  cases ending raw with
  | never => rfl
  | error c e => rfl
  | complete c => cases values raw <;> rfl

private def ex_throwIfEmpty0 : List (Notif Nat) :=
  [.complete (Ctx.bg.tag 2), .next Ctx.bg 7]
example :
    (runOp (throwIfEmptyM (α := Nat) (.sentinel 5)) .hot Ctx.bg ex_throwIfEmpty0).out =
      [.error (Ctx.bg.tag 2) (.sentinel 5)] ∧
    Spec.throwIfEmpty (.sentinel 5) (values ex_throwIfEmpty0) (ending ex_throwIfEmpty0) =
      [.error (Ctx.bg.tag 2) (.sentinel 5)] := by
  decide
private def ex_throwIfEmpty1 : List (Notif Nat) :=
  [.next (Ctx.bg.tag 1) 5, .complete (Ctx.bg.tag 2), .next Ctx.bg 7]
example :
    (runOp (throwIfEmptyM (α := Nat) (.sentinel 5)) .hot Ctx.bg ex_throwIfEmpty1).out =
      [.next (Ctx.bg.tag 1) 5, .complete (Ctx.bg.tag 2)] ∧
    Spec.throwIfEmpty (.sentinel 5) (values ex_throwIfEmpty1) (ending ex_throwIfEmpty1) =
      [.next (Ctx.bg.tag 1) 5, .complete (Ctx.bg.tag 2)] := by
  decide

/-! ### ToSlice -/

theorem toSliceM_afterV (acc : List α) (vs : List (Ctx × α)) :
    (toSliceM (α := α)).afterV acc vs = acc ++ vs.map (·.2) := by
  induction vs generalizing acc with
  | nil => exact (List.append_nil acc).symm
  | cons p ps ih => exact (ih _).trans (List.append_assoc acc [p.2] _)

theorem toSlice_spec (mode : SrcMode) (sub : Ctx) (raw : List (Notif α)) :
    (runOp (toSliceM (α := α)) mode sub raw).out = Spec.toSlice (values raw) (ending raw) := by
  rw [runOp_out_silent _ _ _ _ rfl (fun _ _ => rfl) (fun _ _ _ => rfl), toSliceM_afterV]
  cases ending raw <;> rfl

private def ex_toSlice : List (Notif Nat) :=
  [.next (Ctx.bg.tag 1) 5, .next (Ctx.bg.tag 1) 6, .complete (Ctx.bg.tag 2), .next Ctx.bg 7]
example :
    (runOp (toSliceM (α := Nat)) .hot Ctx.bg ex_toSlice).out =
      [.next (Ctx.bg.tag 2) [5, 6], .complete (Ctx.bg.tag 2)] ∧
    Spec.toSlice (values ex_toSlice) (ending ex_toSlice) =
      [.next (Ctx.bg.tag 2) [5, 6], .complete (Ctx.bg.tag 2)] := by
  decide

/-! ### Materialize -/

theorem materialize_spec (mode : SrcMode) (sub : Ctx) (raw : List (Notif α)) :
    (runOp (materializeM (α := α)) mode sub raw).out = Spec.materialize (values raw) (ending raw) := by
  rw [runOp_out_values _ _ _ _ rfl (fun _ _ => rfl)
    ((materializeM.emitsV_stateless _ (fun _ _ _ => rfl) _ _).trans List.map_eq_flatMap.symm)
    (hasTerm_map_nextlike _ _ _)]
  cases ending raw <;> rfl

private def ex_materialize : List (Notif Nat) :=
  [.next (Ctx.bg.tag 1) 5, .error (Ctx.bg.tag 2) (.user 3), .next Ctx.bg 7, .complete Ctx.bg]
example :
    (runOp (materializeM (α := Nat)) .hot Ctx.bg ex_materialize).out =
      [.next (Ctx.bg.tag 1) (.next (Ctx.bg.tag 1) 5), .next (Ctx.bg.tag 2) (.error (Ctx.bg.tag 2) (.user 3)),
       .complete (Ctx.bg.tag 2)] ∧
    Spec.materialize (values ex_materialize) (ending ex_materialize) =
      [.next (Ctx.bg.tag 1) (.next (Ctx.bg.tag 1) 5), .next (Ctx.bg.tag 2) (.error (Ctx.bg.tag 2) (.user 3)),
       .complete (Ctx.bg.tag 2)] := by
  decide

/-! ### Dematerialize -/

theorem dematerialize_spec (mode : SrcMode) (sub : Ctx) (raw : List (Notif (Notif α))) :
    (runOp (dematerializeM (α := α)) mode sub raw).out = Spec.dematerialize (values raw) (ending raw) := by
  rw [runOp_out_plain _ _ _ _ rfl (fun _ _ => rfl), emitsE_fwd _ _ _ (fun _ _ _ => rfl) (fun _ _ => rfl),
    dematerializeM.emitsV_stateless (fun c n => [Spec.withCtx c n]) (fun _ _ n => by cases n <;> rfl),
    ← List.map_eq_flatMap, gate_append_takeWhile_find, gate_toList]
  rfl

private def ex_dematerialize : List (Notif (Notif Nat)) :=
  [.next (Ctx.bg.tag 1) (.next Ctx.bg 5), .next (Ctx.bg.tag 2) (.error Ctx.bg (.user 3)),
   .next (Ctx.bg.tag 3) (.next Ctx.bg 6), .complete (Ctx.bg.tag 4)]
example :
    (runOp (dematerializeM (α := Nat)) .hot Ctx.bg ex_dematerialize).out =
      [.next (Ctx.bg.tag 1) 5, .error (Ctx.bg.tag 2) (.user 3)] ∧
    Spec.dematerialize (values ex_dematerialize) (ending ex_dematerialize) =
      [.next (Ctx.bg.tag 1) 5, .error (Ctx.bg.tag 2) (.user 3)] := by
  decide
private def ex_dematerializeSrcErr : List (Notif (Notif Nat)) :=
  [.next (Ctx.bg.tag 1) (.next Ctx.bg 5), .error (Ctx.bg.tag 4) (.user 1), .complete Ctx.bg]
example :
    (runOp (dematerializeM (α := Nat)) .sync Ctx.bg ex_dematerializeSrcErr).out =
      [.next (Ctx.bg.tag 1) 5, .error (Ctx.bg.tag 4) (.user 1)] ∧
    Spec.dematerialize (values ex_dematerializeSrcErr) (ending ex_dematerializeSrcErr) =
      [.next (Ctx.bg.tag 1) 5, .error (Ctx.bg.tag 4) (.user 1)] := by
  decide

/-! ### Materialize ; Dematerialize = what passes the gate -/

theorem matDemat_run (vs : List (Ctx × α)) :
    ((materializeM (α := α)).seq dematerializeM).emitsV ((), (), true) vs = Spec.nexts vs ∧
    ((materializeM (α := α)).seq dematerializeM).afterV ((), (), true) vs = ((), (), true) := by
  induction vs with
  | nil => exact ⟨rfl, rfl⟩
  | cons x ps ih => exact ⟨congrArg (_ :: ·) ih.1, ih.2⟩

theorem materialize_dematerialize_id (mode : SrcMode) (sub : Ctx) (raw : List (Notif α)) :
    (runOp ((materializeM (α := α)).seq dematerializeM) mode sub raw).out = gate raw := by
  rw [runOp_out_values _ _ _ _ rfl (fun _ _ => rfl) (matDemat_run _).1 (hasTerm_nexts _),
    show ((materializeM (α := α)).seq dematerializeM).init = ((), (), true) from rfl, (matDemat_run _).2,
    gate_eq_legal raw]
  cases ending raw <;> rfl

private def ex_roundTrip : List (Notif Nat) :=
  [.next (Ctx.bg.tag 1) 5, .error (Ctx.bg.tag 2) (.user 3), .next Ctx.bg 7, .complete Ctx.bg]
example :
    (runOp ((materializeM (α := Nat)).seq dematerializeM) .hot Ctx.bg ex_roundTrip).out =
      [.next (Ctx.bg.tag 1) 5, .error (Ctx.bg.tag 2) (.user 3)] ∧
    gate ex_roundTrip =
      [.next (Ctx.bg.tag 1) 5, .error (Ctx.bg.tag 2) (.user 3)] := by
  decide

/-! ### Pairwise -/

theorem pairwiseM_emitsV (p : Ctx × α) (vs : List (Ctx × α)) :
    (pairwiseM (α := α)).emitsV (some p.2) vs =
      ((p :: vs).zip vs).map (fun pq => Notif.next pq.2.1 [pq.1.2, pq.2.2]) := by
  induction vs generalizing p with
  | nil => rfl
  | cons q qs ih => exact congrArg (_ :: ·) (ih q)

theorem pairwiseM_emitsV_init (vs : List (Ctx × α)) :
    (pairwiseM (α := α)).emitsV none vs =
      (vs.zip (vs.drop 1)).map (fun pq => Notif.next pq.2.1 [pq.1.2, pq.2.2]) := by
  cases vs with
  | nil => rfl
  | cons q qs => exact pairwiseM_emitsV q qs

theorem pairwise_spec (mode : SrcMode) (sub : Ctx) (raw : List (Notif α)) :
    (runOp (pairwiseM (α := α)) mode sub raw).out = Spec.pairwise (values raw) (ending raw) :=
  runOp_out_fwd _ _ _ _ rfl (fun _ _ => rfl) (fun _ _ _ => rfl) (fun _ _ => rfl)
    (pairwiseM_emitsV_init _) (hasTerm_map_nextlike _ _ _)

private def ex_pairwise : List (Notif Nat) :=
  [.next (Ctx.bg.tag 1) 5, .next (Ctx.bg.tag 2) 6, .next (Ctx.bg.tag 3) 7, .complete (Ctx.bg.tag 4),
   .next Ctx.bg 8]
example :
    (runOp (pairwiseM (α := Nat)) .hot Ctx.bg ex_pairwise).out =
      [.next (Ctx.bg.tag 2) [5, 6], .next (Ctx.bg.tag 3) [6, 7], .complete (Ctx.bg.tag 4)] ∧
    Spec.pairwise (values ex_pairwise) (ending ex_pairwise) =
      [.next (Ctx.bg.tag 2) [5, 6], .next (Ctx.bg.tag 3) [6, 7], .complete (Ctx.bg.tag 4)] := by
  decide

/-! ### Scan -/

/-- the accumulator the machine holds, followed by what it emits from there, is the scan -/
theorem scanM_emitsV (f : Ctx → β → α → Nat → Ctx × β) (seed : β) (c0 : Ctx) (acc : β) (i : Nat)
    (vs : List (Ctx × α)) :
    Notif.next c0 acc :: (scanM f seed).emitsV (acc, i) vs =
      Spec.nexts ((vs.zipIdx i).scanl (fun a q => f q.1.1 a.2 q.1.2 q.2) (c0, acc)) := by
  induction vs generalizing c0 acc i with
  | nil => rfl
  | cons x ps ih =>
    rw [List.zipIdx_cons, List.scanl_cons]
    exact congrArg (_ :: ·) (ih _ _ (i + 1))

theorem scan_spec (f : Ctx → β → α → Nat → Ctx × β) (seed : β) (mode : SrcMode) (sub : Ctx)
    (raw : List (Notif α)) :
    (runOp (scanM f seed) mode sub raw).out = Spec.scan f seed (values raw) (ending raw) :=
  runOp_out_fwd _ _ _ _ rfl (fun _ _ => rfl) (fun _ _ _ => rfl) (fun _ _ => rfl)
    -- `scanM_emitsV` with the seed dropped on both sides
    ((congrArg (List.drop 1) (scanM_emitsV f seed Ctx.bg seed 0 _)).trans List.map_drop.symm)
    (hasTerm_nexts _)

private def ex_scan : List (Notif Nat) :=
  [.next (Ctx.bg.tag 7) 5, .next (Ctx.bg.tag 8) 6, .error (Ctx.bg.tag 9) (.user 1), .next Ctx.bg 8]
example :
    (runOp (scanM (fun c (a : Nat) (v : Nat) i => (c.tag i, a + v)) 100) .hot Ctx.bg ex_scan).out =
      [.next ((Ctx.bg.tag 7).tag 0) 105, .next ((Ctx.bg.tag 8).tag 1) 111, .error (Ctx.bg.tag 9) (.user 1)] ∧
    Spec.scan (fun c (a : Nat) (v : Nat) i => (c.tag i, a + v)) 100 (values ex_scan) (ending ex_scan) =
      [.next ((Ctx.bg.tag 7).tag 0) 105, .next ((Ctx.bg.tag 8).tag 1) 111, .error (Ctx.bg.tag 9) (.user 1)] := by
  decide

/-! ### MapErr -/

/-- the single emission of `mapErrM` for one projection result -/
private def mapErrNotif (r : β × Ctx × Option Err) : Notif β :=
  match r.2.2 with
  | some e => Notif.error r.2.1 e
  | none => Notif.next r.2.1 r.1

private theorem mapErrM_onNext (f : Ctx → α → Nat → β × Ctx × Option Err) (i : Nat) (c : Ctx) (v : α) :
    (mapErrM f).onNext i c v = (i + 1, [mapErrNotif (f c v i)]) := by
  simp only [mapErrM, mapErrNotif]
  cases (f c v i).2.2 <;> rfl

private theorem gate_mapErr {γ : Type} (F : γ → β × Ctx × Option Err) (l : List γ) (e : Ending) :
    gate (l.map (fun q => mapErrNotif (F q)) ++ e.toList) =
      ((l.map F).takeWhile (fun r => r.2.2.isNone)).map (fun r => Notif.next r.2.1 r.1) ++
        (match (l.map F).findSome? (fun r => r.2.2.map (fun err => (r.2.1, err))) with
         | some ce => [Notif.error ce.1 ce.2]
         | none => e.toList) := by
  induction l with
  | nil => exact gate_toList e
  | cons q qs ih =>
    rw [List.map_cons, List.map_cons, List.takeWhile_cons, List.findSome?_cons]
    unfold mapErrNotif
    cases (F q).2.2 with
    | none => exact (gate_cons_next _ _ _).trans (congrArg (_ :: ·) ih)
    | some err => exact gate_cons_error _ _ _

theorem mapErr_spec (f : Ctx → α → Nat → β × Ctx × Option Err) (mode : SrcMode) (sub : Ctx)
    (raw : List (Notif α)) :
    (runOp (mapErrM f) mode sub raw).out = Spec.mapErr f (values raw) (ending raw) := by
  rw [runOp_out_plain _ _ _ _ rfl (fun _ _ => rfl), emitsE_fwd _ _ _ (fun _ _ _ => rfl) (fun _ _ => rfl),
    ((mapErrM f).emitsV_init_indexed (fun i => i) _ rfl (mapErrM_onNext f) _).1, ← List.map_eq_flatMap,
    gate_mapErr]
  rfl

private def ex_mapErr : List (Notif Nat) :=
  [.next (Ctx.bg.tag 7) 5, .next (Ctx.bg.tag 8) 6, .next (Ctx.bg.tag 9) 7, .complete Ctx.bg, .next Ctx.bg 8]
private def ex_mapErrF : Ctx → Nat → Nat → Nat × Ctx × Option Err :=
  fun c v i => (v * 10, c.tag i, if v = 6 then some (Err.user i) else none)
example :
    (runOp (mapErrM ex_mapErrF) .hot Ctx.bg ex_mapErr).out =
      [.next ((Ctx.bg.tag 7).tag 0) 50, .error ((Ctx.bg.tag 8).tag 1) (.user 1)] ∧
    Spec.mapErr ex_mapErrF (values ex_mapErr) (ending ex_mapErr) =
      [.next ((Ctx.bg.tag 7).tag 0) 50, .error ((Ctx.bg.tag 8).tag 1) (.user 1)] := by
  decide

/-! ### ToMap -/

theorem toMapM_afterV [DecidableEq κ] (kv : Ctx → α → Nat → κ × β) (m : List (κ × β)) (i : Nat)
    (vs : List (Ctx × α)) :
    ((toMapM kv).afterV (m, i) vs).1 =
      ((vs.zipIdx i).map (fun q => kv q.1.1 q.1.2 q.2)).foldl (fun m p => assocSet m p.1 p.2) m := by
  induction vs generalizing m i with
  | nil => rfl
  | cons p ps ih => exact ih _ (i + 1)

theorem toMap_spec [DecidableEq κ] (kv : Ctx → α → Nat → κ × β) (mode : SrcMode) (sub : Ctx)
    (raw : List (Notif α)) :
    (runOp (toMapM kv) mode sub raw).out = Spec.toMap kv (values raw) (ending raw) := by
  rw [runOp_out_silent _ _ _ _ rfl (fun _ _ => rfl) (fun _ _ _ => rfl)]
  cases ending raw with
  | never => rfl
  | error c e => rfl
  | complete c =>
    show [Notif.next c ((toMapM kv).afterV ([], 0) (values raw)).1, Notif.complete c] = _
    rw [toMapM_afterV]
    rfl

private def ex_toMap : List (Notif Nat) :=
  [.next (Ctx.bg.tag 1) 4, .next (Ctx.bg.tag 1) 5, .next (Ctx.bg.tag 1) 7, .complete (Ctx.bg.tag 2),
   .next Ctx.bg 8]
example :
    (runOp (toMapM (fun _ (v : Nat) i => (v % 3, i))) .hot Ctx.bg ex_toMap).out =
      [.next (Ctx.bg.tag 2) [(1, 2), (2, 1)], .complete (Ctx.bg.tag 2)] ∧
    Spec.toMap (fun _ (v : Nat) i => (v % 3, i)) (values ex_toMap) (ending ex_toMap) =
      [.next (Ctx.bg.tag 2) [(1, 2), (2, 1)], .complete (Ctx.bg.tag 2)] := by
  decide

private theorem lookup_map_set_ne [DecidableEq κ] (m : List (κ × β)) (k k' : κ) (v : β) (h : k ≠ k') :
    (m.map (fun p => if p.1 = k' then (k', v) else p)).lookup k = m.lookup k := by
  induction m with
  | nil => rfl
  | cons a as ih =>
    rw [List.map_cons, List.lookup_cons, List.lookup_cons, ih]
    by_cases ha : a.1 = k'
    · rw [if_pos ha, ha, beq_false_of_ne h]
    · rw [if_neg ha]

private theorem lookup_map_set_eq [DecidableEq κ] (m : List (κ × β)) (k' : κ) (v : β)
    (h : m.any (fun p => p.1 == k') = true) :
    (m.map (fun p => if p.1 = k' then (k', v) else p)).lookup k' = some v := by
  induction m with
  | nil => cases h
  | cons a as ih =>
    rw [List.map_cons, List.lookup_cons]
    by_cases ha : a.1 = k'
    · rw [if_pos ha, beq_self_eq_true]
    · rw [List.any_cons, beq_false_of_ne ha, Bool.false_or] at h
      rw [if_neg ha, beq_false_of_ne (Ne.symm ha)]
      exact ih h

private theorem lookup_none_of_not_any [DecidableEq κ] (m : List (κ × β)) (k' : κ)
    (h : m.any (fun p => p.1 == k') = false) : m.lookup k' = none :=
  List.lookup_eq_none_iff.2 fun p hp =>
    bne_iff_ne.2 fun e => List.any_eq_false.1 h p hp (beq_iff_eq.2 e.symm)

/-- inserting `(k', v)`: the key `k'` now maps to `v`, every other key is untouched -/
theorem lookup_assocSet [DecidableEq κ] (m : List (κ × β)) (k k' : κ) (v : β) :
    (assocSet m k' v).lookup k = if k = k' then some v else m.lookup k := by
  unfold assocSet
  by_cases hk : k = k'
  · subst hk
    cases h : m.any (fun p => p.1 == k)
    · simp [List.lookup_append, lookup_none_of_not_any m k h]
    · simp [lookup_map_set_eq m k v h]
  · cases h : m.any (fun p => p.1 == k')
    · have hb : (k == k') = false := by simp [hk]
      simp [hk, List.lookup_append, List.lookup_cons, hb]
    · simp [hk, lookup_map_set_ne m k k' v hk]

/-- read from the back, the last pair with key `k` is the first one found -/
private theorem lookup_foldr_assocSet [DecidableEq κ] (r : List (κ × β)) (k : κ) :
    (r.foldr (fun p m => assocSet m p.1 p.2) []).lookup k = (r.find? (fun p => p.1 == k)).map (·.2) := by
  induction r with
  | nil => rfl
  | cons p r ih =>
    rw [List.foldr_cons, lookup_assocSet, List.find?_cons, ih]
    by_cases hp : p.1 = k
    · rw [if_pos hp.symm, beq_iff_eq.2 hp]; rfl
    · rw [if_neg (Ne.symm hp), beq_false_of_ne hp]

/-- the meaning of `ToMap`'s result: looking a key up yields the value of the LAST pair with
    that key (and nothing if no pair has it) -/
theorem assocSet_lookup [DecidableEq κ] (pairs : List (κ × β)) (k : κ) :
    (Spec.buildMap pairs).lookup k = ((pairs.filter (fun p => p.1 == k)).getLast?).map (·.2) := by
  unfold Spec.buildMap
  rw [← List.reverse_reverse pairs, List.foldl_reverse, lookup_foldr_assocSet, List.filter_reverse,
    List.getLast?_reverse, List.head?_filter]

example : (Spec.buildMap [(1, 'a'), (2, 'b'), (1, 'c')]).lookup 1 = some 'c' := by decide

/-! ### BufferWithCount -/

/-- fewer values than needed to fill the buffer: nothing is emitted, the values are kept -/
theorem bufferCountM_acc (size : Nat) (buf : List α) (vs : List (Ctx × α))
    (h : buf.length + vs.length < size) :
    (bufferCountM (α := α) size).emitsV buf vs = [] ∧
    (bufferCountM (α := α) size).afterV buf vs = buf ++ vs.map (·.2) := by
  induction vs generalizing buf with
  | nil => exact ⟨rfl, (List.append_nil buf).symm⟩
  | cons p ps ih =>
    have hlen : (buf ++ [p.2]).length = buf.length + 1 := List.length_append
    rw [List.length_cons] at h
    have hon : (bufferCountM size).onNext buf p.1 p.2 = (buf ++ [p.2], []) :=
      if_neg (by rw [hlen]; omega)
    have ih' := ih (buf ++ [p.2]) (by rw [hlen]; omega)
    rw [Machine.emitsV_cons, Machine.afterV_cons, hon, ih'.1, ih'.2, List.append_assoc]
    exact ⟨rfl, rfl⟩

/-- exactly the values needed to fill the buffer: all but the last are kept, the last one flushes
    the chunk, with its context -/
theorem bufferCountM_fill (size : Nat) (buf : List α) (vs : List (Ctx × α))
    (h : buf.length + vs.length = size) (hne : vs ≠ []) :
    (bufferCountM (α := α) size).emitsV buf vs =
      (match vs.getLast? with
       | some p => [Notif.next p.1 (buf ++ vs.map (·.2))]
       | none => []) ∧
    (bufferCountM (α := α) size).afterV buf vs = [] := by
  obtain ⟨ws, p, rfl⟩ : ∃ ws p, vs = ws ++ [p] := ⟨_, _, (List.dropLast_concat_getLast hne).symm⟩
  rw [List.length_append, List.length_singleton, ← Nat.add_assoc] at h
  have hacc := bufferCountM_acc size buf ws (by omega)
  have hon : (bufferCountM size).onNext (buf ++ ws.map (·.2)) p.1 p.2 =
      ([], [Notif.next p.1 (buf ++ ws.map (·.2) ++ [p.2])]) :=
    if_pos (by rw [List.length_append, List.length_append, List.length_map]; exact Nat.le_of_eq h.symm)
  rw [((bufferCountM size).emitsV_append buf ws [p]).1, ((bufferCountM size).emitsV_append buf ws [p]).2,
    hacc.1, hacc.2, Machine.emitsV_cons, Machine.afterV_cons, hon, List.getLast?_concat, List.map_append,
    ← List.append_assoc buf]
  exact ⟨rfl, rfl⟩
private theorem chunk_succ {γ : Type} (size : Nat) (l : List γ) (j : Nat) :
    Spec.chunk size l (j + 1) = Spec.chunk size (l.drop size) j := by
  unfold Spec.chunk
  rw [List.drop_drop]
  congr 2
  rw [Nat.succ_mul]; omega

private theorem fullChunks_step (size : Nat) (hs : 0 < size) (vs : List (Ctx × α)) (h : size ≤ vs.length) :
    Spec.fullChunks size vs =
      (match (vs.take size).getLast? with
       | some p => [Notif.next p.1 ((vs.take size).map (·.2))]
       | none => []) ++ Spec.fullChunks size (vs.drop size) := by
  unfold Spec.fullChunks
  rw [Nat.div_eq_sub_div hs h, List.range_succ_eq_map, List.flatMap_cons, List.flatMap_map, List.length_drop]
  have h0 : Spec.chunk size vs 0 = vs.take size := by simp [Spec.chunk]
  rw [h0]
  congr 1
  simp only [Nat.succ_eq_add_one, chunk_succ]

private theorem remainder_step {γ : Type} (size : Nat) (hs : 0 < size) (l : List γ) (h : size ≤ l.length) :
    Spec.remainder size l = Spec.remainder size (l.drop size) := by
  unfold Spec.remainder
  rw [Nat.div_eq_sub_div hs h, List.drop_drop, List.length_drop, Nat.succ_mul]
  congr 1
  omega

theorem bufferCountM_run (size : Nat) (hs : 0 < size) (n : Nat) (vs : List (Ctx × α)) (hn : vs.length < n) :
    (bufferCountM (α := α) size).emitsV [] vs = Spec.fullChunks size vs ∧
    (bufferCountM (α := α) size).afterV [] vs = (Spec.remainder size vs).map (·.2) := by
  induction n generalizing vs with
  | zero => omega
  | succ n ih =>
    by_cases hlt : vs.length < size
    · have hacc := bufferCountM_acc size [] vs (by rwa [List.length_nil, Nat.zero_add])
      unfold Spec.fullChunks Spec.remainder
      rw [hacc.1, hacc.2, Nat.div_eq_of_lt hlt, Nat.zero_mul, List.drop_zero]
      exact ⟨rfl, rfl⟩
    · have hge : size ≤ vs.length := Nat.le_of_not_lt hlt
      have hsplit := (bufferCountM (α := α) size).emitsV_append [] (vs.take size) (vs.drop size)
      rw [List.take_append_drop] at hsplit
      have htake : (vs.take size).length = size := List.length_take_of_le hge
      have hfill := bufferCountM_fill size [] (vs.take size) (by rw [List.length_nil, Nat.zero_add, htake])
        (List.ne_nil_of_length_pos (by rwa [htake]))
      have hrec := ih (vs.drop size) (by rw [List.length_drop]; omega)
      rw [hsplit.1, hsplit.2, hfill.1, hfill.2, hrec.1, hrec.2,
        fullChunks_step size hs vs hge, remainder_step size hs vs hge]
      exact ⟨rfl, rfl⟩

theorem bufferCount_spec (size : Nat) (hs : 0 < size) (mode : SrcMode) (sub : Ctx) (raw : List (Notif α)) :
    (runOp (bufferCountM (α := α) size) mode sub raw).out = Spec.bufferCount size (values raw) (ending raw) := by
  have hrun := bufferCountM_run size hs _ (values raw) (Nat.lt_succ_self _)
  have h2 : (bufferCountM (α := α) size).afterV (bufferCountM size).init (values raw) = _ := hrun.2
  rw [runOp_out_values _ _ _ _ rfl (fun _ _ => rfl) hrun.1
    (hasTerm_flatMap _ (fun j => by cases (Spec.chunk size (values raw) j).getLast? <;> rfl) _), h2]
  unfold Spec.bufferCount
  cases ending raw with
  | never => rfl
  | error c e => rfl
  | complete c => cases Spec.remainder size (values raw) <;> rfl

private def ex_bufferCount : List (Notif Nat) :=
  [.next (Ctx.bg.tag 1) 1, .next (Ctx.bg.tag 2) 2, .next (Ctx.bg.tag 3) 3, .next (Ctx.bg.tag 4) 4,
   .next (Ctx.bg.tag 5) 5, .complete (Ctx.bg.tag 6), .next Ctx.bg 9]
example :
    (runOp (bufferCountM (α := Nat) 2) .hot Ctx.bg ex_bufferCount).out =
      [.next (Ctx.bg.tag 2) [1, 2], .next (Ctx.bg.tag 4) [3, 4], .next (Ctx.bg.tag 6) [5],
       .complete (Ctx.bg.tag 6)] ∧
    Spec.bufferCount 2 (values ex_bufferCount) (ending ex_bufferCount) =
      [.next (Ctx.bg.tag 2) [1, 2], .next (Ctx.bg.tag 4) [3, 4], .next (Ctx.bg.tag 6) [5],
       .complete (Ctx.bg.tag 6)] := by
  decide

/-- DEVIATION from the documentation: `BufferWithCount`'s doc comment promises that the pending
    buffer is flushed before an error; the code (and so `Spec.bufferCount`, which the machine
    satisfies by `bufferCount_spec`) forwards the error without flushing.  On the script
    `1, 2, 3, error` with size 2 the documented reading delivers `[3]` before the error, the
    code does not. The documented statement would be
      `(runOp (bufferCountM size) mode sub raw).out = Spec.bufferCountDoc size (values raw) (ending raw)`. -/
theorem bufferCount_doc_deviation :
    (runOp (bufferCountM (α := Nat) 2) .sync Ctx.bg
        [.next Ctx.bg 1, .next Ctx.bg 2, .next Ctx.bg 3, .error (Ctx.bg.tag 1) (.user 0)]).out
      = [.next Ctx.bg [1, 2], .error (Ctx.bg.tag 1) (.user 0)] ∧
    Spec.bufferCount 2 [(Ctx.bg, 1), (Ctx.bg, 2), (Ctx.bg, 3)] (.error (Ctx.bg.tag 1) (.user 0))
      = [.next Ctx.bg [1, 2], .error (Ctx.bg.tag 1) (.user 0)] ∧
    Spec.bufferCountDoc 2 [(Ctx.bg, 1), (Ctx.bg, 2), (Ctx.bg, 3)] (.error (Ctx.bg.tag 1) (.user 0))
      = [.next Ctx.bg [1, 2], .next (Ctx.bg.tag 1) [3], .error (Ctx.bg.tag 1) (.user 0)] ∧
    Spec.bufferCount 2 [(Ctx.bg, 1), (Ctx.bg, 2), (Ctx.bg, 3)] (.error (Ctx.bg.tag 1) (.user 0))
      ≠ Spec.bufferCountDoc 2 [(Ctx.bg, 1), (Ctx.bg, 2), (Ctx.bg, 3)] (.error (Ctx.bg.tag 1) (.user 0)) := by
  decide +kernel

/-- where there is nothing pending (or no error) the two readings agree -/
theorem bufferCount_doc_agree (size : Nat) (vs : List (Ctx × α)) (e : Ending)
    (h : (∃ c err, e = .error c err) → (Spec.remainder size vs).isEmpty = true) :
    Spec.bufferCount size vs e = Spec.bufferCountDoc size vs e := by
  cases e with
  | never => rfl
  | complete c => rfl
  | error c err =>
    have := h ⟨c, err, rfl⟩
    simp [Spec.bufferCount, Spec.bufferCountDoc, this, Ending.toList]

end Ro
