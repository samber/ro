/-
  RoProofs.Lockset — the lockset theorem of C13.

  (1) `inv_run`: the invariant (each lock has at most one holder; a thread at an `under ls` access
      holds `ls`) is preserved by every step, hence holds after every schedule, for any number of
      threads — induction over the schedule.
  (2) `no_data_race`: if every conflicting pair of accesses that is not ordered by one of the named
      structural rules is (both atomic) ∨ (shares a lock), then no schedule reaches a data race in a
      state that respects the named orderings.
  (3) the bridge to the table: `Ro.LockFacts.pairOk` (Bool, evaluated by the kernel on the
      regenerated rows) implies the hypothesis of (2) for the accesses of one location. A table with
      listed exceptions does not give that hypothesis for all pairs, so `table_race_free` applies the
      per-pair step of (2), `atomic_of_pair`, to the pair in question.
-/
import RoModel.Lockset
import RoModel.LocksetPreds
namespace Ro.Lockset

section
variable {T L A Loc : Type} [DecidableEq T] (acc : A → Acc Loc L)

omit [DecidableEq T] in
theorem inv_init : Inv acc (State.init : State T L A) := by
  constructor
  · intro t u l h _; exact absurd h (by simp [State.init])
  · intro t a h; simp [State.init] at h

theorem inv_step {s s' : State T L A} {x : Action T L A} (h : Step acc s x s') (hi : Inv acc s) : Inv acc s' := by
  obtain ⟨hex, hat⟩ := hi
  cases h with
  | acquire t l free =>
    constructor
    · intro t1 u1 l1 h1 h2
      simp only at h1 h2
      rcases h1 with ⟨rfl, rfl⟩ | h1
      · rcases h2 with ⟨rfl, _⟩ | h2
        · rfl
        · exact absurd h2 (free u1)
      · rcases h2 with ⟨rfl, rfl⟩ | h2
        · exact absurd h1 (free t1)
        · exact hex _ _ _ h1 h2
    · intro t1 a1 hc l1 hl
      exact Or.inr (hat t1 a1 hc l1 hl)
  | release t l own notNeeded =>
    constructor
    · intro t1 u1 l1 h1 h2
      exact hex _ _ _ h1.1 h2.1
    · intro t1 a1 hc l1 hl
      refine ⟨hat t1 a1 hc l1 hl, ?_⟩
      rintro ⟨rfl, rfl⟩
      exact notNeeded a1 hc hl
  | enter t a idle holds =>
    constructor
    · exact hex
    · intro t1 a1 hc l1 hl
      simp only at hc
      by_cases e : t1 = t
      · subst e
        simp at hc
        subst hc
        exact holds l1 hl
      · simp [e] at hc
        exact hat t1 a1 hc l1 hl
  | leave t =>
    constructor
    · exact hex
    · intro t1 a1 hc l1 hl
      simp only at hc
      by_cases e : t1 = t
      · subst e; simp at hc
      · simp [e] at hc
        exact hat t1 a1 hc l1 hl

theorem inv_run {s s' : State T L A} {xs : List (Action T L A)} (h : Run acc s xs s') (hi : Inv acc s) : Inv acc s' := by
  induction h with
  | nil s => exact hi
  | cons hstep _ ih => exact ih (inv_step acc hstep hi)

omit [DecidableEq T] in
/-- two different threads are never simultaneously at accesses that need a common lock -/
theorem common_lock_excludes {s : State T L A} (hi : Inv acc s) {t u : T} {a b : A} (hne : t ≠ u)
    (ha : s.cur t = some a) (hb : s.cur u = some b) {l : L} (hla : l ∈ (acc a).locks) (hlb : l ∈ (acc b).locks) : False :=
  hne (hi.1 t u l (hi.2 t a ha l hla) (hi.2 u b hb l hlb))

/-- the lockset argument for one pair: after any schedule, two different threads at accesses that
    are both atomic or share a lock are at atomic accesses (a shared lock has one holder) -/
theorem atomic_of_pair {xs : List (Action T L A)} {s : State T L A} (hrun : Run acc State.init xs s)
    {t u : T} {a b : A} (hne : t ≠ u) (ha : s.cur t = some a) (hb : s.cur u = some b)
    (h : ((acc a).isAtomic ∧ (acc b).isAtomic) ∨ ∃ l, l ∈ (acc a).locks ∧ l ∈ (acc b).locks) :
    (acc a).isAtomic ∧ (acc b).isAtomic :=
  h.elim id fun ⟨_, hla, hlb⟩ =>
    (common_lock_excludes acc (inv_run acc hrun (inv_init acc)) hne ha hb hla hlb).elim

/-- **The lockset theorem.** For any number of threads and any schedule: if every conflicting pair of
    accesses that can run concurrently (is not ordered by a named structural rule) is both atomic or
    shares a common lock, then no reachable state that respects the named orderings has a data race. -/
theorem no_data_race (o : Orderings A)
    (hpairs : ∀ a b, Conflict (acc a) (acc b) → ¬ o.ordered a b →
      ((acc a).isAtomic ∧ (acc b).isAtomic) ∨ ∃ l, l ∈ (acc a).locks ∧ l ∈ (acc b).locks)
    (xs : List (Action T L A)) (s : State T L A) (hrun : Run acc State.init xs s) (hresp : Respects o s) :
    ¬ Race acc s := by
  rintro ⟨t, u, a, b, hne, ha, hb, hconf, hna⟩
  exact hna (atomic_of_pair acc hrun hne ha hb (hpairs a b hconf (hresp t u a b hne ha hb)))

/-- without structural orderings: the plain lockset discipline -/
def noOrderings : Orderings A := ⟨fun _ _ => False, fun _ _ => False, fun _ _ => False, fun _ _ => False⟩

theorem no_data_race_lockset
    (hpairs : ∀ a b, Conflict (acc a) (acc b) →
      ((acc a).isAtomic ∧ (acc b).isAtomic) ∨ ∃ l, l ∈ (acc a).locks ∧ l ∈ (acc b).locks)
    (xs : List (Action T L A)) (s : State T L A) (hrun : Run acc State.init xs s) : ¬ Race acc s := by
  refine no_data_race acc noOrderings (fun a b hc _ => hpairs a b hc) xs s hrun ?_
  intro t u a b _ _ _ h
  simp [Orderings.ordered, noOrderings] at h

end

open Ro.LockFacts

/-- an access of the table: the name of its location and its row -/
abbrev TAcc := String × Access

def syncOf : Prot → Sync Nat
  | .atomic => .atomic
  | .under ls => .under ls
  | _ => .plain

def tacc (x : TAcc) : Acc String Nat := { loc := x.1, write := x.2.write, sync := syncOf x.2.prot }

/-- the named orderings, read off the rows (`Ro.LockFacts.rule…`): they relate accesses of one location -/
def tableOrderings : Orderings TAcc where
  initBeforePublication x y := x.1 = y.1 ∧ ruleInit x.2 y.2 = true
  subscribeBodyBeforeTeardown x y := x.1 = y.1 ∧ ruleBodyTeardown x.2 y.2 = true
  sameSequentialSource x y := x.1 = y.1 ∧ ruleSameSource x.2 y.2 = true
  awaitedSourceBeforeContinuation x y := x.1 = y.1 ∧ ruleAwaited x.2 y.2 = true

theorem tacc_locks (x : TAcc) : (tacc x).locks = x.2.prot.lockList := by
  obtain ⟨n, r⟩ := x
  cases h : r.prot <;> simp [tacc, syncOf, Acc.locks, Prot.lockList, h]

theorem tacc_atomic (x : TAcc) : (tacc x).isAtomic ↔ x.2.prot.isAtomic = true := by
  obtain ⟨n, r⟩ := x
  cases h : r.prot <;> simp [tacc, syncOf, Acc.isAtomic, Prot.isAtomic, h]

/-- what `pairOk` means for two accesses of one location -/
theorem pairOk_sound (n : String) (a b : Access) (h : pairOk a b = true)
    (hconf : Conflict (tacc (n, a)) (tacc (n, b))) (hno : ¬ tableOrderings.ordered (n, a) (n, b)) :
    ((tacc (n, a)).isAtomic ∧ (tacc (n, b)).isAtomic) ∨ ∃ l, l ∈ (tacc (n, a)).locks ∧ l ∈ (tacc (n, b)).locks := by
  have hw : (a.write || b.write) = true := by
    rcases hconf.2 with h1 | h1 <;> simp [tacc] at h1 <;> simp [h1]
  have hord : ordered a b = false := by
    cases ho : ordered a b with
    | false => rfl
    | true =>
      exfalso
      apply hno
      simp only [ordered, Bool.or_eq_true] at ho
      rcases ho with ((h1 | h1) | h1) | h1
      · exact Or.inl ⟨rfl, h1⟩
      · exact Or.inr (Or.inl ⟨rfl, h1⟩)
      · exact Or.inr (Or.inr (Or.inl ⟨rfl, h1⟩))
      · exact Or.inr (Or.inr (Or.inr ⟨rfl, h1⟩))
  simp only [pairOk, hw, hord, Bool.not_true, Bool.false_or, Bool.or_eq_true] at h
  rcases h with h | h
  · left
    simp only [bothAtomic, Bool.and_eq_true] at h
    exact ⟨(tacc_atomic _).2 h.1, (tacc_atomic _).2 h.2⟩
  · right
    simp only [commonLock, List.any_eq_true] at h
    obtain ⟨l, hl, hl'⟩ := h
    refine ⟨l, ?_, ?_⟩
    · rw [tacc_locks]; exact hl
    · rw [tacc_locks]; simpa using hl'

/-! ### the per-pair predicate in the form the kernel evaluates

`pairOk` is symmetric and holds of two reads, so it is enough to compare the rows that write with
all rows; and of its disjuncts the synchronisation ones are cheap, the structural rules (matches on
two contexts) dear, so they come last. -/

theorem sameSequential_eq {c d : EmCtx} (h : c.sameSequential d = true) : c = d := by
  unfold EmCtx.sameSequential at h
  split at h <;> first | rw [eq_of_beq h] | cases h

theorem sameSequential_symm (c d : EmCtx) : c.sameSequential d = d.sameSequential c := by
  rw [Bool.eq_iff_iff]
  constructor <;> intro h <;> have e := sameSequential_eq h <;> subst e <;> exact h

theorem ordered_symm (a b : Access) : ordered a b = ordered b a := by
  have hw : ruleAwaited a b = ruleAwaited b a := by
    simp only [ruleAwaited, Bool.and_or_distrib_left]
    ac_rfl
  simp only [ordered, ruleInit, ruleBodyTeardown, ruleSameSource, sameSequential_symm a.ctx, hw,
    Bool.or_comm a.prot.isInit, Bool.and_comm a.ctx.inBodyOrTeardown]

theorem commonLock_symm (a b : Access) : commonLock a b = commonLock b a := by
  rw [Bool.eq_iff_iff]
  simp only [commonLock, List.any_eq_true, List.contains_iff_mem]
  constructor <;> rintro ⟨x, h1, h2⟩ <;> exact ⟨x, h2, h1⟩

theorem pairOk_symm (a b : Access) : pairOk a b = pairOk b a := by
  rw [pairOk, pairOk, ordered_symm, commonLock_symm, bothAtomic, bothAtomic, Bool.or_comm a.write, Bool.and_comm a.prot.isAtomic]

theorem pairOk_reads {a b : Access} (ha : a.write = false) (hb : b.write = false) : pairOk a b = true := by
  simp [pairOk, ha, hb]

theorem pairOk_write {a b : Access} (ha : a.write = true) :
    pairOk a b = (bothAtomic a b || commonLock a b || ordered a b) := by
  simp only [pairOk, ha, Bool.true_or, Bool.not_true, Bool.false_or]
  rw [Bool.or_assoc, Bool.or_comm]

def locCheck (l : Loc) : Bool :=
  l.rows.all labelOk &&
    l.rows.all fun a => !a.write || l.rows.all fun b => bothAtomic a b || commonLock a b || ordered a b

theorem locCheck_eq (l : Loc) : locCheck l = locOk l := by
  rw [Bool.eq_iff_iff]
  simp only [locCheck, locOk, Bool.and_eq_true, List.all_eq_true]
  refine and_congr_right fun _ => ⟨fun h a ha b hb => ?_, fun h a ha => ?_⟩
  · cases hwa : a.write with
    | true => exact pairOk_write hwa ▸ List.all_eq_true.1 (hwa ▸ h a ha) b hb
    | false =>
      cases hwb : b.write with
      | true => exact pairOk_symm b a ▸ pairOk_write hwb ▸ List.all_eq_true.1 (hwb ▸ h b hb) a ha
      | false => exact pairOk_reads hwa hwb
  · cases hwa : a.write with
    | true => exact List.all_eq_true.2 fun b hb => pairOk_write hwa ▸ h a ha b hb
    | false => rfl

/-- `tableOk`, looking at the name of a location only when its rows fail: comparing strings is
    dear for the kernel -/
def tableCheck (known : List String) (t : List Loc) : Bool :=
  t.all fun l => locCheck l || known.contains l.name

theorem tableCheck_eq (known : List String) (t : List Loc) : tableCheck known t = tableOk known t := by
  simp only [tableCheck, tableOk, locCheck_eq, Bool.or_comm]

/-- **C13 over the table.** Run the machine with any number of threads and any schedule over the
    accesses of a table `t` whose locations outside `known` satisfy the per-pair predicate. In every
    reachable state that respects the named orderings, two different threads that are at recorded
    accesses `a`, `b` of one location `l ∉ known`, one of them a write, are both at atomic accesses:
    no data race among the recorded accesses of the locations that are not listed. -/
theorem table_race_free {T : Type} [DecidableEq T] (known : List String) (t : List Loc)
    (hok : tableOk known t = true)
    (xs : List (Action T Nat TAcc)) (s : State T Nat TAcc) (hrun : Run tacc State.init xs s)
    (hresp : Respects tableOrderings s)
    (l : Loc) (hl : l ∈ t) (hk : known.contains l.name = false)
    (th u : T) (a b : Access) (hne : th ≠ u) (ha : a ∈ l.rows) (hb : b ∈ l.rows)
    (hca : s.cur th = some (l.name, a)) (hcb : s.cur u = some (l.name, b))
    (hw : a.write = true ∨ b.write = true) :
    a.prot.isAtomic = true ∧ b.prot.isAtomic = true := by
  have hloc : locOk l = true := by
    have := (List.all_eq_true.1 hok) l hl
    rw [hk] at this
    simpa using this
  have hp : pairOk a b = true := by
    simp only [locOk, Bool.and_eq_true, List.all_eq_true] at hloc
    exact hloc.2 a ha b hb
  have hconf : Conflict (tacc (l.name, a)) (tacc (l.name, b)) := ⟨rfl, by simpa [tacc] using hw⟩
  have hat := atomic_of_pair tacc hrun hne hca hcb
    (pairOk_sound l.name a b hp hconf (hresp th u _ _ hne hca hcb))
  exact ⟨(tacc_atomic _).1 hat.1, (tacc_atomic _).1 hat.2⟩

end Ro.Lockset
