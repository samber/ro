/-
  RoProofs.MultiB.WindowWhen — WindowWhen delivers one window per segment of the source's values
  (partitioned at the boundary ticks), every window carrying its segment and completing at the tick
  that closes it or when the output ends, for every pair of scripts and every interleaving.
-/
import RoProofs.MultiB.BufferWhen
import RoModel.MultiB.WindowWhen
namespace Ro.MultiB
open Spec
variable {α : Type}

theorem windowWhen_allHot : AllHot (windowWhenM (α := α)) where
  start_subs := rfl
  step_subs := by
    intro st i x
    cases x <;> rcases i with _ | i <;> rfl
  hot := rfl
  start_gated := rfl
  step_gated := by
    intro st i x
    cases x <;> rcases i with _ | i <;> try rfl
    all_goals
      show gateEv (winFlush st false).2.1 = (winFlush st false).2.1
      unfold winFlush
      split
      · rfl
      · rfl

/-! ### the view of a downstream trace made of window ids -/

theorem viewOut_append (ws : List (Subj α)) (a b : List (Ev Nat)) :
    viewOut ws (a ++ b) = viewOut ws a ++ viewOut ws b := by
  simp [viewOut]

/-- windows `0, 1, …, n-1` emitted in order: the view lists what every recorder received -/
theorem viewOut_range (ws : List (Subj α)) :
    viewOut ws ((List.range ws.length).map .next) = ws.map (fun w => .next w.rcv) := by
  apply List.ext_getElem
  · simp [viewOut]
  · intro i h1 h2
    have hi : i < ws.length := by simpa [viewOut] using h1
    simp [viewOut, Ev.map, hi]

/-- a window whose recorder has received `r` and that has completed -/
def closedS (r : List (Ev α)) : Subj α := { status := .completed, attached := false, queue := [], rcv := r }
/-- the current window, its recorder attached, having received `r` -/
def openS (r : List (Ev α)) : Subj α := { status := .active, attached := true, queue := [], rcv := r }

theorem view_wins (done : List (List (Ev α))) (last : Subj α) :
    viewOut (done.map closedS ++ [last]) ((List.range (done.length + 1)).map .next)
      = done.map .next ++ [.next last.rcv] := by
  have h := viewOut_range (done.map closedS ++ [last])
  have hl : (done.map closedS ++ [last]).length = done.length + 1 := by simp
  rw [hl] at h
  rw [h]
  simp [closedS, Function.comp_def]

/-- what the downstream sees of the current window when the arrivals end or at the first terminal -/
def wwEnd (buf : List α) : Option (Ev α) → List (Ev (List (Ev α)))
  | none => [.next (openWin buf)]
  | some (.error e) => [.next (closedWin buf), .error e]
  | some _ => [.next (closedWin buf), .complete]

/-- once stopped, nothing changes any more -/
theorem windowWhen_stopped (l : Arr α) (b : Acc (WinSt α) Nat) (hb : b.running = false) :
    l.foldl (windowWhenM (α := α)).absStep b = b := by
  induction l with
  | nil => rfl
  | cons q l ih => rw [List.foldl_cons, absStep_stopped _ _ _ hb]; exact ih

theorem modLast_snoc (ws : List (Subj α)) (w : Subj α) (c : Bool) (f : Subj α → Subj α × List (Ev α)) :
    WinSt.modLast ⟨ws ++ [w], c⟩ f = (⟨ws ++ [(f w).1], c⟩, (f w).2) := by
  simp [WinSt.modLast]

/-- the closed windows `done`, and the current one with the values `buf` -/
def winsOf (done : List (List (Ev α))) (buf : List α) : WinSt α := ⟨done.map closedS ++ [openS (openWin buf)], false⟩

theorem ww_value (done : List (List (Ev α))) (buf : List α) (v : α) :
    (windowWhenM (α := α)).step (winsOf done buf) 0 (.next v) = { st := winsOf done (buf ++ [v]) } := by
  simp [windowWhenM, windowWhenStep, winsOf, modLast_snoc, Subj.next, openS, openWin]

theorem ww_tick (done : List (List (Ev α))) (buf : List α) (i : Nat) (v : α) :
    (windowWhenM (α := α)).step (winsOf done buf) (i + 1) (.next v) =
      { st := winsOf (done ++ [closedWin buf]) [], emits := [.next (done.length + 1)] } := by
  simp [windowWhenM, windowWhenStep, winFlush, winsOf, modLast_snoc, Subj.complete, Subj.subscribe, openS, closedS, openWin, closedWin]

theorem ww_end (done : List (List (Ev α))) (buf : List α) (i : Nat) (t : Ev α) (ht : t.isTerminal = true) :
    (windowWhenM (α := α)).step (winsOf done buf) i t =
      { st := ⟨done.map closedS ++ [closedS (closedWin buf)], true⟩, emits := [t.map fun _ => 0] } := by
  cases t <;> rcases i with _ | i <;>
    simp [windowWhenM, windowWhenStep, winFlush, winsOf, modLast_snoc, Subj.complete, openS, closedS, openWin, closedWin, Ev.map] at ht ⊢

theorem windowWhen_abs_running (arr : Arr α) (done : List (List (Ev α))) (buf : List α) :
    viewOut (arr.foldl (windowWhenM (α := α)).absStep ⟨winsOf done buf, (List.range (done.length + 1)).map .next, true⟩).st.wins
        (arr.foldl (windowWhenM (α := α)).absStep ⟨winsOf done buf, (List.range (done.length + 1)).map .next, true⟩).out
      = done.map .next ++ cutFrom (fun s => .next (closedWin s)) wwEnd buf arr := by
  induction arr generalizing done buf with
  | nil => exact view_wins done _
  | cons p r ih =>
    obtain ⟨i, x⟩ := p
    have htick : ∀ st, (windowWhenM (α := α)).tick st = st := fun _ => rfl
    rw [List.foldl_cons, absStep_running _ _ _ _ rfl]
    cases x
    case next v =>
      rcases i with _ | i
      · rw [ww_value]
        simpa [cutFrom, htick] using ih done (buf ++ [v])
      · rw [ww_tick]
        simpa [cutFrom, htick, List.range_succ] using ih (done ++ [closedWin buf]) []
    all_goals
      rw [ww_end _ _ _ _ rfl, windowWhen_stopped _ _ rfl]
      simp only [htick]
      rw [viewOut_append, view_wins]
      simp [cutFrom, wwEnd, viewOut, Ev.map, closedS]

theorem segmentsWith_ne_nil (buf : List α) (l : Arr α) : segmentsWith buf l ≠ [] := by
  unfold segmentsWith
  split <;> simp

/-- **WindowWhen = Spec.windowWhen**, for every pair of source scripts and every interleaving. -/
theorem windowWhen_spec (scripts : List (List (Ev α))) (hlen : scripts.length ≤ 2) (order : List Nat) :
    viewOut (run windowWhenM scripts order).m.wins (run windowWhenM scripts order).out
      = Spec.windowWhen (arrivals (scriptsFn scripts) order) := by
  rw [run_out_abs windowWhenM windowWhen_allHot scripts hlen order,
    run_st_abs windowWhenM windowWhen_allHot scripts hlen order]
  obtain ⟨ss, last, hs, hc⟩ := cutFrom_eq (fun s => Ev.next (closedWin s)) wwEnd [] (arrivals (scriptsFn scripts) order)
  rw [segmentsWith_nil] at hs
  refine (windowWhen_abs_running _ [] []).trans ?_
  unfold Spec.windowWhen
  rw [List.map_nil, List.nil_append, hs, hc]
  cases stop (arrivals (scriptsFn scripts) order) with
  | none => simp [wwEnd]
  | some t => cases t <;> simp [wwEnd]

example :
    viewOut (run (windowWhenM (α := Int)) [[.next 1, .next 2, .next 3, .complete], [.next 0, .next 0]] [0, 1, 0, 0, 1, 0]).m.wins
        (run (windowWhenM (α := Int)) [[.next 1, .next 2, .next 3, .complete], [.next 0, .next 0]] [0, 1, 0, 0, 1, 0]).out
      = [.next [.next 1, .complete], .next [.next 2, .next 3, .complete], .next [.complete], .complete] := by
  decide +kernel

example :
    Spec.windowWhen (arrivals (scriptsFn [[Ev.next (1 : Int), .next 2, .next 3, .complete], [.next 0, .next 0]]) [0, 1, 0, 0, 1, 0])
      = [.next [.next 1, .complete], .next [.next 2, .next 3, .complete], .next [.complete], .complete] := by
  decide +kernel

end Ro.MultiB
