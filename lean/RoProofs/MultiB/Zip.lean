/-
  RoProofs.MultiB.Zip — ZipWith1…5 / Zip2…6: for every arity, every tuple of source scripts and every
  interleaving the delivered trace is the zip of the k-th values, completed once a finished source's
  values are used up.
-/
import RoProofs.MultiB.Arrivals
import RoModel.MultiB.Zip
namespace Ro.MultiB
open Spec
variable {α : Type}

theorem zipStep_subs (n : Nat) (st : ZipSt α) (i : Nat) (x : Ev α) : (zipStep n st i x).subscribe = [] := by
  cases x with
  | next v => rfl
  | error e => rfl
  | complete => simp only [zipStep]; split <;> rfl

theorem zipStep_gated (n : Nat) (st : ZipSt α) (i : Nat) (x : Ev α) :
    gateEv (zipStep n st i x).emits = (zipStep n st i x).emits := by
  cases x with
  | next v =>
    simp only [zipStep, zipOnUpdate]
    split
    · simp only [gateEv, Ev.isTerminal_next, Bool.false_eq_true, if_false]
      split <;> rfl
    · rfl
  | error e => rfl
  | complete => simp only [zipStep]; split <;> rfl

theorem zip_allHot (n : Nat) : AllHot (zipM (α := α) n) where
  start_subs := rfl
  step_subs := zipStep_subs n
  hot := rfl
  start_gated := rfl
  step_gated := zipStep_gated n

structure ZInv (n : Nat) (a : Acc (ZipSt α) (List α)) (past : Arr α) (k : Nat) : Prop where
  running : a.running = true
  q : ∀ j, j < n → a.st.q j = (valsOf j past).drop k
  kle : ∀ j, j < n → k ≤ (valsOf j past).length
  compl : ∀ j, j < n → a.st.completed j = completed j past
  notready : rowReady n k past = false
  notdrained : drained n k past = false

theorem drop_isEmpty {γ : Type} (l : List γ) (k : Nat) : (l.drop k).isEmpty = decide (l.length ≤ k) := by
  rw [Bool.eq_iff_iff]; simp [List.drop_eq_nil_iff]

/-- `onUpdate` in the vocabulary of the specification, when `k` rows have been delivered -/
theorem zipOnUpdate_eq (n : Nat) (s : ZipSt α) (past : Arr α) (k : Nat)
    (hq : ∀ j, j < n → s.q j = (valsOf j past).drop k) (hc : ∀ j, j < n → s.completed j = completed j past) :
    zipOnUpdate n s =
      if rowReady n k past then
        ({ s with q := fun j => (s.q j).tail },
          .next (row n k past) :: if drained n (k + 1) past then [.complete] else [])
      else (s, []) := by
  have h1 : (List.range n).all (fun j => !(s.q j).isEmpty) = rowReady n k past :=
    all_range_congr n _ _ fun j hj => by rw [hq j hj, drop_isEmpty]; simp [← Nat.not_le]
  have h2 : (List.range n).filterMap (fun j => (s.q j).head?) = row n k past :=
    filterMap_range_congr n _ _ fun j hj => by rw [hq j hj, List.head?_drop]
  have h3 : (List.range n).any (fun j => s.completed j && (s.q j).tail.isEmpty) = drained n (k + 1) past :=
    any_range_congr n _ _ fun j hj => by rw [hc j hj, hq j hj, List.tail_drop, drop_isEmpty]
  simp only [zipOnUpdate, h1, h2, h3]

theorem rowReady_eq_false (n k : Nat) (h : Arr α) :
    rowReady n k h = false ↔ ∃ j, j < n ∧ (valsOf j h).length ≤ k := by
  simp [rowReady, List.all_eq_false]

theorem drained_eq_false (n k : Nat) (h : Arr α) :
    drained n k h = false ↔ ∀ j, j < n → completed j h = true → k < (valsOf j h).length := by
  simp [drained, List.any_eq_false]

theorem zip_abs (n : Nat) (rest : Arr α) (a : Acc (ZipSt α) (List α)) (past : Arr α) (k : Nat)
    (hinv : ZInv n a past k) (hlt : ∀ p ∈ rest, p.1 < n) :
    (rest.foldl (zipM n).absStep a).out = a.out ++ zipFrom n past k rest := by
  induction rest generalizing a past k with
  | nil => simp [zipFrom]
  | cons p r ih =>
    obtain ⟨i, x⟩ := p
    have hi : i < n := hlt (i, x) (List.mem_cons_self ..)
    have hlt' : ∀ p ∈ r, p.1 < n := fun p hp => hlt p (List.mem_cons_of_mem _ hp)
    have hnd := (drained_eq_false n k past).1 hinv.notdrained
    rw [List.foldl_cons, absStep_running _ _ _ _ hinv.running]
    cases x with
    | next v =>
      -- the queues after the append
      have hq' : ∀ j, j < n → (upd a.st.q i (a.st.q i ++ [v])) j = (valsOf j (past ++ [(i, .next v)])).drop k := by
        intro j hj
        rw [valsOf_snoc_next]
        by_cases hij : i = j
        · subst hij
          simp only [upd_same, if_true]
          rw [hinv.q i hj, List.drop_append_of_le_length (hinv.kle i hj)]
        · rw [upd_other _ _ _ _ (by omega), if_neg hij]; exact hinv.q j hj
      have hcompl : ∀ j, j < n → a.st.completed j = completed j (past ++ [(i, .next v)]) := by
        intro j hj; rw [completed_snoc_next]; exact hinv.compl j hj
      have hlen : ∀ j, (valsOf j past).length ≤ (valsOf j (past ++ [(i, .next v)])).length ∧
          (valsOf j (past ++ [(i, .next v)])).length ≤ (valsOf j past).length + 1 := by
        intro j
        rw [valsOf_snoc_next]
        split <;> simp
      have hu := zipOnUpdate_eq n { a.st with q := upd a.st.q i (a.st.q i ++ [v]) } _ k hq' hcompl
      show (r.foldl (zipM n).absStep ⟨(zipOnUpdate n _).1, a.out ++ (zipOnUpdate n _).2, !(false || hasTerm (zipOnUpdate n _).2)⟩).out = _
      cases hr : rowReady n k (past ++ [(i, .next v)])
      · -- no row yet
        simp only [hu, hr, Bool.false_eq_true, if_false]
        refine Eq.trans (ih _ (past ++ [(i, Ev.next v)]) k
          ⟨rfl, hq', fun j hj => Nat.le_trans (hinv.kle j hj) (hlen j).1, hcompl, hr, ?_⟩ hlt') (by simp [zipFrom, hr])
        rw [drained_eq_false]
        intro j hj hc
        rw [completed_snoc_next] at hc
        exact Nat.lt_of_lt_of_le (hnd j hj hc) (hlen j).1
      · -- a row is complete: pop it
        have hkl := rowReady_lt n k _ hr
        cases hdr : drained n (k + 1) (past ++ [(i, .next v)])
        · simp only [hu, hr, hdr, if_true, Bool.false_eq_true, if_false]
          refine Eq.trans (ih _ (past ++ [(i, Ev.next v)]) (k + 1) ⟨rfl, fun j hj => ?_, hkl, hcompl, ?_, hdr⟩ hlt')
            (by simp [zipFrom, hr, hdr])
          · show ((upd a.st.q i (a.st.q i ++ [v])) j).tail = _
            rw [hq' j hj, List.tail_drop]
          · -- the source that was behind is still behind
            obtain ⟨j0, hj0, hle⟩ := (rowReady_eq_false n k past).1 hinv.notready
            exact (rowReady_eq_false ..).2 ⟨j0, hj0, Nat.le_trans (hlen j0).2 (Nat.succ_le_succ hle)⟩
        · simp only [hu, hr, hdr, if_true]
          rw [abs_stopped_out _ _ _ rfl]
          simp [zipFrom, hr, hdr]
    | error e =>
      rw [abs_stopped_out _ _ _ rfl]
      rfl
    | complete =>
      show (r.foldl (zipM n).absStep ⟨(zipStep n a.st i .complete).st, a.out ++ (zipStep n a.st i .complete).emits,
        !((zipStep n a.st i .complete).unsubAll || hasTerm (zipStep n a.st i .complete).emits)⟩).out = _
      have hempty : (a.st.q i).isEmpty = decide ((valsOf i past).length ≤ k) := by rw [hinv.q i hi, drop_isEmpty]
      -- the spec's "some finished source is drained" can only be the source that has just completed
      by_cases hik : (valsOf i past).length ≤ k
      · have hdr : drained n k (past ++ [(i, .complete)]) = true :=
          List.any_eq_true.2 ⟨i, List.mem_range.mpr hi, by simp [completed_snoc_complete, valsOf_snoc_complete, hik]⟩
        simp only [zipStep, hempty, hik, decide_true, if_true]
        rw [abs_stopped_out _ _ _ rfl]
        simp [zipFrom, hdr]
      · have hdr : drained n k (past ++ [(i, .complete)]) = false := by
          rw [drained_eq_false]
          intro j hj hc
          rw [valsOf_snoc_complete]
          by_cases hji : j = i
          · subst hji; omega
          · exact hnd j hj (by simpa [completed_snoc_complete, Ne.symm hji] using hc)
        simp only [zipStep, hempty, hik, decide_false, Bool.false_eq_true, if_false]
        refine Eq.trans (ih _ (past ++ [(i, Ev.complete)]) k ⟨rfl, ?_, ?_, ?_, ?_, hdr⟩ hlt')
          (by simp [zipFrom, hdr])
        · intro j hj; rw [valsOf_snoc_complete]; exact hinv.q j hj
        · intro j hj; rw [valsOf_snoc_complete]; exact hinv.kle j hj
        · intro j hj
          rw [completed_snoc_complete]
          by_cases hji : j = i
          · subst hji; simp
          · show upd a.st.completed i true j = _
            rw [upd_other _ _ _ _ hji, hinv.compl j hj]
            simp [Ne.symm hji]
        · obtain ⟨j0, hj0, hle⟩ := (rowReady_eq_false n k past).1 hinv.notready
          exact (rowReady_eq_false ..).2 ⟨j0, hj0, by rwa [valsOf_snoc_complete]⟩

/-- **Zip = Spec.zip** for every arity `n ≥ 1`, every tuple of source scripts and every interleaving
    (with fix b6f7afa: a source that completes while values of its own are still queued does not
    cancel the others). -/
theorem zip_spec (n : Nat) (hn : 0 < n) (scripts : List (List (Ev α))) (hlen : scripts.length ≤ n)
    (order : List Nat) :
    (run (zipM n) scripts order).out = Spec.zip n (arrivals (scriptsFn scripts) order) := by
  have hlen' : scripts.length ≤ (zipM (α := α) n).n := hlen
  rw [run_out_abs (zipM n) (zip_allHot n) scripts hlen' order]
  unfold Machine.abs
  have hinv : ZInv n (zipM (α := α) n).absInit [] 0 :=
    ⟨rfl, fun _ _ => rfl, fun _ _ => Nat.zero_le _, fun _ _ => rfl,
      (rowReady_eq_false ..).2 ⟨0, hn, Nat.le_refl _⟩, (drained_eq_false ..).2 fun j _ hc => by simp [completed] at hc⟩
  rw [zip_abs n _ _ [] 0 hinv (arrivals_lt n order _ (scriptsFn_out_of_range scripts n hlen))]
  rfl

end Ro.MultiB
