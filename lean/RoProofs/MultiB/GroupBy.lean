/-
  RoProofs.MultiB.GroupBy — GroupBy delivers one substream per key, in order of first occurrence,
  each carrying the values of its key and ending the way the source ends (completion or error) — on
  the inputs outside the one known deviation left (`Known.groupByLate`), which is witnessed below.
-/
import RoProofs.MultiB.WindowWhen
import RoModel.MultiB.GroupBy
namespace Ro.MultiB
open Spec
variable {α κ : Type}

theorem groupBy_allHot [DecidableEq κ] (key : α → Nat → κ) (delay : Nat) : AllHot (groupByM key delay) :=
  have h : ∀ st i x, ((groupByM key delay).step st i x).subscribe = [] ∧
      gateEv ((groupByM key delay).step st i x).emits = ((groupByM key delay).step st i x).emits := by
    intro st i x
    cases x with
    | next v => simp only [groupByM, groupByStep]; split <;> split <;> exact ⟨rfl, rfl⟩
    | error e => exact ⟨rfl, rfl⟩
    | complete => exact ⟨rfl, rfl⟩
  ⟨rfl, fun st i x => (h st i x).1, rfl, rfl, fun st i x => (h st i x).2⟩

namespace GroupByProof

/-! ### `Spec.distinct` -/

theorem distinct_snoc [DecidableEq κ] (ks : List κ) (k : κ) :
    distinct (ks ++ [k]) = if (distinct ks).contains k then distinct ks else distinct ks ++ [k] := by
  simp [distinct, List.foldl_append]

theorem foldl_distinct [DecidableEq κ] (l acc : List κ) (h : acc.Nodup) :
    (l.foldl (fun acc k => if acc.contains k then acc else acc ++ [k]) acc).Nodup ∧
    ∀ k, k ∈ l.foldl (fun acc k => if acc.contains k then acc else acc ++ [k]) acc ↔ k ∈ acc ∨ k ∈ l := by
  induction l generalizing acc with
  | nil => simpa using h
  | cons x l ih =>
    rw [List.foldl_cons]
    by_cases hx : x ∈ acc
    · have := ih acc h
      rw [if_pos (by simpa using hx)]
      exact ⟨this.1, fun k => by rw [this.2, List.mem_cons]; by_cases hk : k = x <;> simp [hk, hx]⟩
    · have := ih (acc ++ [x]) (by simp [List.nodup_append, h]; exact fun a ha hax => hx (hax ▸ ha))
      rw [if_neg (by simpa using hx)]
      exact ⟨this.1, fun k => by rw [this.2]; simp [or_assoc]⟩

theorem mem_distinct [DecidableEq κ] (l : List κ) (k : κ) : k ∈ distinct l ↔ k ∈ l := by
  simpa [distinct] using (foldl_distinct l [] List.nodup_nil).2 k

theorem distinct_nodup [DecidableEq κ] (l : List κ) : (distinct l).Nodup := (foldl_distinct l [] List.nodup_nil).1

/-! ### the invariant of the callbacks -/

/-- the values of key `k` -/
def gvals [DecidableEq κ] (kv : List (κ × α)) (k : κ) : List (Ev α) :=
  (kv.filter (fun p => p.1 == k)).map (fun p => Ev.next p.2)

theorem gvals_snoc [DecidableEq κ] (kv : List (κ × α)) (k k' : κ) (v : α) :
    gvals (kv ++ [(k, v)]) k' = gvals kv k' ++ (if k = k' then [Ev.next v] else []) := by
  unfold gvals
  by_cases h : k = k' <;> simp [List.filter_append, h]

theorem gvals_absent [DecidableEq κ] (kv : List (κ × α)) (k : κ) (h : k ∉ kv.map (·.1)) : gvals kv k = [] := by
  simp only [gvals, List.map_eq_nil_iff, List.filter_eq_nil_iff]
  intro p hp hpk
  exact h (List.mem_map.2 ⟨p, hp, by simpa using hpk⟩)

/-- group number `i`, with the unsubscribed recorders `P` -/
structure GOk [DecidableEq κ] (kv : List (κ × α)) (P : List Nat) (i : Nat) (p : κ × Subj α) : Prop where
  active : p.2.status = .active
  vals : p.2.rcv ++ p.2.queue.map .next = gvals kv p.1
  pend : i ∈ P → p.2.attached = false
  att : i ∉ P → p.2.attached = true ∧ p.2.queue = []

structure GInv [DecidableEq κ] (s : GroupSt α κ) (kv : List (κ × α)) : Prop where
  mapped : s.mapped = true
  idx : s.idx = kv.length
  keys : s.groups.map (·.1) = distinct (kv.map (·.1))
  nodup : (s.pending.map (·.1)).Nodup
  bound : ∀ g, g ∈ s.pending.map (·.1) → g < s.groups.length
  ok : ∀ i p, s.groups[i]? = some p → GOk kv (s.pending.map (·.1)) i p

theorem GOk.congrP [DecidableEq κ] {kv : List (κ × α)} {P P' : List Nat} {i : Nat} {p : κ × Subj α}
    (h : GOk kv P i p) (hP : i ∈ P' ↔ i ∈ P) : GOk kv P' i p :=
  ⟨h.active, h.vals, fun hi => h.pend (hP.1 hi), fun hi => h.att (fun hc => hi (hP.2 hc))⟩

/-- a value of another key does not concern the group -/
theorem GOk.other [DecidableEq κ] {kv : List (κ × α)} {P : List Nat} {i : Nat} {p : κ × Subj α}
    (h : GOk kv P i p) (k : κ) (v : α) (hk : p.1 ≠ k) : GOk (kv ++ [(k, v)]) P i p :=
  ⟨h.active, by rw [gvals_snoc, if_neg (Ne.symm hk), List.append_nil]; exact h.vals, h.pend, h.att⟩

/-- a value of the group's key is handed to its recorder, or queued while there is none yet -/
theorem GOk.next [DecidableEq κ] {kv : List (κ × α)} {P : List Nat} {i : Nat} {p : κ × Subj α}
    (h : GOk kv P i p) (v : α) : GOk (kv ++ [(p.1, v)]) P i (p.1, (p.2.next v).1) := by
  have hv := h.vals
  by_cases hi : i ∈ P
  · have hat := h.pend hi
    refine ⟨?_, ?_, fun _ => ?_, fun h' => absurd hi h'⟩ <;> simp [Subj.next, h.active, hat, gvals_snoc, ← hv]
  · have hat := h.att hi
    rw [hat.2] at hv
    refine ⟨?_, ?_, fun h' => absurd h' hi, fun _ => ?_⟩ <;> simp [Subj.next, h.active, hat, gvals_snoc, ← hv]

theorem findKey_none [DecidableEq κ] (gs : List (κ × Subj α)) (k : κ) (h : findKey gs k = none) :
    k ∉ gs.map (·.1) := by
  simp only [findKey, List.findIdx?_eq_none_iff] at h
  rintro hk
  obtain ⟨p, hp, rfl⟩ := List.mem_map.1 hk
  simpa using h p hp

theorem findKey_some [DecidableEq κ] (gs : List (κ × Subj α)) (k : κ) (g : Nat) (h : findKey gs k = some g) :
    ∃ p, gs[g]? = some p ∧ p.1 = k := by
  simp only [findKey, List.findIdx?_eq_some_iff_getElem] at h
  obtain ⟨hlt, hp, _⟩ := h
  exact ⟨gs[g], by simp [hlt], by simpa using hp⟩

theorem keys_inj (gs : List (κ × Subj α)) (hn : (gs.map (·.1)).Nodup) (i j : Nat) (p q : κ × Subj α)
    (hp : gs[i]? = some p) (hq : gs[j]? = some q) (hk : p.1 = q.1) : i = j :=
  (List.getElem?_inj (by simpa using (List.getElem?_eq_some_iff.1 hp).1) hn).1 (by simp [hp, hq, hk])

theorem map_fst_set (gs : List (κ × Subj α)) (g : Nat) (p : κ × Subj α) (x : Subj α) (hg : gs[g]? = some p) :
    (gs.set g (p.1, x)).map (·.1) = gs.map (·.1) := by
  obtain ⟨hlt, rfl⟩ := List.getElem?_eq_some_iff.1 hg
  rw [List.map_set]
  exact List.ext_getElem? fun i => by
    rw [List.getElem?_set]
    split
    · subst_vars; simp [hlt]
    · rfl

/-- a value: the invariant is kept, the index of a new group is emitted, the run goes on -/
theorem step_next_inv [DecidableEq κ] (key : α → Nat → κ) (delay : Nat) (s : GroupSt α κ) (kv : List (κ × α))
    (h : GInv s kv) (i : Nat) (v : α) :
    GInv (groupByStep key delay s i (.next v)).st (kv ++ [(key v kv.length, v)]) ∧
    (List.range s.groups.length).map Ev.next ++ (groupByStep key delay s i (.next v)).emits
      = (List.range (groupByStep key delay s i (.next v)).st.groups.length).map Ev.next ∧
    (groupByStep key delay s i (.next v)).unsubAll = false ∧
    hasTerm (groupByStep key delay s i (.next v)).emits = false ∧
    (delay ≤ 1 → s.pending = [] → (groupTick (groupByStep key delay s i (.next v)).st).pending = []) := by
  rw [← h.idx]
  generalize hk : key v s.idx = k
  have hnd : (s.groups.map (·.1)).Nodup := by rw [h.keys]; exact distinct_nodup _
  cases hf : findKey s.groups k with
  | none =>
    have hnk := findKey_none _ _ hf
    have hlen : s.groups.length ∉ s.pending.map (·.1) := fun hc => Nat.lt_irrefl _ (h.bound _ hc)
    have he : groupByStep key delay s i (.next v) =
        { st := { s with idx := s.idx + 1, groups := s.groups ++ [(k, if delay = 0 then { attached := true, rcv := [.next v] } else { queue := [v] })], pending := s.pending ++ if delay = 0 then [] else [(s.groups.length, delay)] },
          emits := [.next s.groups.length] } := by
      by_cases hd : delay = 0 <;> simp [groupByStep, h.mapped, hk, hf, hd, Subj.next, Subj.subscribe]
    rw [he]
    refine ⟨⟨h.mapped, by simp [h.idx], ?_, ?_, ?_, ?_⟩, by simp [List.range_succ], rfl, rfl, fun hd hp => ?_⟩
    case refine_5 =>
      have : delay = 0 ∨ delay = 1 := by omega
      rcases this with rfl | rfl <;> simp [groupTick, hp]
    · simp [distinct_snoc, h.keys, (h.keys ▸ hnk : k ∉ distinct _)]
    · split
      · simpa using h.nodup
      · rw [List.map_append, List.nodup_append]
        exact ⟨h.nodup, by simp, fun a ha b hb hab => hlen (by simp at hb; rw [← hb, ← hab]; exact ha)⟩
    · intro g hg
      have : g < s.groups.length ∨ g = s.groups.length := by
        split at hg
        · exact .inl (h.bound g (by simpa using hg))
        · simp only [List.map_append, List.mem_append, List.map_cons, List.map_nil, List.mem_singleton] at hg
          exact hg.imp (h.bound g) id
      simp; omega
    · intro j p hp
      rw [List.getElem?_append] at hp
      split at hp
      · rename_i hj
        refine ((h.ok j p hp).other k v fun hc => hnk (hc ▸ List.mem_map.2 ⟨p, List.mem_of_getElem? hp, rfl⟩)).congrP ?_
        split <;> simp; omega
      · rename_i hj
        rcases hj' : j - s.groups.length with _ | m <;> rw [hj'] at hp
        case succ => simp at hp
        obtain rfl : j = s.groups.length := by omega
        simp only [List.getElem?_cons_zero, Option.some.injEq] at hp
        subst hp
        have hnk' : k ∉ kv.map (·.1) := by rwa [h.keys, mem_distinct] at hnk
        by_cases hd : delay = 0
        · exact ⟨by simp [hd], by simp [hd, gvals_snoc, gvals_absent kv k hnk'], fun hc => by simp [hd, hlen] at hc,
            fun _ => by simp [hd]⟩
        · exact ⟨by simp [hd], by simp [hd, gvals_snoc, gvals_absent kv k hnk'], fun _ => by simp [hd],
            fun hc => by simp [hd] at hc⟩
  | some g =>
    obtain ⟨p, hg, rfl⟩ := findKey_some _ _ _ hf
    have he : groupByStep key delay s i (.next v) =
        { st := { s with idx := s.idx + 1, groups := s.groups.set g (p.1, (p.2.next v).1) }, sdrops := (p.2.next v).2 } := by
      simp [groupByStep, h.mapped, hk, hf, hg]
    rw [he]
    refine ⟨⟨h.mapped, by simp [h.idx], ?_, h.nodup, fun g' hg' => by simpa using h.bound g' hg', ?_⟩,
      by simp, rfl, rfl, fun _ hp => by simp [groupTick, hp]⟩
    · have : p.1 ∈ distinct (kv.map (·.1)) := h.keys ▸ List.mem_map.2 ⟨p, List.mem_of_getElem? hg, rfl⟩
      simp [map_fst_set _ _ _ _ hg, distinct_snoc, this, h.keys]
    · intro j q hq
      rw [List.getElem?_set] at hq
      split at hq
      · rename_i hgj
        subst hgj
        simp only [(List.getElem?_eq_some_iff.1 hg).1, if_true, Option.some.injEq] at hq
        subst hq
        exact (h.ok g p hg).next v
      · rename_i hgj
        exact (h.ok j q hq).other _ v fun hc => hgj (keys_inj s.groups hnd g j p q hg hq hc.symm)

theorem modAt_getElem? {γ : Type} (l : List γ) (k : Nat) (f : γ → γ) (i : Nat) :
    (modAt l k f)[i]? = if i = k then l[i]?.map f else l[i]? := by
  unfold modAt
  cases h : l[k]? with
  | none => by_cases hik : i = k <;> simp [hik, h]
  | some x =>
    simp only [List.getElem?_set]
    by_cases hik : i = k
    · subst hik
      obtain ⟨hlt, rfl⟩ := List.getElem?_eq_some_iff.1 h
      simp [hlt]
    · simp [hik, Ne.symm hik]

theorem foldl_modAt_getElem? {γ : Type} (f : γ → γ) (D : List Nat) (hD : D.Nodup) (l : List γ) (i : Nat) :
    (D.foldl (fun gs g => modAt gs g f) l)[i]? = if i ∈ D then l[i]?.map f else l[i]? := by
  induction D generalizing l with
  | nil => simp
  | cons d D ih =>
    rw [List.nodup_cons] at hD
    rw [List.foldl_cons, ih hD.2, modAt_getElem?]
    by_cases hid : i = d
    · subst hid; simp [hD.1]
    · simp [hid]

/-- the recorders `due` subscribe; `pend'` stay pending -/
theorem ginv_subscribe [DecidableEq κ] (s : GroupSt α κ) (kv : List (κ × α)) (h : GInv s kv)
    (due : List Nat) (pend' : List (Nat × Nat)) (hperm : (due ++ pend'.map (·.1)).Perm (s.pending.map (·.1))) :
    GInv { s with pending := pend',
                  groups := due.foldl (fun gs g => modAt gs g (fun q => (q.1, q.2.subscribe))) s.groups } kv := by
  have hnd := List.nodup_append.1 (hperm.nodup_iff.2 h.nodup)
  have hmem : ∀ i, i ∈ due ∨ i ∈ pend'.map (·.1) ↔ i ∈ s.pending.map (·.1) := fun i => by
    rw [← List.mem_append]; exact hperm.mem_iff
  have hget := foldl_modAt_getElem? (fun q : κ × Subj α => (q.1, q.2.subscribe)) due hnd.1 s.groups
  have hkeys : (due.foldl (fun gs g => modAt gs g (fun q : κ × Subj α => (q.1, q.2.subscribe))) s.groups).map (·.1)
      = s.groups.map (·.1) :=
    List.ext_getElem? fun i => by
      rw [List.getElem?_map, List.getElem?_map, hget]
      split <;> cases s.groups[i]? <;> rfl
  refine ⟨h.mapped, h.idx, hkeys.trans h.keys, hnd.2.1, fun g hg => ?_, fun i p hp => ?_⟩
  · have := congrArg List.length hkeys
    simp only [List.length_map] at this
    rw [this]
    exact h.bound g ((hmem g).1 (Or.inr hg))
  · simp only at hp ⊢
    rw [hget] at hp
    by_cases hi : i ∈ due
    · simp only [hi, if_true, Option.map_eq_some_iff] at hp
      obtain ⟨q, hq, rfl⟩ := hp
      have hok := h.ok i q hq
      have hat := hok.pend ((hmem i).1 (Or.inl hi))
      have hv := hok.vals
      refine ⟨?_, ?_, fun hc => absurd rfl (hnd.2.2 i hi i hc), fun _ => ?_⟩ <;>
        simp [Subj.subscribe, hok.active, hat, hv]
    · simp only [hi, if_false] at hp
      exact (h.ok i p hp).congrP (by rw [← hmem i]; simp [hi])

theorem groupTick_inv [DecidableEq κ] (s : GroupSt α κ) (kv : List (κ × α)) (h : GInv s kv) : GInv (groupTick s) kv := by
  refine ginv_subscribe s kv h _ _ ?_
  rw [← List.map_append]
  refine ((List.filter_append_perm _ _).map _).trans ?_
  simp [List.map_map, Function.comp_def]

theorem groupFinish_inv [DecidableEq κ] (s : GroupSt α κ) (kv : List (κ × α)) (h : GInv s kv) :
    GInv (groupFinish s) kv :=
  ginv_subscribe s kv h _ [] (by simp)

theorem groupTick_nil (s : GroupSt α κ) (h : s.pending = []) : groupTick s = s := by
  cases s
  simp only at h
  subst h
  rfl

theorem groupFinish_nil (s : GroupSt α κ) (h : s.pending = []) : groupFinish s = s := by
  cases s
  simp only at h
  subst h
  rfl

/-! ### the arrivals of a single source -/

def oneSrc (vs : List α) (t : Option (Ev α)) : Arr α :=
  vs.map (fun v => (0, Ev.next v)) ++ t.toList.map (fun x => (0, x))

theorem arrivals_single (rest : Nat → List (Ev α)) (h : ∀ i, 1 ≤ i → rest i = []) (order : List Nat) :
    ∃ vs t, arrivals rest order = oneSrc vs t ∧ ∀ x, t = some x → x.isTerminal = true := by
  refine (arrivals_induct (P := fun rest arr => (∀ i, 1 ≤ i → rest i = []) →
    (∃ vs t, arr = oneSrc vs t ∧ ∀ x, t = some x → x.isTerminal = true) ∧ (rest 0 = [] → arr = []))
    (fun _ _ => ⟨⟨[], none, rfl, nofun⟩, fun _ => rfl⟩) ?_ rest order h).1
  intro rest i x r arr hr ih h
  obtain rfl : i = 0 := Nat.eq_zero_of_not_pos fun hi => by simp [h i hi] at hr
  have ih := ih fun j hj => by rw [upd_other _ _ _ _ (by omega)]; exact h j hj
  refine ⟨?_, fun h0 => by simp [h0] at hr⟩
  cases hx : x.isTerminal
  · obtain ⟨vs, t, h1, h2⟩ := ih.1
    cases x with
    | next v => exact ⟨v :: vs, t, by rw [h1]; rfl, h2⟩
    | error e => cases hx
    | complete => cases hx
  · rw [ih.2 (by simp [hx])]
    exact ⟨[], some x, rfl, by rintro _ ⟨⟩; exact hx⟩

theorem body_oneSrc (vs : List α) (t : Option (Ev α)) (ht : ∀ x, t = some x → x.isTerminal = true) :
    body (oneSrc vs t) = vs.map (fun v => (0, Ev.next v)) := by
  unfold body oneSrc
  rw [List.takeWhile_append_of_pos (by simp)]
  cases t with
  | none => simp
  | some x => simp [ht x rfl]

theorem stop_oneSrc (vs : List α) (t : Option (Ev α)) (ht : ∀ x, t = some x → x.isTerminal = true) :
    stop (oneSrc vs t) = t := by
  unfold stop oneSrc
  rw [List.find?_append, List.find?_eq_none.2 (by simp)]
  cases t with
  | none => simp
  | some x => simp [ht x rfl]

theorem valsOf_values (vs : List α) : valsOf 0 (vs.map (fun v => ((0 : Nat), Ev.next v))) = vs := by
  simp [valsOf, List.filterMap_map, Function.comp_def, Ev.val?]

/-! ### the fold over the values -/

structure Mid [DecidableEq κ] (delay : Nat) (a : Acc (GroupSt α κ) Nat) (kv : List (κ × α)) : Prop where
  inv : GInv a.st kv
  out : a.out = (List.range a.st.groups.length).map .next
  run : a.running = true
  eager : delay ≤ 1 → a.st.pending = []

theorem GInv.length [DecidableEq κ] {s : GroupSt α κ} {kv : List (κ × α)} (h : GInv s kv) :
    s.groups.length = (distinct (kv.map (·.1))).length := by
  rw [← h.keys, List.length_map]

theorem mid_step [DecidableEq κ] (key : α → Nat → κ) (delay : Nat) (a : Acc (GroupSt α κ) Nat) (kv : List (κ × α))
    (h : Mid delay a kv) (v : α) :
    Mid delay ((groupByM key delay).absStep a (0, .next v)) (kv ++ [(key v kv.length, v)]) := by
  have hs := step_next_inv key delay a.st kv h.inv 0 v
  have hti := groupTick_inv _ _ hs.1
  rw [absStep_running _ _ _ _ h.run]
  refine ⟨hti, ?_, ?_, fun hd => hs.2.2.2.2 hd (h.eager hd)⟩
  · show a.out ++ (groupByStep key delay a.st 0 (.next v)).emits
      = (List.range (groupTick (groupByStep key delay a.st 0 (.next v)).st).groups.length).map .next
    rw [h.out, hs.2.1, hs.1.length, hti.length]
  · show (!((groupByStep key delay a.st 0 (.next v)).unsubAll || hasTerm (groupByStep key delay a.st 0 (.next v)).emits)) = true
    rw [hs.2.2.1, hs.2.2.2.1]; rfl

/-- the source's values paired with their keys -/
def kvOf (key : α → Nat → κ) (vs : List α) : List (κ × α) := vs.zipIdx.map (fun p => (key p.1 p.2, p.1))

theorem mid_init [DecidableEq κ] (key : α → Nat → κ) (delay : Nat) :
    Mid delay (groupByM key delay).absInit ([] : List (κ × α)) :=
  ⟨⟨rfl, rfl, rfl, List.nodup_nil, nofun, nofun⟩, rfl, rfl, fun _ => rfl⟩

theorem mid_values [DecidableEq κ] (key : α → Nat → κ) (delay : Nat) (vs : List α) :
    Mid delay ((vs.map (fun v => ((0 : Nat), Ev.next v))).foldl (groupByM key delay).absStep (groupByM key delay).absInit)
      (kvOf key vs) := by
  have : ∀ (vs : List α) (a : Acc (GroupSt α κ) Nat) (kv : List (κ × α)), Mid delay a kv →
      Mid delay ((vs.map (fun v => ((0 : Nat), Ev.next v))).foldl (groupByM key delay).absStep a)
        (kv ++ (vs.zipIdx kv.length).map (fun p => (key p.1 p.2, p.1))) := by
    intro vs
    induction vs with
    | nil => intro a kv h; simpa using h
    | cons v vs ih =>
      intro a kv h
      simpa [List.append_assoc] using ih _ _ (mid_step key delay a kv h v)
  simpa [kvOf] using this vs _ [] (mid_init key delay)

/-! ### the view -/

theorem view_groups (gs : List (κ × Subj α)) (f : κ → List (Ev α)) (h : ∀ p, p ∈ gs → p.2.rcv = f p.1) :
    viewOut (gs.map (·.2)) ((List.range gs.length).map .next) = (gs.map (·.1)).map (fun k => .next (f k)) := by
  have := viewOut_range (gs.map (·.2))
  rw [List.length_map] at this
  rw [this, List.map_map, List.map_map]
  exact List.map_congr_left fun p hp => by simp [h p hp]

/-- all recorders subscribed: every one has received the values of its key -/
theorem view_attached [DecidableEq κ] (s : GroupSt α κ) (kv : List (κ × α)) (h : GInv s kv) (hp : s.pending = []) :
    ∀ p, p ∈ s.groups → p.2.status = .active ∧ p.2.attached = true ∧ p.2.rcv = gvals kv p.1 := by
  intro p hp'
  obtain ⟨i, hi⟩ := List.mem_iff_getElem?.1 hp'
  have hok := h.ok i p hi
  have hat := hok.att (by simp [hp])
  exact ⟨hok.active, hat.1, by simpa [hat.2] using hok.vals⟩

/-- groups in the order of their keys, each having received its values and the source's ending -/
theorem view_final [DecidableEq κ] (key : α → Nat → κ) (vs : List α) (t : Option (Ev α))
    (ht : ∀ x, t = some x → x.isTerminal = true) (gs : List (κ × Subj α))
    (hkeys : gs.map (·.1) = distinct ((kvOf key vs).map (·.1)))
    (hrcv : ∀ p, p ∈ gs → p.2.rcv = gvals (kvOf key vs) p.1 ++ t.toList) :
    viewOut (gs.map (·.2)) ((List.range gs.length).map .next ++ t.toList.map (Ev.map fun _ => 0))
      = Spec.groupBy key (oneSrc vs t) := by
  unfold Spec.groupBy keyed
  rw [body_oneSrc vs t ht, stop_oneSrc vs t ht, valsOf_values, viewOut_append,
    view_groups _ (fun k => gvals (kvOf key vs) k ++ t.toList) hrcv, hkeys]
  congr 1
  cases t with
  | none => rfl
  | some x => cases x <;> first | rfl | cases ht _ rfl

/-- what the source's ending `x` makes of a group's subject -/
def ended (x : Ev α) (sj : Subj α) : Subj α :=
  match x with
  | .next _ => sj
  | .error e => ((sj.error e).1.complete).1
  | .complete => sj.complete.1

theorem step_end [DecidableEq κ] (key : α → Nat → κ) (delay : Nat) (s : GroupSt α κ) (i : Nat) (x : Ev α)
    (hx : x.isTerminal = true) :
    (groupByStep key delay s i x).st = { s with groups := s.groups.map (fun p => (p.1, ended x p.2)), mapped := false } ∧
    (groupByStep key delay s i x).emits = [x.map fun _ => 0] := by
  cases x <;> simp [groupByStep, groupCloseAll, ended, List.map_map, Function.comp_def, Ev.map] at hx ⊢

/-- a subject with its recorder attached hands the ending over -/
theorem ended_rcv (x : Ev α) (hx : x.isTerminal = true) (sj : Subj α) (h1 : sj.status = .active) (h2 : sj.attached = true) :
    (ended x sj).rcv = sj.rcv ++ [x] := by
  cases x <;> simp [ended, Subj.complete, Subj.error, h1, h2] at hx ⊢

end GroupByProof
open GroupByProof

/-- the fold of the callbacks over the arrivals of the one source, seen through the recorders -/
theorem groupBy_abs [DecidableEq κ] (key : α → Nat → κ) (delay : Nat) (vs : List α) (t : Option (Ev α))
    (ht : ∀ x, t = some x → x.isTerminal = true) (hd : t.isSome → delay ≤ 1) :
    viewOut ((groupFinish ((groupByM key delay).abs (oneSrc vs t)).st).groups.map (·.2))
        ((groupByM key delay).abs (oneSrc vs t)).out = Spec.groupBy key (oneSrc vs t) := by
  have hm := mid_values key delay vs
  rw [show (groupByM key delay).abs (oneSrc vs t) = _ from List.foldl_append ..]
  generalize (vs.map (fun v => ((0 : Nat), Ev.next v))).foldl (groupByM key delay).absStep (groupByM key delay).absInit = b at hm
  cases t with
  | none =>
    have hf := groupFinish_inv b.st _ hm.inv
    have := view_final key vs none ht _ hf.keys fun p hp => by
      simpa using (view_attached _ _ hf rfl p hp).2.2
    rw [← hm.inv.length.trans hf.length.symm, ← hm.out] at this
    simpa using this
  | some x =>
    have hpend := hm.eager (hd rfl)
    have hatt := view_attached _ _ hm.inv hpend
    have hx := ht x rfl
    have hs := step_end key delay b.st 0 x hx
    have hst : ((groupByM key delay).absStep b (0, x)).st =
        { b.st with groups := b.st.groups.map (fun p => (p.1, ended x p.2)), mapped := false } := by
      rw [absStep_running _ _ _ _ hm.run]
      exact (groupTick_nil _ (by show (groupByStep key delay b.st 0 x).st.pending = []; rw [hs.1]; exact hpend)).trans hs.1
    have hout : ((groupByM key delay).absStep b (0, x)).out = b.out ++ [x.map fun _ => 0] := by
      rw [absStep_running _ _ _ _ hm.run]
      exact congrArg (b.out ++ ·) hs.2
    have := view_final key vs (some x) ht (b.st.groups.map (fun p => (p.1, ended x p.2)))
      (by rw [List.map_map]; exact hm.inv.keys) fun p hp => by
        obtain ⟨q, hq, rfl⟩ := List.mem_map.1 hp
        obtain ⟨h1, h2, h3⟩ := hatt q hq
        simp [ended_rcv x hx q.2 h1 h2, h3]
    rw [List.length_map, ← hm.out] at this
    show viewOut ((groupFinish ((groupByM key delay).absStep b (0, x)).st).groups.map (·.2))
      ((groupByM key delay).absStep b (0, x)).out = _
    rw [hst, hout, groupFinish_nil]
    · exact this
    · exact hpend

/-- **GroupBy = Spec.groupBy** whenever every recorder subscribes before the source ends
    (`delay ≤ 1`, or the source never ends) — the late-subscriber deviation of the unicast subject is
    the only class left out (with fix 85e48d9 a source error reaches the groups). -/
theorem groupBy_spec_partial {α κ : Type} [DecidableEq κ] (key : α → Nat → κ) (delay : Nat)
    (scripts : List (List (Ev α))) (hlen : scripts.length ≤ 1) (order : List Nat)
    (h1 : Known.groupByLate delay (arrivals (scriptsFn scripts) order) = false) :
    viewOut ((run (groupByM key delay) scripts order).m.groups.map (·.2)) (run (groupByM key delay) scripts order).out
      = Spec.groupBy key (arrivals (scriptsFn scripts) order) := by
  rw [run_out_abs _ (groupBy_allHot key delay) scripts hlen order,
    run_st_abs _ (groupBy_allHot key delay) scripts hlen order]
  obtain ⟨vs, t, harr, ht⟩ := arrivals_single (scriptsFn scripts) (scriptsFn_out_of_range scripts 1 hlen) order
  rw [harr] at h1 ⊢
  refine groupBy_abs key delay vs t ht fun hsome => ?_
  simp [Known.groupByLate, stop_oneSrc vs t ht, hsome] at h1
  omega

/-- the special case of recorders that subscribe at once or after one notification: in full -/
theorem groupBy_spec_eager {α κ : Type} [DecidableEq κ] (key : α → Nat → κ) (delay : Nat) (hd : delay ≤ 1)
    (scripts : List (List (Ev α))) (hlen : scripts.length ≤ 1) (order : List Nat) :
    viewOut ((run (groupByM key delay) scripts order).m.groups.map (·.2)) (run (groupByM key delay) scripts order).out
      = Spec.groupBy key (arrivals (scriptsFn scripts) order) := by
  apply groupBy_spec_partial key delay scripts hlen order ?_
  have : decide (2 ≤ delay) = false := by simp; omega
  simp [Known.groupByLate, this]

/-! ### the remaining deviation, and concrete instances of the theorem -/

/-- a recorder that subscribes after the source completed gets only `Complete`: the queued value is lost -/
theorem groupBy_late_witness :
    let r := run (groupByM (fun (v : Int) (_ : Nat) => v) 2) [[.next 1, .complete]] [0, 0]
    viewOut (r.m.groups.map (·.2)) r.out = [.next [.complete], .complete] ∧
    Spec.groupBy (fun (v : Int) (_ : Nat) => v) (arrivals (scriptsFn [[Ev.next (1:Int), .complete]]) [0, 0]) = [.next [.next 1, .complete], .complete] := by
  decide +kernel

/-- a source error reaches the groups (and the late-subscriber deviation shows for errors too) -/
example :
    (let r := run (groupByM (fun (v : Int) (_ : Nat) => v) 0) [[.next 1, .error (.user 7)]] [0, 0]
     viewOut (r.m.groups.map (·.2)) r.out) = [.next [.next 1, .error (.user 7)], .error (.user 7)] ∧
    (let r := run (groupByM (fun (v : Int) (_ : Nat) => v) 2) [[.next 1, .error (.user 7)]] [0, 0]
     viewOut (r.m.groups.map (·.2)) r.out) = [.next [.error (.user 7)], .error (.user 7)] := by
  decide +kernel

/-- the hypotheses of `groupBy_spec_partial` hold on a run with two keys, and the result is the expected one -/
example :
    Known.groupByLate 1 (arrivals (scriptsFn [[Ev.next (1:Int), .next 2, .next 3, .complete]]) [0, 0, 0, 0]) = false ∧
    (let r := run (groupByM (fun (v : Int) (_ : Nat) => v % 2) 1) [[.next 1, .next 2, .next 3, .complete]] [0, 0, 0, 0]
     viewOut (r.m.groups.map (·.2)) r.out) = [.next [.next 1, .next 3, .complete], .next [.next 2, .complete], .complete] ∧
    Spec.groupBy (fun (v : Int) (_ : Nat) => v % 2) (arrivals (scriptsFn [[Ev.next (1:Int), .next 2, .next 3, .complete]]) [0, 0, 0, 0])
      = [.next [.next 1, .next 3, .complete], .next [.next 2, .complete], .complete] := by
  decide +kernel

example :
    (let r := run (groupByM (fun (v : Int) (_ : Nat) => v % 2) 1) [[.next 1, .next 2, .next 3, .complete]] [0, 0, 0, 0]
     viewOut (r.m.groups.map (·.2)) r.out)
      = Spec.groupBy (fun (v : Int) (_ : Nat) => v % 2) (arrivals (scriptsFn [[Ev.next (1:Int), .next 2, .next 3, .complete]]) [0, 0, 0, 0]) :=
  groupBy_spec_partial (fun (v : Int) (_ : Nat) => v % 2) 1 [[.next 1, .next 2, .next 3, .complete]] (by decide) [0, 0, 0, 0]
    (by decide +kernel)

end Ro.MultiB
