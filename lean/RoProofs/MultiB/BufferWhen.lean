/-
  RoProofs.MultiB.BufferWhen — BufferWhen delivers the source's values partitioned at the boundary
  ticks, for every pair of scripts and every interleaving.
-/
import RoProofs.MultiB.Core
import RoModel.MultiB.BufferWhen
import RoModel.Spec.MultiB
namespace Ro.MultiB
open Spec
variable {α γ : Type}

/-! ### cutting the source's values at the ticks -/

theorem body_cons_next (i : Nat) (v : α) (r : Arr α) : body ((i, .next v) :: r) = (i, .next v) :: body r := rfl
theorem stop_cons_next (i : Nat) (v : α) (r : Arr α) : stop ((i, .next v) :: r) = stop r := rfl

theorem segments_ne_nil (l : Arr α) : segments l ≠ [] := by
  induction l with
  | nil => simp [segments]
  | cons p r ih =>
    obtain ⟨i, x⟩ := p
    cases x with
    | next v =>
      simp only [segments]
      split
      · split <;> simp
      · simp
    | error e => simpa [segments] using ih
    | complete => simpa [segments] using ih

/-- the segments with `buf` put in front of the first one -/
def segmentsWith (buf : List α) (l : Arr α) : List (List α) :=
  match segments l with
  | s :: ss => (buf ++ s) :: ss
  | [] => [buf]

theorem segmentsWith_nil (l : Arr α) : segmentsWith [] l = segments l := by
  unfold segmentsWith
  split
  · rename_i s ss h; simp [h]
  · rename_i h; exact absurd h (segments_ne_nil l)

theorem segmentsWith_value (buf : List α) (v : α) (l : Arr α) :
    segmentsWith buf ((0, .next v) :: l) = segmentsWith (buf ++ [v]) l := by
  unfold segmentsWith
  simp only [segments, if_true]
  cases hsg : segments l with
  | nil => exact absurd hsg (segments_ne_nil _)
  | cons s ss => simp

theorem segmentsWith_tick (buf : List α) (i : Nat) (hi : i ≠ 0) (v : α) (l : Arr α) :
    segmentsWith buf ((i, .next v) :: l) = buf :: segmentsWith [] l := by
  rw [segmentsWith_nil]
  simp [segmentsWith, segments, hi]

/-- what is emitted from the values `buf` on: `tick` at every tick for the values since the last
    one, `fin` for the values after the last tick when the arrivals end (`none`) or at the first terminal -/
def cutFrom (tick : List α → γ) (fin : List α → Option (Ev α) → List γ) (buf : List α) : Arr α → List γ
  | [] => fin buf none
  | (i, .next v) :: r => if i = 0 then cutFrom tick fin (buf ++ [v]) r else tick buf :: cutFrom tick fin [] r
  | (_, .error e) :: _ => fin buf (some (.error e))
  | (_, .complete) :: _ => fin buf (some .complete)

theorem cutFrom_eq (tick : List α → γ) (fin : List α → Option (Ev α) → List γ) (buf : List α) (arr : Arr α) :
    ∃ ss last, segmentsWith buf (body arr) = ss ++ [last] ∧ cutFrom tick fin buf arr = ss.map tick ++ fin last (stop arr) := by
  induction arr generalizing buf with
  | nil => exact ⟨[], buf, by simp [body, segmentsWith, segments], rfl⟩
  | cons p r ih =>
    obtain ⟨i, x⟩ := p
    cases x with
    | next v =>
      rw [body_cons_next, stop_cons_next]
      by_cases hi : i = 0
      · subst hi
        rw [segmentsWith_value]
        simpa [cutFrom] using ih (buf ++ [v])
      · obtain ⟨ss, last, hs, hc⟩ := ih []
        exact ⟨buf :: ss, last, by rw [segmentsWith_tick buf i hi, hs]; rfl, by simp [cutFrom, hi, hc]⟩
    | error e => exact ⟨[], buf, by simp [body, segmentsWith, segments], rfl⟩
    | complete => exact ⟨[], buf, by simp [body, segmentsWith, segments], rfl⟩

/-! ### BufferWhen -/

theorem bufferWhen_allHot : AllHot (bufferWhenM (α := α)) where
  start_subs := rfl
  step_subs := by
    intro st i x
    cases x <;> rcases i with _ | i <;> rfl
  hot := rfl
  start_gated := rfl
  step_gated := by
    intro st i x
    cases x <;> rcases i with _ | i <;> rfl

/-- what the callbacks emit when the arrivals end or at the first terminal -/
def bwEnd (buf : List α) : Option (Ev α) → List (Ev (List α))
  | none => []
  | some (.error e) => [.error e]
  | some _ => [.next buf, .complete]

theorem bufferWhen_abs_running (arr : Arr α) (a : Acc (List α) (List α)) (hrun : a.running = true) :
    (arr.foldl (bufferWhenM (α := α)).absStep a).out = a.out ++ cutFrom .next bwEnd a.st arr := by
  induction arr generalizing a with
  | nil => simp [cutFrom, bwEnd]
  | cons p r ih =>
    obtain ⟨i, x⟩ := p
    rw [List.foldl_cons, absStep_running _ _ _ _ hrun]
    rcases i with _ | i <;> cases x
    case zero.next v => rw [ih _ rfl]; simp [cutFrom]; rfl
    case succ.next v => rw [ih _ rfl]; simp [cutFrom]; rfl
    all_goals rw [abs_stopped_out _ _ _ rfl]; rfl

/-- **BufferWhen = Spec.bufferWhen**, for every pair of source scripts and every interleaving. -/
theorem bufferWhen_spec (scripts : List (List (Ev α))) (hlen : scripts.length ≤ 2) (order : List Nat) :
    (run bufferWhenM scripts order).out = Spec.bufferWhen (arrivals (scriptsFn scripts) order) := by
  rw [run_out_abs bufferWhenM bufferWhen_allHot scripts hlen order]
  unfold Machine.abs Spec.bufferWhen
  rw [bufferWhen_abs_running _ _ rfl]
  obtain ⟨ss, last, hs, hc⟩ := cutFrom_eq Ev.next bwEnd [] (arrivals (scriptsFn scripts) order)
  rw [segmentsWith_nil] at hs
  show [] ++ cutFrom Ev.next bwEnd [] _ = _
  rw [List.nil_append, hs, hc]
  cases stop (arrivals (scriptsFn scripts) order) with
  | none => simp [bwEnd]
  | some t => cases t <;> simp [bwEnd]

end Ro.MultiB
