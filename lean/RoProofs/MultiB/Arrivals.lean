/-
  RoProofs.MultiB.Arrivals — facts about `arrivals` (who can arrive, nobody after its own terminal)
  and about the history vocabulary of the specifications (`valsOf`, `completed`) under snoc.
-/
import RoProofs.MultiB.Core
import RoModel.Spec.MultiB
namespace Ro.MultiB
open Spec
variable {α : Type}

/-- only sources that have a script arrive -/
theorem arrivals_lt (n : Nat) (order : List Nat) (rest : Nat → List (Ev α)) (hrest : ∀ i, n ≤ i → rest i = []) :
    ∀ p ∈ arrivals rest order, p.1 < n := by
  refine arrivals_induct (P := fun rest arr => (∀ i, n ≤ i → rest i = []) → ∀ p ∈ arr, p.1 < n)
    (fun _ _ _ h => nomatch h) ?_ rest order hrest
  intro rest i x r arr hr ih hrest p hp
  have hi : i < n := Nat.lt_of_not_le fun h => by simp [hrest i h] at hr
  rcases List.mem_cons.mp hp with rfl | h
  · exact hi
  · exact ih (fun j hj => by rw [upd_other _ _ _ _ (by omega)]; exact hrest j hj) p h

/-- source `i` has issued its terminal -/
def terminated (i : Nat) (h : Arr α) : Bool := h.any (fun p => p.1 == i && p.2.isTerminal)

/-- nobody arrives after its own terminal -/
def noRepeat (past : Arr α) : Arr α → Bool
  | [] => true
  | (i, x) :: r => !(terminated i past) && noRepeat (past ++ [(i, x)]) r

theorem terminated_snoc (j i : Nat) (x : Ev α) (h : Arr α) :
    terminated j (h ++ [(i, x)]) = (terminated j h || (i == j && x.isTerminal)) := by
  simp [terminated, List.any_append]

theorem arrivals_noRepeat_aux (order : List Nat) (rest : Nat → List (Ev α)) (past : Arr α)
    (h : ∀ i, terminated i past = true → rest i = []) : noRepeat past (arrivals rest order) = true := by
  refine arrivals_induct
    (P := fun rest arr => ∀ past, (∀ i, terminated i past = true → rest i = []) → noRepeat past arr = true)
    (fun _ _ _ => rfl) ?_ rest order past h
  intro rest i x r arr hr ih past h
  simp only [noRepeat, Bool.and_eq_true, Bool.not_eq_true']
  refine ⟨?_, ih _ fun j hj => ?_⟩
  · cases ht : terminated i past
    · rfl
    · rw [h i ht] at hr; cases hr
  · rw [terminated_snoc] at hj
    by_cases hji : j = i
    · subst hji
      cases hx : x.isTerminal
      · simp only [hx, Bool.and_false, Bool.or_false] at hj
        rw [h j hj] at hr; cases hr
      · simp
    · rw [upd_other _ _ _ _ hji]
      exact h j (by simpa [show (i == j) = false by simp; omega] using hj)

theorem arrivals_noRepeat (order : List Nat) (rest : Nat → List (Ev α)) : noRepeat [] (arrivals rest order) = true :=
  arrivals_noRepeat_aux order rest [] (by intro i hi; simp [terminated] at hi)

/-! ### history vocabulary under snoc -/

theorem valsOf_append (j : Nat) (a b : Arr α) : valsOf j (a ++ b) = valsOf j a ++ valsOf j b :=
  List.filterMap_append

theorem valsOf_snoc_next (j i : Nat) (v : α) (h : Arr α) :
    valsOf j (h ++ [(i, .next v)]) = if i = j then valsOf j h ++ [v] else valsOf j h := by
  rw [valsOf_append]
  by_cases hij : i = j <;> simp [valsOf, hij, Ev.val?]

theorem valsOf_snoc_error (j i : Nat) (e : Err) (h : Arr α) : valsOf j (h ++ [(i, .error e)]) = valsOf j h := by
  simp [valsOf, Ev.val?]

theorem valsOf_snoc_complete (j i : Nat) (h : Arr α) : valsOf j (h ++ [(i, .complete)]) = valsOf j h := by
  simp [valsOf, Ev.val?]

theorem completed_snoc_next (j i : Nat) (v : α) (h : Arr α) : completed j (h ++ [(i, .next v)]) = completed j h := by
  simp [completed, List.any_append, Ev.isComplete]

theorem completed_snoc_complete (j i : Nat) (h : Arr α) :
    completed j (h ++ [(i, .complete)]) = (completed j h || i == j) := by
  simp [completed, List.any_append, Ev.isComplete]

theorem completed_le_terminated (j : Nat) (h : Arr α) (hc : completed j h = true) : terminated j h = true := by
  simp only [completed, terminated, List.any_eq_true] at *
  obtain ⟨p, hp, hq⟩ := hc
  refine ⟨p, hp, ?_⟩
  simp only [Bool.and_eq_true] at *
  refine ⟨hq.1, ?_⟩
  cases hx : p.2 <;> simp [hx, Ev.isComplete] at hq ⊢

theorem rowReady_lt (n k : Nat) (h : Arr α) (hr : rowReady n k h = true) (i : Nat) (hi : i < n) :
    k < (valsOf i h).length := by
  unfold rowReady at hr
  rw [List.all_eq_true] at hr
  simpa using hr i (List.mem_range.mpr hi)

/-! ### congruence over `List.range n` -/

theorem all_range_congr (n : Nat) (p q : Nat → Bool) (h : ∀ j, j < n → p j = q j) :
    (List.range n).all p = (List.range n).all q := by
  induction n with
  | zero => rfl
  | succ n ih =>
    rw [List.range_succ, List.all_append, List.all_append, ih (fun j hj => h j (by omega))]
    simp [h n (by omega)]

theorem any_range_congr (n : Nat) (p q : Nat → Bool) (h : ∀ j, j < n → p j = q j) :
    (List.range n).any p = (List.range n).any q := by
  induction n with
  | zero => rfl
  | succ n ih =>
    rw [List.range_succ, List.any_append, List.any_append, ih (fun j hj => h j (by omega))]
    simp [h n (by omega)]

theorem filterMap_range_congr {γ : Type} (n : Nat) (f g : Nat → Option γ) (h : ∀ j, j < n → f j = g j) :
    (List.range n).filterMap f = (List.range n).filterMap g := by
  induction n with
  | zero => rfl
  | succ n ih =>
    rw [List.range_succ, List.filterMap_append, List.filterMap_append, ih (fun j hj => h j (by omega))]
    simp only [List.filterMap_cons, List.filterMap_nil, h n (by omega)]

end Ro.MultiB
