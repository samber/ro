/-
  RoProofs.MultiB.Core — the run of an operator that subscribes all its sources at once and whose
  teardown releases them all ("all-hot": Zip*, CombineLatest*, BufferWhen, WindowWhen, GroupBy)
  is a fold of its callbacks over the arrivals, stopped at the first terminal emission or shared
  unsubscription. This separates the bookkeeping of `run` (gates, statuses, scripts) from the
  operator-specific reasoning, which becomes a statement about a fold over a list.
-/
import RoModel.MultiB.Core
namespace Ro.MultiB
variable {σ α β : Type}

def hasTerm (l : List (Ev β)) : Bool := l.any Ev.isTerminal

@[simp] theorem hasTerm_nil : hasTerm ([] : List (Ev β)) = false := rfl
@[simp] theorem hasTerm_cons (x : Ev β) (l : List (Ev β)) : hasTerm (x :: l) = (x.isTerminal || hasTerm l) := rfl
theorem hasTerm_append (a b : List (Ev β)) : hasTerm (a ++ b) = (hasTerm a || hasTerm b) := List.any_append

theorem gateEv_append_of_noTerm (a b : List (Ev β)) (h : hasTerm a = false) : gateEv (a ++ b) = a ++ gateEv b := by
  induction a with
  | nil => rfl
  | cons x xs ih =>
    simp only [hasTerm_cons, Bool.or_eq_false_iff] at h
    simp [gateEv, h.1, ih h.2]

theorem gateEv_of_noTerm (l : List (Ev β)) (h : hasTerm l = false) : gateEv l = l := by
  simpa [gateEv] using gateEv_append_of_noTerm l [] h

theorem hasTerm_gateEv (l : List (Ev β)) : hasTerm (gateEv l) = hasTerm l := by
  induction l with
  | nil => rfl
  | cons x xs ih => cases hx : x.isTerminal <;> simp [gateEv, hx, ih]

/-! ### the effects of one callback on the state of the run -/

/-- the downstream gate lets the emissions through up to the first terminal and refuses the rest -/
theorem foldl_push_eq (l : List (Ev β)) (s : St σ α β) :
    l.foldl St.push s =
      if s.downOpen then
        { s with out := s.out ++ gateEv l, downOpen := !hasTerm l,
                 drops := s.drops ++ (l.drop (gateEv l).length).map .down }
      else { s with drops := s.drops ++ l.map .down } := by
  induction l generalizing s with
  | nil => cases s; split <;> simp_all [gateEv]
  | cons x xs ih =>
    rw [List.foldl_cons, ih]
    cases s with | mk m rest status subs subsDone downOpen out drops =>
    cases downOpen <;> cases hx : x.isTerminal <;> simp [St.push, gateEv, hx]

theorem releaseAll_noLive (s : St σ α β) (j : Nat) : (s.releaseAll).status j ≠ .live := by
  simp only [St.releaseAll]
  split
  · simp
  · assumption

theorem foldl_subscribeOne_nil (s : St σ α β) : ([] : List Nat).foldl St.subscribeOne s = s := rfl

/-- subscribing a list of sources: those in the list that were idle are counted and become live (or
    done, when the shared subscription is already done); the others keep their status -/
theorem foldl_subscribeOne_eq (l : List Nat) (s : St σ α β) :
    l.foldl St.subscribeOne s =
      { s with status := fun j => if j ∈ l ∧ s.status j = .idle then (if s.subsDone then .done else .live) else s.status j,
               subs := fun j => if j ∈ l ∧ s.status j = .idle then s.subs j + 1 else s.subs j } := by
  induction l generalizing s with
  | nil => simp
  | cons x xs ih =>
    rw [List.foldl_cons, ih]
    unfold St.subscribeOne
    by_cases hx : s.status x = .idle
    · simp only [hx, if_true]
      congr 1 <;> funext j <;> by_cases hjx : j = x
      · subst hjx; cases s.subsDone <;> simp [upd, hx]
      · simp [upd, hjx]
      · subst hjx; cases s.subsDone <;> simp [upd, hx]
      · simp [upd, hjx]
    · simp only [hx, if_false]
      congr 1 <;> funext j <;> by_cases hjx : j = x
      · subst hjx; simp [hx]
      · simp [hjx]
      · subst hjx; simp [hx]
      · simp [hjx]

/-- status of a source after a callback: released when the callback (or the teardown it triggered)
    unsubscribed everything; subscribed when the callback asked for it -/
def statusAfter (released doneBefore : Bool) (subscribe : List Nat) (st : SrcStatus) (j : Nat) : SrcStatus :=
  let base := if released && st == .live then SrcStatus.done else st
  if j ∈ subscribe ∧ base = .idle then (if released || doneBefore then .done else .live) else base

theorem statusAfter_nosub (rel d : Bool) (st : SrcStatus) (j : Nat) :
    statusAfter rel d [] st j = if rel && st == .live then .done else st := by
  simp [statusAfter]

theorem statusAfter_released (d : Bool) (l : List Nat) (st : SrcStatus) (j : Nat) :
    statusAfter true d l st j ≠ .live := by
  cases st <;> simp [statusAfter] <;> split <;> simp

/-- a callback while the downstream is open -/
theorem apply_open (hot : Bool) (s : St σ α β) (e : Eff σ α β) (hopen : s.downOpen = true) :
    s.apply hot e =
      { m := e.st, rest := s.rest,
        status := fun j => statusAfter (e.unsubAll || hot && hasTerm e.emits) s.subsDone e.subscribe (s.status j) j,
        subs := fun j => if j ∈ e.subscribe ∧ s.status j = .idle then s.subs j + 1 else s.subs j,
        subsDone := e.unsubAll || hot && hasTerm e.emits || s.subsDone,
        downOpen := !hasTerm e.emits, out := s.out ++ gateEv e.emits,
        drops := s.drops ++ e.sdrops.map .subj ++ (e.emits.drop (gateEv e.emits).length).map .down } := by
  unfold St.apply
  rw [foldl_push_eq, foldl_subscribeOne_eq]
  simp only [hopen, if_true, Bool.not_not]
  cases e.unsubAll || hot && hasTerm e.emits
  · simp [statusAfter]
  · simp only [if_true, St.releaseAll, statusAfter, Bool.true_and, Bool.true_or, beq_iff_eq]
    congr 1 <;> funext j <;> cases s.status j <;> simp

theorem apply_closed (hot : Bool) (s : St σ α β) (e : Eff σ α β) (hclosed : s.downOpen = false) :
    (s.apply hot e).out = s.out := by
  unfold St.apply
  rw [foldl_push_eq, foldl_subscribeOne_eq]
  simp only [hclosed, Bool.false_eq_true, if_false]
  split <;> rfl

/-- what pushing, releasing and subscribing keep, a callback keeps -/
theorem apply_keeps {P : St σ α β → Prop} (hpush : ∀ t x, P t → P (t.push x)) (hrel : ∀ t, P t → P t.releaseAll)
    (hsub : ∀ t k, P t → P (t.subscribeOne k)) (hot : Bool) (s : St σ α β) (e : Eff σ α β)
    (h : P { s with m := e.st, drops := s.drops ++ e.sdrops.map .subj }) : P (s.apply hot e) := by
  unfold St.apply
  refine List.foldlRecOn _ _ ?_ fun t ht k _ => hsub t k ht
  have := List.foldlRecOn e.emits St.push h fun t ht x _ => hpush t x ht
  split
  · exact hrel _ this
  · exact this

theorem apply_m_rest (hot : Bool) (s : St σ α β) (e : Eff σ α β) :
    (s.apply hot e).m = e.st ∧ (s.apply hot e).rest = s.rest := by
  refine apply_keeps (P := fun t => t.m = e.st ∧ t.rest = s.rest) ?_ (fun _ h => h) ?_ hot s e ⟨rfl, rfl⟩
  · intro t x h; unfold St.push; split <;> exact h
  · intro t k h; unfold St.subscribeOne; split <;> exact h

theorem feed_nil (m : Machine σ α β) (s : St σ α β) (i : Nat) (h : s.rest i = []) : s.feed m i = s := by
  simp [St.feed, St.issue, h]

/-- a notification of a source that is not live is missed or refused -/
theorem feed_notlive (m : Machine σ α β) (s : St σ α β) (i : Nat) (x : Ev α) (r : List (Ev α))
    (hr : s.rest i = x :: r) (hl : s.status i ≠ .live) :
    s.feed m i = { s with m := m.tick s.m, rest := upd s.rest i (if x.isTerminal then [] else r),
                          drops := s.drops ++ if s.status i = .done then [.up i x] else [] } := by
  simp only [St.feed, St.issue, hr]
  cases hst : s.status i
  · simp
  · exact absurd hst hl
  · simp

/-- a notification of a live source runs its callback -/
theorem feed_live (m : Machine σ α β) (s : St σ α β) (i : Nat) (x : Ev α) (r : List (Ev α))
    (hr : s.rest i = x :: r) (hl : s.status i = .live) :
    s.feed m i =
      { St.apply m.hotTeardown
          { s with rest := upd s.rest i (if x.isTerminal then [] else r),
                   status := if x.isTerminal then upd s.status i .done else s.status } (m.step s.m i x)
        with m := m.tick (m.step s.m i x).st } := by
  simp only [St.feed, St.issue, hr, hl]
  cases x.isTerminal <;> simp only [(apply_m_rest ..).1] <;> rfl

theorem feed_rest (m : Machine σ α β) (s : St σ α β) (i : Nat) (x : Ev α) (r : List (Ev α)) (hr : s.rest i = x :: r) :
    (s.feed m i).rest = upd s.rest i (if x.isTerminal then [] else r) := by
  cases hst : s.status i
  case live => rw [feed_live m s i x r hr hst]; exact (apply_m_rest ..).2
  all_goals rw [feed_notlive m s i x r hr (by simp [hst])]

/-- once no source is live, nothing is delivered, subscribed or released any more -/
theorem foldl_feed_ended (m : Machine σ α β) (os : List Nat) (s : St σ α β) (h : ∀ j, s.status j ≠ .live) :
    (os.foldl (St.feed m) s).out = s.out ∧ (os.foldl (St.feed m) s).status = s.status ∧
    (os.foldl (St.feed m) s).subs = s.subs := by
  refine List.foldlRecOn (motive := fun t : St σ α β => t.out = s.out ∧ t.status = s.status ∧ t.subs = s.subs) os _
    ⟨rfl, rfl, rfl⟩ fun t ht i _ => ?_
  cases hr : t.rest i with
  | nil => rwa [feed_nil m t i hr]
  | cons x r => rw [feed_notlive m t i x r hr (ht.2.1 ▸ h i)]; exact ht

/-! ### a run is its arrivals, fed one at a time -/

theorem arrivals_skip (rest : Nat → List (Ev α)) (i : Nat) (os : List Nat) (h : rest i = []) :
    arrivals rest (i :: os) = arrivals rest os := by
  simp [arrivals, h]

theorem arrivals_cons (rest : Nat → List (Ev α)) (i : Nat) (os : List Nat) (x : Ev α) (r : List (Ev α))
    (h : rest i = x :: r) :
    arrivals rest (i :: os) = (i, x) :: arrivals (upd rest i (if x.isTerminal then [] else r)) os := by
  simp [arrivals, h]

/-- to prove something of every list of arrivals, look at the first one -/
theorem arrivals_induct {P : (Nat → List (Ev α)) → List (Nat × Ev α) → Prop} (nil : ∀ rest, P rest [])
    (cons : ∀ rest i x r arr, rest i = x :: r → P (upd rest i (if x.isTerminal then [] else r)) arr → P rest ((i, x) :: arr))
    (rest : Nat → List (Ev α)) (order : List Nat) : P rest (arrivals rest order) := by
  induction order generalizing rest with
  | nil => exact nil rest
  | cons i os ih =>
    cases hr : rest i with
    | nil => rw [arrivals_skip rest i os hr]; exact ih rest
    | cons x r => rw [arrivals_cons rest i os x r hr]; exact cons rest i x r _ hr (ih _)

/-- … and of every run: `Q s arr s'` for "feeding the arrivals `arr` to `s` gives `s'`" -/
theorem foldl_feed_induct (m : Machine σ α β) {Q : St σ α β → List (Nat × Ev α) → St σ α β → Prop} (nil : ∀ s, Q s [] s)
    (cons : ∀ s i x r os, s.rest i = x :: r →
      Q (s.feed m i) (arrivals (s.feed m i).rest os) (os.foldl (St.feed m) (s.feed m i)) →
      Q s ((i, x) :: arrivals (s.feed m i).rest os) (os.foldl (St.feed m) (s.feed m i)))
    (order : List Nat) (s : St σ α β) : Q s (arrivals s.rest order) (order.foldl (St.feed m) s) := by
  induction order generalizing s with
  | nil => exact nil s
  | cons i os ih =>
    rw [List.foldl_cons]
    cases hr : s.rest i with
    | nil => rw [arrivals_skip s.rest i os hr, feed_nil m s i hr]; exact ih s
    | cons x r =>
      rw [arrivals_cons s.rest i os x r hr, ← feed_rest m s i x r hr]
      exact cons s i x r os hr (ih _)

/-- the abstract run: machine state, everything emitted, and whether the sources are still heard -/
structure Acc (σ β : Type) where
  st : σ
  out : List (Ev β)
  running : Bool

def Machine.absInit (m : Machine σ α β) : Acc σ β :=
  { st := m.start.st, out := m.start.emits, running := !(m.start.unsubAll || hasTerm m.start.emits) }

def Machine.absStep (m : Machine σ α β) (a : Acc σ β) (p : Nat × Ev α) : Acc σ β :=
  if a.running then
    { st := m.tick (m.step a.st p.1 p.2).st,
      out := a.out ++ (m.step a.st p.1 p.2).emits,
      running := !((m.step a.st p.1 p.2).unsubAll || hasTerm (m.step a.st p.1 p.2).emits) }
  else { a with st := m.tick a.st }

def Machine.abs (m : Machine σ α β) (arr : List (Nat × Ev α)) : Acc σ β := arr.foldl m.absStep m.absInit

theorem absStep_running (m : Machine σ α β) (a : Acc σ β) (i : Nat) (x : Ev α) (h : a.running = true) :
    m.absStep a (i, x) =
      { st := m.tick (m.step a.st i x).st, out := a.out ++ (m.step a.st i x).emits,
        running := !((m.step a.st i x).unsubAll || hasTerm (m.step a.st i x).emits) } :=
  if_pos h

theorem absStep_stopped (m : Machine σ α β) (a : Acc σ β) (p : Nat × Ev α) (h : a.running = false) :
    m.absStep a p = { a with st := m.tick a.st } :=
  if_neg (by simp [h])

/-- once stopped, nothing more is emitted -/
theorem abs_stopped_out (m : Machine σ α β) (l : List (Nat × Ev α)) (b : Acc σ β) (hb : b.running = false) :
    (l.foldl m.absStep b).out = b.out := by
  induction l generalizing b with
  | nil => rfl
  | cons q l ih => rw [List.foldl_cons, absStep_stopped m b q hb]; exact ih _ hb

structure AllHot (m : Machine σ α β) : Prop where
  start_subs : m.start.subscribe = List.range m.n
  step_subs : ∀ st i x, (m.step st i x).subscribe = []
  hot : m.hotTeardown = true
  start_gated : gateEv m.start.emits = m.start.emits
  step_gated : ∀ st i x, gateEv (m.step st i x).emits = (m.step st i x).emits

structure RInv (m : Machine σ α β) (s : St σ α β) (a : Acc σ β) : Prop where
  st : s.m = a.st
  out : s.out = a.out
  down : s.downOpen = !hasTerm a.out
  run_open : a.running = true → s.downOpen = true
  run_live : a.running = true → ∀ j, s.rest j ≠ [] → s.status j = .live
  stop_dead : a.running = false → ∀ j, s.status j ≠ .live
  out_of_range : ∀ j, m.n ≤ j → s.rest j = []

theorem init_inv (m : Machine σ α β) (h : AllHot m) (rest : Nat → List (Ev α))
    (hrest : ∀ i, m.n ≤ i → rest i = []) : RInv m (m.init rest) m.absInit := by
  unfold Machine.init
  rw [apply_open _ _ _ rfl, h.hot, h.start_gated, h.start_subs]
  refine ⟨rfl, rfl, rfl, ?_, ?_, ?_, hrest⟩
  · intro hr
    simp only [Machine.absInit, Bool.not_eq_true', Bool.or_eq_false_iff] at hr
    simp [hr.2]
  · intro hr j hj
    simp only [Machine.absInit, Bool.not_eq_true', Bool.or_eq_false_iff] at hr
    have hjn : j < m.n := Nat.lt_of_not_le fun hc => hj (hrest j hc)
    simp [statusAfter, hr.1, hr.2, hjn]
  · intro hr j
    simp only [Machine.absInit, Bool.not_eq_false'] at hr
    simp only [Bool.true_and, hr]
    exact statusAfter_released _ _ _ _

theorem feed_inv (m : Machine σ α β) (h : AllHot m) (s : St σ α β) (a : Acc σ β) (hinv : RInv m s a)
    (i : Nat) (x : Ev α) (r : List (Ev α)) (hr : s.rest i = x :: r) :
    RInv m (s.feed m i) (m.absStep a (i, x)) := by
  have hne : s.rest i ≠ [] := by simp [hr]
  have hoor : ∀ j, m.n ≤ j → upd s.rest i (if x.isTerminal then [] else r) j = [] := by
    intro j hj
    rw [upd_other _ _ _ _ (by rintro rfl; exact hne (hinv.out_of_range _ hj))]
    exact hinv.out_of_range j hj
  cases hrun : a.running
  · -- the sources are not heard any more
    rw [feed_notlive m s i x r hr (hinv.stop_dead hrun i), absStep_stopped m a _ hrun]
    exact ⟨congrArg m.tick hinv.st, hinv.out, hinv.down, by simp [hrun], by simp [hrun], fun _ => hinv.stop_dead hrun, hoor⟩
  · -- source `i` is live: its callback runs
    have hnoterm : hasTerm a.out = false := by simpa [hinv.run_open hrun] using hinv.down.symm
    rw [feed_live m s i x r hr (hinv.run_live hrun i hne), apply_open,
      absStep_running m a _ _ hrun, h.hot, h.step_gated, h.step_subs, hinv.st]
    case hopen => exact hinv.run_open hrun
    refine ⟨rfl, congrArg (· ++ _) hinv.out, by simp [hasTerm_append, hnoterm], ?_, ?_, ?_, hoor⟩
    · intro hc
      simp only [Bool.not_eq_true', Bool.or_eq_false_iff] at hc
      simp [hc.2]
    · intro hc j hj
      simp only [Bool.not_eq_true', Bool.or_eq_false_iff] at hc
      simp only [statusAfter_nosub, hc.1, hc.2, Bool.true_and, Bool.or_self, Bool.false_and, Bool.false_eq_true, if_false]
      by_cases hji : j = i
      · subst hji
        cases hx : x.isTerminal
        · exact hinv.run_live hrun j hne
        · simp [hx] at hj
      · simp only [upd_other _ _ _ _ hji] at hj
        have := hinv.run_live hrun j hj
        split
        · rw [upd_other _ _ _ _ hji]; exact this
        · exact this
    · intro hc j
      simp only [Bool.not_eq_false'] at hc
      simp only [Bool.true_and, hc]
      exact statusAfter_released _ _ _ _

/-- the run of an all-hot machine is the fold of its callbacks over the arrivals -/
theorem runCore_abs (m : Machine σ α β) (h : AllHot m) (rest : Nat → List (Ev α))
    (hrest : ∀ i, m.n ≤ i → rest i = []) (order : List Nat) :
    RInv m (runCore m rest order) (m.abs (arrivals rest order)) := by
  have := foldl_feed_induct m (Q := fun s arr s' => ∀ a, RInv m s a → RInv m s' (arr.foldl m.absStep a))
    (fun _ _ ha => ha) (fun s i x r os hr ih a ha => ih _ (feed_inv m h s a ha i x r hr))
    order (m.init rest) _ (init_inv m h rest hrest)
  rwa [show (m.init rest).rest = rest from (apply_m_rest ..).2] at this

theorem scriptsFn_out_of_range (scripts : List (List (Ev α))) (n : Nat) (hlen : scripts.length ≤ n) :
    ∀ i, n ≤ i → scriptsFn scripts i = [] := by
  intro i hi; simp [scriptsFn, List.getD, List.getElem?_eq_none (by omega : scripts.length ≤ i)]

theorem run_abs (m : Machine σ α β) (h : AllHot m) (scripts : List (List (Ev α))) (hlen : scripts.length ≤ m.n)
    (order : List Nat) :
    RInv m (runCore m (scriptsFn scripts) order) (m.abs (arrivals (scriptsFn scripts) order)) :=
  runCore_abs m h _ (scriptsFn_out_of_range scripts m.n hlen) order

/-- … in particular: delivered trace and final machine state -/
theorem run_out_abs (m : Machine σ α β) (h : AllHot m) (scripts : List (List (Ev α))) (hlen : scripts.length ≤ m.n)
    (order : List Nat) : (run m scripts order).out = (m.abs (arrivals (scriptsFn scripts) order)).out :=
  (run_abs m h scripts hlen order).out

theorem run_st_abs (m : Machine σ α β) (h : AllHot m) (scripts : List (List (Ev α))) (hlen : scripts.length ≤ m.n)
    (order : List Nat) : (run m scripts order).m = m.finish (m.abs (arrivals (scriptsFn scripts) order)).st :=
  congrArg m.finish (run_abs m h scripts hlen order).st

/-- error (or any terminal) ends the output at once and releases the others: once the downstream
    has received a terminal, no source is live -/
theorem run_released (m : Machine σ α β) (h : AllHot m) (scripts : List (List (Ev α))) (hlen : scripts.length ≤ m.n)
    (order : List Nat) (hterm : hasTerm (run m scripts order).out = true) (j : Nat) :
    (run m scripts order).status j ≠ .live := by
  have hinv := run_abs m h scripts hlen order
  rw [show (run m scripts order).out = _ from hinv.out] at hterm
  cases hrun : (m.abs (arrivals (scriptsFn scripts) order)).running
  · exact hinv.stop_dead hrun j
  · simpa [hinv.down, hterm] using hinv.run_open hrun

end Ro.MultiB
