/-
  RoProofs.MultiB.ZipCorollaries — zip keeps every source's order and neither loses, duplicates nor
  invents a value: the `j`-th components of the delivered tuples are a prefix of source `j`'s values.
-/
import RoProofs.MultiB.Corollaries
namespace Ro.MultiB
open Spec
variable {α γ : Type}

theorem filterMap_range_all_some (n : Nat) (f : Nat → Option γ) (h : ∀ i, i < n → (f i).isSome = true) :
    ((List.range n).filterMap f).length = n ∧ ∀ j, j < n → ((List.range n).filterMap f)[j]? = f j := by
  induction n with
  | zero => exact ⟨rfl, fun j hj => absurd hj (Nat.not_lt_zero j)⟩
  | succ n ih =>
    have ih' := ih (fun i hi => h i (by omega))
    obtain ⟨v, hv⟩ := Option.isSome_iff_exists.mp (h n (by omega))
    have hlast : List.filterMap f [n] = [v] := by simp [hv]
    rw [List.range_succ, List.filterMap_append, hlast]
    refine ⟨by simp [ih'.1], ?_⟩
    intro j hj
    by_cases hjn : j < n
    · rw [List.getElem?_append_left (by rw [ih'.1]; exact hjn)]
      exact ih'.2 j hjn
    · have : j = n := by omega
      subst this
      rw [List.getElem?_append_right (by rw [ih'.1]; exact Nat.le_refl _), ih'.1]
      simp [hv]

theorem row_component (n k : Nat) (h : Arr α) (hr : rowReady n k h = true) (j : Nat) (hj : j < n) :
    (row n k h)[j]? = (valsOf j h)[k]? :=
  (filterMap_range_all_some n (fun i => (valsOf i h)[k]?) fun i hi => by simp [rowReady_lt n k h hr i hi]).2 j hj

theorem zipFrom_component (n j : Nat) (hj : j < n) (rest : Arr α) (past : Arr α) (k : Nat)
    (hk : ∀ i, i < n → k ≤ (valsOf i past).length) :
    (outVals (zipFrom n past k rest)).filterMap (fun r => r[j]?) <+: (valsOf j (past ++ rest)).drop k := by
  induction rest generalizing past k with
  | nil => simp [zipFrom]
  | cons p r ih =>
    obtain ⟨i, x⟩ := p
    cases x with
    | next v =>
      have happ : past ++ (i, Ev.next v) :: r = (past ++ [(i, Ev.next v)]) ++ r := by simp
      have hlen : ∀ i', (valsOf i' past).length ≤ (valsOf i' (past ++ [(i, Ev.next v)])).length := by
        intro i'; rw [valsOf_snoc_next]; split <;> simp
      simp only [zipFrom]
      cases hr : rowReady n k (past ++ [(i, Ev.next v)])
      · simp only [Bool.false_eq_true, if_false]
        rw [happ]
        exact ih _ k (fun i' hi' => Nat.le_trans (hk i' hi') (hlen i'))
      · simp only [if_true]
        have hkl := rowReady_lt n k _ hr
        have hkj := hkl j hj
        have hkj' : k < (valsOf j ((past ++ [(i, Ev.next v)]) ++ r)).length := by
          rw [valsOf_append]; simp; omega
        rw [happ, List.drop_eq_getElem_cons hkj']
        have hhead : (row n k (past ++ [(i, Ev.next v)]))[j]? = some ((valsOf j ((past ++ [(i, Ev.next v)]) ++ r))[k]) := by
          rw [row_component n k _ hr j hj, ← List.getElem?_eq_getElem hkj',
            valsOf_append j (past ++ [(i, Ev.next v)]) r, List.getElem?_append_left hkj]
        simp only [outVals_next, List.filterMap_cons, hhead]
        rw [List.cons_prefix_cons]
        refine ⟨rfl, ?_⟩
        split
        · have hc : outVals ([Ev.complete] : List (Ev (List α))) = [] := rfl
          rw [hc]; exact List.nil_prefix
        · exact ih _ (k + 1) (fun i' hi' => hkl i' hi')
    | error e =>
      have hc : outVals ([Ev.error e] : List (Ev (List α))) = [] := rfl
      simp only [zipFrom, hc]; exact List.nil_prefix
    | complete =>
      have happ : past ++ (i, Ev.complete) :: r = (past ++ [(i, Ev.complete)]) ++ r := by simp
      simp only [zipFrom]
      split
      · have hc : outVals ([Ev.complete] : List (Ev (List α))) = [] := rfl
        rw [hc]; exact List.nil_prefix
      · rw [happ]
        exact ih _ k (fun i' hi' => by rw [valsOf_snoc_complete]; exact hk i' hi')

/-- **per-source order, no duplication, no invention** for zip: the `j`-th components of the delivered
    tuples are a prefix of what source `j` delivered -/
theorem zip_component_prefix (n j : Nat) (hj : j < n) (arr : Arr α) :
    (outVals (Spec.zip n arr)).filterMap (fun r => r[j]?) <+: valsOf j arr := by
  have := zipFrom_component n j hj arr [] 0 (fun _ _ => Nat.zero_le _)
  simpa [Spec.zip] using this

/-- every delivered tuple has one component per source -/
theorem row_length (n k : Nat) (h : Arr α) (hr : rowReady n k h = true) : (row n k h).length = n :=
  (filterMap_range_all_some n (fun i => (valsOf i h)[k]?) fun i hi => by simp [rowReady_lt n k h hr i hi]).1

end Ro.MultiB
