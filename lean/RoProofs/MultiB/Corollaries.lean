/-
  RoProofs.MultiB.Corollaries — consequences of the `machine = specification` equalities that C05
  names explicitly: the delivered trace obeys the grammar; each source's values keep their order;
  nothing is lost, duplicated or invented.
-/
import RoProofs.MultiB.Arrivals
import RoProofs.MultiB.BufferWhen
namespace Ro.MultiB
open Spec
variable {σ α β γ : Type}

/-! ### the delivered trace of *any* multi-source machine obeys the grammar -/

theorem grammar_append_iff (a b : List (Ev β)) (ha : hasTerm a = false) : Grammar (a ++ b) ↔ Grammar b := by
  induction a with
  | nil => rfl
  | cons y ys ih =>
    simp only [hasTerm_cons, Bool.or_eq_false_iff] at ha
    simpa [Grammar, ha.1] using ih ha.2

theorem grammar_append_of_noTerm (a : List (Ev β)) (x : Ev β) (ha : hasTerm a = false) : Grammar (a ++ [x]) :=
  (grammar_append_iff a [x] ha).2 (by cases h : x.isTerminal <;> simp [Grammar, h])

theorem grammar_of_noTerm (a : List (Ev β)) (ha : hasTerm a = false) : Grammar a := by
  simpa using (grammar_append_iff a [] ha).2 trivial

/-- gate invariant: while the downstream is open nothing terminal has been delivered -/
def GateInv (s : St σ α β) : Prop := Grammar s.out ∧ (s.downOpen = true → hasTerm s.out = false)

theorem push_gateInv (s : St σ α β) (x : Ev β) (h : GateInv s) : GateInv (s.push x) := by
  unfold St.push
  cases hd : s.downOpen
  · exact ⟨h.1, by intro hc; simp at hc⟩
  · have hn := h.2 hd
    refine ⟨grammar_append_of_noTerm _ _ hn, ?_⟩
    intro hc
    simp only [if_true] at hc
    simp only [if_true, hasTerm_append, hn, hasTerm_cons, hasTerm_nil, Bool.or_false, Bool.false_or]
    simpa using hc

theorem apply_gateInv (hot : Bool) (s : St σ α β) (e : Eff σ α β) (h : GateInv s) : GateInv (s.apply hot e) :=
  apply_keeps push_gateInv (fun _ h => h) (fun t k h => by unfold St.subscribeOne; split <;> exact h) hot s e h

theorem feed_gateInv (m : Machine σ α β) (s : St σ α β) (i : Nat) (h : GateInv s) : GateInv (s.feed m i) := by
  cases hr : s.rest i with
  | nil => rwa [feed_nil m s i hr]
  | cons x r =>
    by_cases hl : s.status i = .live
    · rw [feed_live m s i x r hr hl]; exact apply_gateInv _ _ _ h
    · rw [feed_notlive m s i x r hr hl]; exact h

/-- **Grammar**: whatever the machine, the scripts and the interleaving, the delivered trace is
    values, then at most one terminal, then nothing. -/
theorem run_grammar (m : Machine σ α β) (scripts : List (List (Ev α))) (order : List Nat) :
    Grammar (run m scripts order).out :=
  (List.foldlRecOn order (St.feed m) (apply_gateInv _ { m := m.start.st, rest := scriptsFn scripts } m.start ⟨trivial, fun _ => rfl⟩)
    fun s h i _ => feed_gateInv m s i h).1

/-! ### values of a trace -/

def outVals (l : List (Ev γ)) : List γ := l.filterMap Ev.val?

@[simp] theorem outVals_nil : outVals ([] : List (Ev γ)) = [] := rfl
@[simp] theorem outVals_next (v : γ) (l : List (Ev γ)) : outVals (.next v :: l) = v :: outVals l := rfl
@[simp] theorem outVals_error (e : Err) (l : List (Ev γ)) : outVals (.error e :: l) = outVals l := rfl
@[simp] theorem outVals_complete (l : List (Ev γ)) : outVals (.complete :: l) = outVals l := rfl
theorem outVals_append (a b : List (Ev γ)) : outVals (a ++ b) = outVals a ++ outVals b := by
  simp [outVals, List.filterMap_append]
theorem outVals_map_next (l : List γ) : outVals (l.map Ev.next) = l := by
  induction l with
  | nil => rfl
  | cons x xs ih => simp [ih]

/-! ### concat: the delivered values are a subsequence of the arrivals, in arrival order -/

theorem concat_values_sublist (n : Nat) (outer : OuterEnd) (k : Nat) (arr : Arr α) :
    (outVals (concatFrom n outer k arr)).Sublist (arr.filterMap (fun p => p.2.val?)) := by
  induction arr generalizing k with
  | nil => simp [concatFrom]
  | cons p r ih =>
    obtain ⟨i, x⟩ := p
    simp only [concatFrom]
    split
    · cases x with
      | next v =>
        simp only [outVals_next, List.filterMap_cons, Ev.val?]
        exact (ih k).cons_cons v
      | error e => simp [Ev.val?]
      | complete =>
        simp only [List.filterMap_cons, Ev.val?]
        split
        · exact ih (k + 1)
        · cases outer <;> simp [outerEmits]
    · cases x with
      | next v =>
        simp only [List.filterMap_cons, Ev.val?]
        exact (ih k).cons v
      | error e => simpa [Ev.val?] using ih k
      | complete => simpa [Ev.val?] using ih k

/-! ### bufferWhen / windowWhen: the segments are a partition of the source's values -/

theorem segmentsWith_flatten (buf : List α) (l : Arr α) : (segmentsWith buf l).flatten = buf ++ valsOf 0 l := by
  induction l generalizing buf with
  | nil => simp [segmentsWith, segments, valsOf]
  | cons p r ih =>
    obtain ⟨i, x⟩ := p
    cases x with
    | next v =>
      by_cases hi : i = 0
      · subst hi; rw [segmentsWith_value, ih]; simp [valsOf, Ev.val?]
      · rw [segmentsWith_tick buf i hi, List.flatten_cons, ih]; simp [valsOf, hi]
    | error e => exact (ih buf).trans (by simp [valsOf, Ev.val?])
    | complete => exact (ih buf).trans (by simp [valsOf, Ev.val?])

theorem segments_flatten (l : Arr α) : (segments l).flatten = valsOf 0 l := by
  rw [← segmentsWith_nil, segmentsWith_flatten, List.nil_append]

/-- no loss, no duplication, order kept: when either source completes, the delivered buffers,
    concatenated, are exactly the values the source delivered before that -/
theorem bufferWhen_partition (arr : Arr α) (h : stop arr = some .complete) :
    (outVals (Spec.bufferWhen arr)).flatten = valsOf 0 (body arr) := by
  unfold Spec.bufferWhen
  rw [h]
  simp [outVals_append, outVals_map_next, segments_flatten]

/-- … and in every case they are a prefix of them (nothing invented, nothing reordered) -/
theorem bufferWhen_prefix (arr : Arr α) : (outVals (Spec.bufferWhen arr)).flatten <+: valsOf 0 (body arr) := by
  have : outVals (Spec.bufferWhen arr) <+: segments (body arr) := by
    unfold Spec.bufferWhen
    rcases stop arr with _ | _ | e | _ <;>
      simp [outVals_append, -List.map_dropLast, outVals_map_next, List.dropLast_prefix]
  obtain ⟨t, ht⟩ := this
  rw [← segments_flatten, ← ht, List.flatten_append]
  exact List.prefix_append _ _

end Ro.MultiB
