/-
  RoProofs.MultiB.CombineLatest — CombineLatestWith1…4 / CombineLatestAll deliver, for every tuple of
  source scripts and every interleaving, the latest tuple on every update once all sources have
  emitted, and complete exactly when all sources have completed.
-/
import RoProofs.MultiB.Arrivals
import RoModel.MultiB.CombineLatest
namespace Ro.MultiB
open Spec
variable {α : Type}

theorem clStep_subs (n : Nat) (st : CLSt α) (i : Nat) (x : Ev α) : (clStep n st i x).subscribe = [] := by
  cases x <;> rfl

theorem clStep_gated (n : Nat) (st : CLSt α) (i : Nat) (x : Ev α) :
    gateEv (clStep n st i x).emits = (clStep n st i x).emits := by
  cases x with
  | next v => simp only [clStep]; split <;> rfl
  | error e => rfl
  | complete => simp only [clStep]; split <;> rfl

theorem combineLatest_allHot (n : Nat) : AllHot (combineLatestM (α := α) n) where
  start_subs := rfl
  step_subs := clStep_subs n
  hot := rfl
  start_gated := rfl
  step_gated := clStep_gated n

theorem countP_range_flip (n i : Nat) (p : Nat → Bool) (hi : i < n) (hp : p i = false) :
    (List.range n).countP (fun j => p j || i == j) = (List.range n).countP p + 1 := by
  induction n with
  | zero => omega
  | succ n ih =>
    rw [List.range_succ, List.countP_append, List.countP_append]
    by_cases hin : i = n
    · subst hin
      have h1 : (List.range i).countP (fun j => p j || i == j) = (List.range i).countP p := by
        apply List.countP_congr
        intro j hj
        have : j < i := List.mem_range.mp hj
        have hne : (i == j) = false := by simp; omega
        simp [hne]
      rw [h1]
      simp [hp]
    · have hlt : i < n := by omega
      rw [ih hlt]
      have hne : (i == n) = false := by simp; omega
      simp [List.countP_cons, hne]
      omega

structure CInv (n : Nat) (a : Acc (CLSt α) (List α)) (past : Arr α) : Prop where
  running : a.running = true
  latest : ∀ j, j < n → a.st.latest j = latestOf j past
  status : a.st.status = (List.range n).countP (fun j => completed j past)
  lt : a.st.status < n

theorem latestOf_snoc_next (j i : Nat) (v : α) (h : Arr α) :
    latestOf j (h ++ [(i, .next v)]) = if i = j then some v else latestOf j h := by
  unfold latestOf
  rw [valsOf_snoc_next]
  by_cases hij : i = j <;> simp [hij]

theorem cl_abs (n : Nat) (rest : Arr α) (a : Acc (CLSt α) (List α)) (past : Arr α) (hinv : CInv n a past)
    (hlt : ∀ p ∈ rest, p.1 < n) (hnr : noRepeat past rest = true) :
    (rest.foldl (combineLatestM n).absStep a).out = a.out ++ combineLatestFrom n past rest := by
  induction rest generalizing a past with
  | nil => simp [combineLatestFrom]
  | cons p r ih =>
    obtain ⟨i, x⟩ := p
    have hi : i < n := hlt (i, x) (List.mem_cons_self ..)
    have hlt' : ∀ p ∈ r, p.1 < n := fun p hp => hlt p (List.mem_cons_of_mem _ hp)
    simp only [noRepeat, Bool.and_eq_true, Bool.not_eq_true'] at hnr
    rw [List.foldl_cons, absStep_running _ _ _ _ hinv.running]
    cases x with
    | next v =>
      have hlat : ∀ j, j < n → (upd a.st.latest i (some v)) j = latestOf j (past ++ [(i, .next v)]) := by
        intro j hj
        rw [latestOf_snoc_next]
        by_cases hij : i = j
        · subst hij; simp
        · rw [upd_other _ _ _ _ (by omega), if_neg hij]; exact hinv.latest j hj
      have hall : (List.range n).all (fun j => ((upd a.st.latest i (some v)) j).isSome) =
          (List.range n).all (fun j => (latestOf j (past ++ [(i, .next v)])).isSome) :=
        all_range_congr n _ _ fun j hj => by rw [hlat j hj]
      have hrow : (List.range n).filterMap (upd a.st.latest i (some v)) =
          (List.range n).filterMap (fun j => latestOf j (past ++ [(i, .next v)])) :=
        filterMap_range_congr n _ _ hlat
      have hst : decide (a.st.status < n) = true := by simp [hinv.lt]
      show (r.foldl (combineLatestM n).absStep ⟨(clStep n a.st i (.next v)).st, a.out ++ (clStep n a.st i (.next v)).emits,
        !(false || hasTerm (clStep n a.st i (.next v)).emits)⟩).out = _
      simp only [clStep, hall, hrow, hst, Bool.true_and]
      refine Eq.trans (ih _ (past ++ [(i, Ev.next v)]) ⟨?_, hlat, ?_, hinv.lt⟩ hlt' hnr.2) (by simp [combineLatestFrom])
      · split <;> rfl
      · show a.st.status = _
        rw [hinv.status]
        exact List.countP_congr fun j _ => by rw [completed_snoc_next]
    | error e =>
      rw [abs_stopped_out _ _ _ rfl]
      rfl
    | complete =>
      have hnc : completed i past = false := by
        cases hc : completed i past
        · rfl
        · have := completed_le_terminated i past hc
          rw [hnr.1] at this; cases this
      have hcount : (List.range n).countP (fun j => completed j (past ++ [(i, .complete)])) = a.st.status + 1 := by
        rw [hinv.status, ← countP_range_flip n i (fun j => completed j past) hi hnc]
        exact List.countP_congr fun j _ => by rw [completed_snoc_complete]
      have hallc : (List.range n).all (fun j => completed j (past ++ [(i, .complete)])) = decide (a.st.status + 1 = n) := by
        rw [Bool.eq_iff_iff, List.all_eq_true, decide_eq_true_eq, ← List.countP_eq_length, hcount, List.length_range]
      show (r.foldl (combineLatestM n).absStep ⟨(clStep n a.st i .complete).st, a.out ++ (clStep n a.st i .complete).emits,
        !(false || hasTerm (clStep n a.st i .complete).emits)⟩).out = _
      by_cases heq : a.st.status + 1 = n
      · simp only [clStep, heq, if_true]
        rw [abs_stopped_out _ _ _ rfl]
        simp [combineLatestFrom, hallc, heq]
      · simp only [clStep, heq, if_false]
        refine Eq.trans (ih _ (past ++ [(i, Ev.complete)]) ⟨rfl, ?_, hcount.symm, ?_⟩ hlt' hnr.2)
          (by simp [combineLatestFrom, hallc, heq])
        · intro j hj
          show a.st.latest j = _
          rw [hinv.latest j hj]
          unfold latestOf
          rw [valsOf_snoc_complete]
        · show a.st.status + 1 < n
          have := hinv.lt
          omega

/-- **CombineLatestWith{n-1} = Spec.combineLatest**, for every `n ≥ 1`, every tuple of source scripts
    and every interleaving. -/
theorem combineLatest_spec (n : Nat) (hn : 0 < n) (scripts : List (List (Ev α))) (hlen : scripts.length ≤ n)
    (order : List Nat) :
    (run (combineLatestM n) scripts order).out = Spec.combineLatest n (arrivals (scriptsFn scripts) order) := by
  have hlen' : scripts.length ≤ (combineLatestM (α := α) n).n := hlen
  rw [run_out_abs (combineLatestM n) (combineLatest_allHot n) scripts hlen' order]
  unfold Machine.abs
  have hinv : CInv n (combineLatestM (α := α) n).absInit [] := by
    refine ⟨rfl, ?_, ?_, hn⟩
    · intro j _; rfl
    · show 0 = _
      rw [List.countP_eq_zero.mpr]
      intro j _; simp [completed]
  rw [cl_abs n _ _ [] hinv (arrivals_lt n order _ (scriptsFn_out_of_range scripts n hlen)) (arrivals_noRepeat order _)]
  rfl

end Ro.MultiB
