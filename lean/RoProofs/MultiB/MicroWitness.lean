/-
  RoProofs.MultiB.MicroWitness — the concurrent clause of C05 ("when sources emit truly concurrently
  the output is the definition's output for some arrival order compatible with each source's own
  order") FAILS in the micro-step model of Zip, CombineLatest, BufferWhen and WindowWhen: for each, a
  schedule whose delivered trace is the specification's value for NO compatible arrival order (and is
  not produced by the logical model either, so it is an effect of the interleaving of atomic steps,
  not of a logical deviation). The same outcomes are found on the real code by the stress
  runs of harness kind `multibc`. (The self-deadlock of Zip and the error overtaken by `Complete`
  are gone with the fix b6f7afa: see `zip_concurrent_error_scenario_ok`.)
-/
import RoModel.MultiB.Micro
namespace Ro.MultiB.Micro
open Ro Ro.MultiB

/-- Zip2, A = 1 then complete, B = 2. B pops (1,2) and releases the mutex; before it calls the
    destination, A's completion finds its queue empty and completes the destination; B's tuple is
    refused: the only tuple is lost. (Still so after the fix b6f7afa: the unlock-then-emit window of
    `onUpdate` is untouched by it.) -/
theorem zip_concurrent_lost_tuple_witness :
    let scripts : List (List (Ev Int)) := [[.next 1, .complete], [.next 2]]
    (runMicro (zipMM 2) scripts [0, 0, 1, 1, 0, 0, 0, 1, 1, 1]).out = [.complete] ∧
    (∀ π ∈ allOrders scripts, Spec.zip 2 (arrivals (scriptsFn scripts) π) ≠ [.complete]) ∧
    (∀ π ∈ allOrders scripts, (run (zipM 2) scripts π).out ≠ [.complete]) := by decide +kernel

/-- What the fix b6f7afa did repair in the concurrent behaviour, on the scenarios where the pinned
    code went wrong: over *all* schedules of the micro-step model, (i) A = 1 then error, B = 2: the
    delivered trace is always one the specification allows (the error is never overtaken by a
    `Complete` any more); (ii) A = 1 then complete, B = 2: the only traces are the specified one and
    the lost-tuple one above. No step of the model calls the destination while holding the mutex, so
    the self-deadlock of the pinned code (`destination.Complete` under the mutex, teardown locking
    it) has no counterpart. -/
theorem zip_concurrent_error_scenario_ok :
    let scripts : List (List (Ev Int)) := [[.next 1, .error (.user 1)], [.next 2]]
    ∀ s ∈ reach (zipMM 2) 40 ((zipMM 2).start scripts),
      s.out = [.error (.user 1)] ∨ s.out = [.next [1, 2], .error (.user 1)] := by decide +kernel

theorem zip_concurrent_complete_scenario_outcomes :
    let scripts : List (List (Ev Int)) := [[.next 1, .complete], [.next 2]]
    ∀ s ∈ reach (zipMM 2) 40 ((zipMM 2).start scripts),
      s.out = [.next [1, 2], .complete] ∨ s.out = [.complete] := by decide +kernel

/-- Zip2 can also deliver tuples out of order: A pops (1,3) and is delayed before calling the
    destination while B completes the next tuple (2,4) and delivers it first. -/
theorem zip_concurrent_reorder_witness :
    let scripts : List (List (Ev Int)) := [[.next 1, .next 2], [.next 3, .next 4]]
    (runMicro (zipMM 2) scripts [0, 0, 0, 1, 0, 1, 1, 1, 1, 1, 0, 0]).out = [.next [2, 4], .next [1, 3]] ∧
    (∀ π ∈ allOrders scripts, Spec.zip 2 (arrivals (scriptsFn scripts) π) = [.next [1, 3], .next [2, 4]]) := by decide +kernel

/-- CombineLatest2, A = 1, B = 2: both store their value, then each loads the other's: the first
    tuple is delivered twice. -/
theorem combineLatest_concurrent_duplicate_witness :
    let scripts : List (List (Ev Int)) := [[.next 1], [.next 2]]
    (runMicro (clMM 2) scripts [0, 1, 0, 0, 0, 1, 1, 1]).out = [.next [1, 2], .next [1, 2]] ∧
    (∀ π ∈ allOrders scripts, Spec.combineLatest 2 (arrivals (scriptsFn scripts) π) = [.next [1, 2]]) := by decide +kernel

/-- BufferWhen, source = 1 then complete, boundary = one tick: the tick takes the buffer [1] under
    the spinlock; before it delivers it, the source's completion flushes the (new, empty) buffer and
    completes; the buffer [1] is refused: the value is lost. -/
theorem bufferWhen_concurrent_lost_buffer_witness :
    let scripts : List (List (Ev Int)) := [[.next 1, .complete], [.next 0]]
    (runMicro bwMM scripts [0, 1, 0, 0, 0, 1]).out = [.next [], .complete] ∧
    (∀ π ∈ allOrders scripts, Spec.bufferWhen (arrivals (scriptsFn scripts) π) ≠ [.next [], .complete]) := by decide +kernel

/-- WindowWhen, source = 1, boundary = one tick: the source picks the current window under the
    spinlock; before it feeds it, the tick completes that window; the value is refused by the closed
    unicast subject: it appears in no window. -/
theorem windowWhen_concurrent_lost_value_witness :
    let scripts : List (List (Ev Int)) := [[.next 1], [.next 0]]
    let r := runMicro wwMM scripts [0, 1, 1, 1, 0]
    viewOut r.shared.wins r.out = [.next [.complete], .next []] ∧
    (∀ π ∈ allOrders scripts, Spec.windowWhen (arrivals (scriptsFn scripts) π) ≠ [.next [.complete], .next []]) := by decide +kernel

/-! sanity: a schedule that runs every callback to its end gives the logical model's trace -/
example : (runMicro (zipMM 2) [[Ev.next (1:Int), .complete], [.next 2]] [0, 0, 1, 1, 1, 1, 0, 0, 0]).out
    = (run (zipM 2) [[Ev.next (1:Int), .complete], [.next 2]] [0, 1, 0]).out := by decide +kernel
example : (runMicro bwMM [[Ev.next (1:Int), .complete], [.next 0]] [0, 1, 1, 0, 0, 0]).out
    = (run bufferWhenM [[Ev.next (1:Int), .complete], [.next 0]] [0, 1, 0]).out := by decide +kernel

end Ro.MultiB.Micro
