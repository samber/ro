/-
  RoProofs.MultiB.Concat — ConcatAll delivers its sources one after another, for every tuple of
  source scripts and every interleaving. ConcatAll subscribes its sources one at a time, so the
  all-hot abstraction of `RoProofs.MultiB.Core` does not apply; the run is followed directly with
  an invariant indexed by the source whose turn it is.
-/
import RoProofs.MultiB.Core
import RoModel.MultiB.Concat
import RoModel.Spec.MultiB
namespace Ro.MultiB
open Spec
variable {α : Type}

theorem concatOuterEmits_eq (outer : OuterEnd) : concatOuterEmits (α := α) outer = outerEmits outer := by
  cases outer <;> rfl

theorem gateEv_outerEmits (outer : OuterEnd) : gateEv (outerEmits (α := α) outer) = outerEmits outer := by
  cases outer <;> rfl

/-- it is source `k`'s turn: it is the only live source, the sources before it are done, those
    after it not yet subscribed, and nothing terminal has been delivered -/
structure CRun (n : Nat) (s : St ConcatSt α α) (k : Nat) : Prop where
  cur : s.m.cur = k
  lt : k < n
  dopen : s.downOpen = true
  nd : s.subsDone = false
  noterm : hasTerm s.out = false
  live : s.status k = .live
  before : ∀ j, j < k → s.status j = .done
  after : ∀ j, k < j → s.status j = .idle
  subs : ∀ j, s.subs j = if j ≤ k then 1 else 0

theorem CRun.notlive {n : Nat} {s : St ConcatSt α α} {k : Nat} (h : CRun n s k) (i : Nat) (hi : i ≠ k) :
    s.status i ≠ .live := by
  rcases Nat.lt_or_gt_of_ne hi with hc | hc
  · rw [h.before i hc]; decide
  · rw [h.after i hc]; decide

/-- a source whose turn it is not says something: missed or refused -/
theorem crun_other (n : Nat) (outer : OuterEnd) (s : St ConcatSt α α) (k i : Nat) (x : Ev α) (r : List (Ev α))
    (h : CRun n s k) (hr : s.rest i = x :: r) (hi : i ≠ k) :
    CRun n (s.feed (concatM n outer) i) k ∧ (s.feed (concatM n outer) i).out = s.out := by
  rw [feed_notlive _ s i x r hr (h.notlive i hi)]
  exact ⟨⟨h.cur, h.lt, h.dopen, h.nd, h.noterm, h.live, h.before, h.after, h.subs⟩, rfl⟩

/-- the source whose turn it is delivers a value -/
theorem crun_next (n : Nat) (outer : OuterEnd) (s : St ConcatSt α α) (k : Nat) (v : α) (r : List (Ev α))
    (h : CRun n s k) (hr : s.rest k = .next v :: r) :
    CRun n (s.feed (concatM n outer) k) k ∧ (s.feed (concatM n outer) k).out = s.out ++ [.next v] := by
  rw [feed_live _ s k _ r hr h.live, apply_open]
  case hopen => exact h.dopen
  refine ⟨⟨h.cur, h.lt, rfl, ?_, ?_, ?_, ?_, ?_, ?_⟩, rfl⟩
  · simp [h.nd, concatM, concatStep]
  · simp [hasTerm_append, h.noterm, concatM, concatStep, gateEv]
  · simp [statusAfter, concatM, concatStep, h.live]
  · intro j hj; simp [statusAfter, concatM, concatStep, h.before j hj]
  · intro j hj; simp [statusAfter, concatM, concatStep, h.after j hj]
  · intro j; simp [concatM, concatStep, h.subs j]

/-- the source whose turn it is completes and is not the last one: the next source is subscribed -/
theorem crun_complete_more (n : Nat) (outer : OuterEnd) (s : St ConcatSt α α) (k : Nat) (r : List (Ev α))
    (h : CRun n s k) (hr : s.rest k = .complete :: r) (hk : k + 1 < n) :
    CRun n (s.feed (concatM n outer) k) (k + 1) ∧ (s.feed (concatM n outer) k).out = s.out := by
  have he : (concatM n outer).step s.m k (.complete : Ev α) = { st := { cur := k + 1 }, subscribe := [k + 1] } := by
    simp [concatM, concatStep, h.cur, hk]
  rw [feed_live _ s k _ r hr h.live, apply_open, he]
  case hopen => exact h.dopen
  have hst : ∀ j, j ≠ k → upd s.status k .done j = s.status j := fun j hj => upd_other _ _ _ _ hj
  refine ⟨⟨rfl, hk, rfl, ?_, ?_, ?_, ?_, ?_, ?_⟩, by simp [gateEv]⟩
  · simp [h.nd]
  · simp [gateEv, h.noterm]
  · simp [statusAfter, hst (k + 1) (by omega), h.after (k + 1) (by omega), h.nd]
  · intro j hj
    by_cases hjk : j = k
    · subst hjk; simp [statusAfter]
    · simp [statusAfter, hst j hjk, h.before j (by omega)]
  · intro j hj
    simp [statusAfter, hst j (by omega), h.after j (by omega), Nat.ne_of_gt hj]
  · intro j
    by_cases hj : j = k + 1
    · subst hj; simp [hst (k + 1) (by omega), h.after (k + 1) (by omega), h.subs (k + 1)]
    · have : (j ≤ k + 1) = (j ≤ k) := by apply propext; omega
      simp [hj, this, h.subs j]

/-- the source whose turn it is ends the run (the last one completes, or it fails): what the
    callback emits is delivered, every source is released, and no further one is subscribed -/
theorem crun_end (n : Nat) (outer : OuterEnd) (s : St ConcatSt α α) (k : Nat) (x : Ev α) (r : List (Ev α))
    (h : CRun n s k) (hr : s.rest k = x :: r) (hx : x.isTerminal = true)
    (hsub : ((concatM n outer).step s.m k x).subscribe = []) :
    (s.feed (concatM n outer) k).out = s.out ++ gateEv ((concatM n outer).step s.m k x).emits ∧
    (∀ j, (s.feed (concatM n outer) k).status j ≠ .live) ∧
    (s.feed (concatM n outer) k).subs = s.subs := by
  rw [feed_live _ s k _ r hr h.live, apply_open, hsub]
  case hopen => exact h.dopen
  refine ⟨rfl, fun j => ?_, by simp⟩
  have : upd s.status k .done j ≠ .live := by
    by_cases hjk : j = k
    · subst hjk; simp
    · rw [upd_other _ _ _ _ hjk]; exact h.notlive j hjk
  simp only [hx, if_true, statusAfter_nosub]
  split
  · decide
  · exact this

theorem concatTurn_lt (n : Nat) (arr : Arr α) (k : Nat) (hk : k < n) : concatTurn n k arr < n := by
  induction arr generalizing k with
  | nil => exact hk
  | cons p rest ih =>
    obtain ⟨i, x⟩ := p
    by_cases hi : i = k
    · cases x with
      | next v => simpa [concatTurn, hi] using ih k hk
      | error e => simpa [concatTurn, hi] using hk
      | complete =>
        by_cases hm : k + 1 < n
        · simpa [concatTurn, hi, hm] using ih (k + 1) hm
        · simpa [concatTurn, hi, hm] using hk
    · simpa [concatTurn, hi] using ih k hk

/-- the run from a state in which it is source `k`'s turn: delivered trace, release at a terminal,
    subscription counts -/
theorem concat_run_aux (n : Nat) (outer : OuterEnd)
    (os : List Nat) (s : St ConcatSt α α) (k : Nat) (h : CRun n s k) :
    (os.foldl (St.feed (concatM n outer)) s).out = s.out ++ concatFrom n outer k (arrivals s.rest os) ∧
    (hasTerm (os.foldl (St.feed (concatM n outer)) s).out = true →
      ∀ j, (os.foldl (St.feed (concatM n outer)) s).status j ≠ .live) ∧
    (∀ j, (os.foldl (St.feed (concatM n outer)) s).subs j = if j ≤ concatTurn n k (arrivals s.rest os) then 1 else 0) := by
  refine foldl_feed_induct (concatM n outer)
    (Q := fun s arr s' => ∀ k, CRun n s k → s'.out = s.out ++ concatFrom n outer k arr ∧
      (hasTerm s'.out = true → ∀ j, s'.status j ≠ .live) ∧
      (∀ j, s'.subs j = if j ≤ concatTurn n k arr then 1 else 0)) ?_ ?_ os s k h
  · intro s k h
    exact ⟨by simp [concatFrom], fun ht => by simp [h.noterm] at ht, h.subs⟩
  intro s i x r os hr ih k h
  -- the run ends here: nothing more is delivered, subscribed or released
  have hend : ∀ emits : List (Ev α),
      (s.feed (concatM n outer) i).out = s.out ++ emits ∧ (∀ j, (s.feed (concatM n outer) i).status j ≠ .live) ∧
        (s.feed (concatM n outer) i).subs = s.subs →
      (os.foldl (St.feed (concatM n outer)) (s.feed (concatM n outer) i)).out = s.out ++ emits ∧
      (hasTerm (os.foldl (St.feed (concatM n outer)) (s.feed (concatM n outer) i)).out = true →
        ∀ j, (os.foldl (St.feed (concatM n outer)) (s.feed (concatM n outer) i)).status j ≠ .live) ∧
      ∀ j, (os.foldl (St.feed (concatM n outer)) (s.feed (concatM n outer) i)).subs j = if j ≤ k then 1 else 0 := by
    intro emits ⟨hout, hdead, hsubs⟩
    have := foldl_feed_ended (concatM n outer) os _ hdead
    exact ⟨this.1.trans hout, fun _ j => this.2.1 ▸ hdead j, fun j => by rw [this.2.2, hsubs]; exact h.subs j⟩
  by_cases hi : i = k
  · subst hi
    cases x with
    | next v =>
      obtain ⟨h', hout⟩ := crun_next n outer s i v r h hr
      simpa [concatFrom, concatTurn, hout] using ih i h'
    | error e =>
      simpa [concatFrom, concatTurn, concatM, concatStep, gateEv] using hend _ (crun_end n outer s i _ r h hr rfl rfl)
    | complete =>
      by_cases hm : i + 1 < n
      · obtain ⟨h', hout⟩ := crun_complete_more n outer s i r h hr hm
        simpa [concatFrom, concatTurn, hm, hout] using ih (i + 1) h'
      · have he : (concatM n outer).step s.m i (.complete : Ev α) =
            { st := { cur := n }, emits := outerEmits outer, unsubAll := concatOuterUnsub outer } := by
          simp [concatM, concatStep, h.cur, hm, concatOuterEmits_eq]
        simpa [concatFrom, concatTurn, hm, he, gateEv_outerEmits] using
          hend _ (crun_end n outer s i _ r h hr rfl (by rw [he]))
  · obtain ⟨h', hout⟩ := crun_other n outer s k i x r h hr hi
    simpa [concatFrom, concatTurn, hi, hout] using ih k h'

/-- with at least one source, the subscribe function subscribes source 0 and it is its turn -/
theorem concat_init_pos (n : Nat) (outer : OuterEnd) (rest : Nat → List (Ev α)) (hn : 0 < n) :
    CRun n ((concatM n outer).init rest) 0 ∧ ((concatM n outer).init rest).out = [] ∧
    ((concatM n outer).init rest).rest = rest := by
  have hstart : (concatM (α := α) n outer).start = { st := {}, subscribe := [0] } := by simp [concatM, hn]
  unfold Machine.init
  rw [apply_open _ _ _ rfl, hstart]
  refine ⟨⟨rfl, hn, rfl, rfl, rfl, by simp [statusAfter], nofun, fun j hj => ?_, fun j => ?_⟩, rfl, rfl⟩
  · simp [statusAfter, Nat.ne_of_gt hj]
  · by_cases hj : j = 0 <;> simp [hj]

/-- without sources, the subscribe function delivers the outer source's ending and subscribes nothing -/
theorem concat_init_zero (outer : OuterEnd) (rest : Nat → List (Ev α)) :
    ((concatM 0 outer).init rest).out = outerEmits outer ∧
    (∀ j, ((concatM 0 outer).init rest).status j = .idle) ∧
    (∀ j, ((concatM 0 outer).init rest).subs j = 0) := by
  have hstart : (concatM (α := α) 0 outer).start =
      { st := {}, emits := outerEmits outer, unsubAll := concatOuterUnsub outer } := by
    simp [concatM, concatOuterEmits_eq]
  unfold Machine.init
  rw [apply_open _ _ _ rfl, hstart]
  exact ⟨by simp [gateEv_outerEmits], fun j => by simp [statusAfter], fun j => by simp⟩

theorem concat_run (n : Nat) (outer : OuterEnd) (rest : Nat → List (Ev α)) (order : List Nat) :
    (runCore (concatM n outer) rest order).out = Spec.concat n outer (arrivals rest order) ∧
    (hasTerm (runCore (concatM n outer) rest order).out = true →
      ∀ j, (runCore (concatM n outer) rest order).status j ≠ .live) ∧
    ∀ j, (runCore (concatM n outer) rest order).subs j = if Spec.concatSubscribed n (arrivals rest order) j then 1 else 0 := by
  unfold runCore Spec.concat Spec.concatSubscribed
  rcases Nat.eq_zero_or_pos n with hn | hn
  · subst hn
    have h0 := concat_init_zero (α := α) outer rest
    have hdead : ∀ j, ((concatM 0 outer).init rest).status j ≠ .live := fun j => by simp [h0.2.1 j]
    have hend := foldl_feed_ended (concatM 0 outer) order _ hdead
    exact ⟨by simp [hend.1, h0.1], fun _ j => hend.2.1 ▸ hdead j, fun j => by simp [hend.2.2, h0.2.2 j]⟩
  · obtain ⟨h0, hout, hrest⟩ := concat_init_pos n outer rest hn
    have := concat_run_aux n outer order _ 0 h0
    rw [hout, hrest] at this
    refine ⟨by simp [this.1, Nat.ne_of_gt hn], this.2.1, fun j => ?_⟩
    have hlt := concatTurn_lt n (arrivals rest order) 0 hn
    rw [this.2.2 j]
    by_cases hj : j ≤ concatTurn n 0 (arrivals rest order)
    · simp [hj, show j < n by omega]
    · simp [hj]

/-- **ConcatAll = Spec.concat**, for every tuple of source scripts and every interleaving. -/
theorem concat_spec (n : Nat) (outer : OuterEnd) (scripts : List (List (Ev α))) (order : List Nat) :
    (run (concatM n outer) scripts order).out = Spec.concat n outer (arrivals (scriptsFn scripts) order) :=
  (concat_run n outer _ order).1

/-- **concat subscribes the next source only after the previous one completed**: source `j` is
    subscribed exactly when every source before it has completed in its turn — for every tuple of
    scripts and every interleaving; in particular after an inner error the remaining sources stay
    unsubscribed (fix 808ed47) -/
theorem concat_subs (n : Nat) (outer : OuterEnd) (scripts : List (List (Ev α))) (order : List Nat) (j : Nat) :
    (run (concatM n outer) scripts order).subs j = if Spec.concatSubscribed n (arrivals (scriptsFn scripts) order) j then 1 else 0 :=
  (concat_run n outer _ order).2.2 j

/-- after an inner error the remaining sources stay cold -/
example :
    let r := run (concatM (α := Int) 2 .complete) [[.error (.user 1)], [.next 5]] [0, 1]
    r.subs 1 = 0 ∧ r.out = [.error (.user 1)] := by decide +kernel

/-- an error ends the output at once and no source stays subscribed: whenever the delivered trace contains a terminal, no source is live -/
theorem concat_released (n : Nat) (outer : OuterEnd) (scripts : List (List (Ev α))) (hlen : scripts.length ≤ n) (order : List Nat)
    (hterm : hasTerm (run (concatM n outer) scripts order).out = true) (j : Nat) :
    (run (concatM n outer) scripts order).status j ≠ .live :=
  (concat_run n outer _ order).2.1 hterm j

/-- non-vacuity: three sources with values, interleaved; what sources 1 and 2 say before their
    turn is not part of the output -/
example :
    (run (concatM (α := Int) 3 .complete) [[.next 1, .next 2, .complete], [.next 10, .next 11, .complete], [.next 20, .next 21, .complete]]
        [1, 0, 2, 0, 0, 1, 1, 2, 2]).out = [.next 1, .next 2, .next 11, .next 21, .complete] ∧
    Spec.concat 3 .complete (arrivals (scriptsFn [[Ev.next (1:Int), .next 2, .complete], [.next 10, .next 11, .complete], [.next 20, .next 21, .complete]])
        [1, 0, 2, 0, 0, 1, 1, 2, 2]) = [.next 1, .next 2, .next 11, .next 21, .complete] := by decide +kernel

end Ro.MultiB
