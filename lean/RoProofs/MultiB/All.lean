/-
  RoProofs.MultiB.All — ZipAll / Zip and CombineLatestAll / CombineLatestAny over an outer source
  that emits its `n` inner sources and ends inside `Subscribe`.
-/
import RoProofs.MultiB.Zip
import RoProofs.MultiB.CombineLatest
namespace Ro.MultiB
open Spec
variable {σ α β : Type}

/-! ### an operator that never subscribes anything delivers what its subscribe function emits -/

theorem run_idle (m : Machine σ α β) (hs : m.start.subscribe = []) (scripts : List (List (Ev α))) (order : List Nat) :
    (run m scripts order).out = gateEv m.start.emits ∧ ∀ j, (run m scripts order).status j = .idle := by
  have hinit : (m.init (scriptsFn scripts)).out = gateEv m.start.emits ∧ ∀ j, (m.init (scriptsFn scripts)).status j = .idle := by
    unfold Machine.init
    rw [apply_open _ _ _ rfl, hs]
    exact ⟨List.nil_append _, fun j => by simp [statusAfter]⟩
  have := foldl_feed_ended m order (m.init (scriptsFn scripts)) fun j => by simp [hinit.2 j]
  exact ⟨this.1.trans hinit.1, fun j => (congrFun this.2.1 j).trans (hinit.2 j)⟩

/-! ### ZipAll -/

/-- **ZipAll = Spec.zipAll**, for every number of inner sources, every ending of the outer source,
    every tuple of scripts and every interleaving (with fix 655488e: the destination is not
    completed when the outer source completes while inner sources exist). -/
theorem zipAll_spec (n : Nat) (outer : OuterEnd) (scripts : List (List (Ev α))) (hlen : scripts.length ≤ n)
    (order : List Nat) :
    (run (zipAllM n outer) scripts order).out = Spec.zipAll n outer (arrivals (scriptsFn scripts) order) := by
  cases outer with
  | never => exact (run_idle (zipAllM n .never) rfl scripts order).1
  | error e => exact (run_idle (zipAllM n (.error e)) rfl scripts order).1
  | complete =>
    by_cases hn : n = 0
    · subst hn
      have : (zipAllM (α := α) 0 .complete).start.subscribe = [] := rfl
      exact (run_idle (zipAllM 0 .complete) this scripts order).1
    · have hm : zipAllM (α := α) n .complete = zipM n := by
        simp [zipAllM, zipM, hn]
      rw [hm, zip_spec n (by omega) scripts hlen order]
      simp [Spec.zipAll, hn]

/-! ### CombineLatestAll -/

/-- **CombineLatestAll = Spec.combineLatestAll**, for every number of inner sources, every ending of
    the outer source, every tuple of scripts and every interleaving. -/
theorem combineLatestAll_spec (n : Nat) (outer : OuterEnd) (scripts : List (List (Ev α))) (hlen : scripts.length ≤ n)
    (order : List Nat) :
    (run (combineLatestAllM n outer) scripts order).out = Spec.combineLatestAll n outer (arrivals (scriptsFn scripts) order) := by
  cases outer with
  | never => exact (run_idle (combineLatestAllM n .never) rfl scripts order).1
  | error e => exact (run_idle (combineLatestAllM n (.error e)) rfl scripts order).1
  | complete =>
    by_cases hn : n = 0
    · subst hn
      have : (combineLatestAllM (α := α) 0 .complete).start.subscribe = [] := rfl
      exact (run_idle (combineLatestAllM 0 .complete) this scripts order).1
    · have hm : combineLatestAllM (α := α) n .complete = combineLatestM n := by
        simp [combineLatestAllM, combineLatestM, hn]
      rw [hm, combineLatest_spec n (by omega) scripts hlen order]
      simp [Spec.combineLatestAll, hn]

end Ro.MultiB
