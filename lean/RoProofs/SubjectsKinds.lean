/-
  RoProofs.SubjectsKinds — publish / behavior / replay N / async refine their sequential definitions:
  for every buffer size, every operation sequence and every subscriber, the received trace is the
  definition's; the registered subscribers and the status are the definition's.
-/
import RoProofs.SubjectsSpec
namespace Ro.Subj
open Ro Ro.Subj.Spec

variable {α : Type}

theorem liveSpec_gate (P : MP α) (hl : P.live = true) (hf : P.flush = false) :
    ∀ (l : List (Notif α)) (m : List (Ctx × α)), liveSpec P m l = gate l
  | [], _ => rfl
  | .next c v :: r, m => by
    simp only [liveSpec, hl, if_true, gate_cons_next, List.singleton_append]
    rw [liveSpec_gate P hl hf r]
  | .error c e :: r, m => by simp [liveSpec, gate_cons_error]
  | .complete c :: r, m => by simp [liveSpec, hf, gate_cons_complete]

theorem foldl_latest : ∀ (vs : List (Ctx × α)) (x : Ctx × α),
    vs.foldl (fun _ p => [p]) [x] = [vs.getLastD x]
  | [], _ => rfl
  | p :: vs, x => by
    rw [List.foldl_cons, foldl_latest vs p]
    simp [List.getLast?_cons]

theorem foldl_latest_nil : ∀ (vs : List (Ctx × α)),
    vs.foldl (fun (_ : List (Ctx × α)) p => [p]) [] = vs.getLast?.toList
  | [] => rfl
  | p :: vs => by
    rw [List.foldl_cons, foldl_latest vs p, List.getLast?_cons]
    simp [List.getLastD_eq_getLast?]

theorem lastN_length_le {β : Type} (n : Nat) (l : List β) : (lastN (some n) l).length ≤ n := by
  simp only [lastN, List.length_drop]; omega

theorem lastN_lastN_append {β : Type} (cap : Option Nat) (a b : List β) :
    lastN cap (lastN cap a ++ b) = lastN cap (a ++ b) := by
  cases cap with
  | none => rfl
  | some n =>
    simp only [lastN]
    by_cases h : a.length ≤ n
    · have : a.length - n = 0 := by omega
      simp [this]
    · have hk : a.length - n ≤ a.length := by omega
      have e1 : List.drop (a.length - n) a ++ b = List.drop (a.length - n) (a ++ b) := by
        rw [List.drop_append_of_le_length hk]
      rw [e1, List.drop_drop]
      congr 1
      simp only [List.length_drop, List.length_append]
      omega

theorem foldl_lastN (cap : Option Nat) : ∀ (vs m : List (Ctx × α)),
    vs.foldl (fun m p => lastN cap (m ++ [p])) (lastN cap m) = lastN cap (m ++ vs)
  | [], m => by simp
  | p :: vs, m => by
    rw [List.foldl_cons, lastN_lastN_append, foldl_lastN cap vs (m ++ [p])]
    simp

theorem lastN_nil {β : Type} (cap : Option Nat) : lastN cap ([] : List β) = [] := by
  cases cap <;> simp [lastN]

theorem produced_append : ∀ (a b : List (Op α)), produced (a ++ b) = produced a ++ produced b
  | [], _ => rfl
  | o :: a, b => by cases o <;> simp [produced, produced_append a b]

theorem values_append_of_never : ∀ (a b : List (Notif α)), ending a = .never → values (a ++ b) = values a ++ values b
  | [], _, _ => rfl
  | .next c v :: a, b, h => by
    simp only [ending] at h
    simp [values, values_append_of_never a b h]
  | .error c e :: a, b, h => by simp [ending] at h
  | .complete c :: a, b, h => by simp [ending] at h

/-- async: a registered subscriber gets nothing until the subject ends; on completion the latest
    value of all (if any) and the completion; on error just the error -/
theorem liveSpec_async : ∀ (l : List (Notif α)) (m : List (Ctx × α)),
    liveSpec (asyncP : MP α) m l =
      (match ending l with
       | .never => []
       | .error c e => [.error c e]
       | .complete c => nexts ((values l).foldl (fun _ p => [p]) m) ++ [.complete c])
  | [], _ => rfl
  | .next c v :: r, m => by
    simp only [liveSpec, asyncP, Bool.false_eq_true, if_false, List.nil_append, ending, values, List.foldl_cons]
    exact liveSpec_async r [(c, v)]
  | .error c e :: r, m => by simp [liveSpec, ending]
  | .complete c :: r, m => by simp [liveSpec, asyncP, ending, values]

theorem run_multi (P : MP α) (k : Kind α) (hk : k.step = multiStep P) (ops : List (Op α)) :
    run k ops = runM P k.init ops := by
  simp [run, runFrom, runM, hk]

theorem view_init (k : Kind α) (i : Nat) : view k.init i = ⟨.before, [], .active, k.init.values⟩ := by
  cases k <;> rfl

theorem multi_refines (P : MP α) (hP : P.Law) (k : Kind α) (hk : k.step = multiStep P) (ops : List (Op α)) (i : Nat) :
    ((run k ops).sub i).got = multiSpec P k.init.values ops i := by
  rw [run_multi P k hk]
  have := (view_runM P hP i ops k.init (inv_init k)).1
  rw [view_init] at this
  rw [← vrun_got P i, ← this]; rfl

theorem multi_inv (P : MP α) (hP : P.Law) (k : Kind α) (hk : k.step = multiStep P) (ops : List (Op α)) :
    Inv (run k ops) := by
  rw [run_multi P k hk]
  exact (view_runM P hP 0 ops k.init (inv_init k)).2

theorem subscribed_of_multi {k : Kind α} (hn : ∀ cap, k ≠ .unicast cap) (ops : List (Op α)) (i : Nat) :
    Spec.subscribed k ops i = Spec.subscribed .publish ops i := by
  cases k with
  | unicast cap => exact absurd rfl (hn cap)
  | _ => rfl

theorem multi_registered (P : MP α) (hP : P.Law) (k : Kind α) (hk : k.step = multiStep P) (hn : ∀ cap, k ≠ .unicast cap)
    (ops : List (Op α)) (i : Nat) : i ∈ (run k ops).observers ↔ Spec.subscribed k ops i = true := by
  have hview := (view_runM P hP i ops k.init (inv_init k)).1
  rw [view_init, ← run_multi P k hk] at hview
  rw [subscribed_of_multi hn, ← vrun_phase_live P i k.init.values ops, ← hview]
  exact (phaseOf_live_iff (multi_inv P hP k hk ops) i).symm

theorem multi_status (P : MP α) (hP : P.Law) (k : Kind α) (hk : k.step = multiStep P) (ops : List (Op α)) :
    (run k ops).status = Spec.status ops := by
  rw [run_multi P k hk]
  have := (view_runM P hP 0 ops k.init (inv_init k)).1
  rw [view_init] at this
  have h2 := (vrun_status_values P 0 ops ⟨.before, [], .active, k.init.values⟩).1
  rw [← this] at h2
  simp only [view] at h2
  rw [h2]; unfold Spec.status statusOf
  cases ending (produced ops) <;> rfl

theorem publish_refines (ops : List (Op α)) (i : Nat) :
    ((run .publish ops).sub i).got = Spec.publish ops i := by
  rw [multi_refines publishP publishP_law .publish publishStep_eq]
  unfold multiSpec Spec.publish
  cases splitSub i ops with
  | none => rfl
  | some x =>
    obtain ⟨pre, c, post⟩ := x
    simp only
    cases ending (produced pre) <;> (try rw [liveSpec_gate publishP rfl rfl]) <;> simp [publishP]

theorem behavior_refines (init : α) (ops : List (Op α)) (i : Nat) :
    ((run (.behavior init) ops).sub i).got = Spec.behavior init ops i := by
  rw [multi_refines behaviorP behaviorP_law (.behavior init) behaviorStep_eq]
  unfold multiSpec Spec.behavior
  cases splitSub i ops with
  | none => rfl
  | some x =>
    obtain ⟨pre, c, post⟩ := x
    simp only
    cases ending (produced pre) <;> (try rw [liveSpec_gate behaviorP rfl rfl]) <;>
      simp [behaviorP, Kind.init, foldl_latest]

theorem replay_refines (cap : Option Nat) (ops : List (Op α)) (i : Nat) :
    ((run (.replay cap) ops).sub i).got = Spec.replay cap ops i := by
  rw [multi_refines (replayP cap) (replayP_law cap) (.replay cap) (replayStep_eq cap)]
  unfold multiSpec Spec.replay
  have hm : ∀ vs : List (Ctx × α), vs.foldl (replayP cap).mem (Kind.replay cap).init.values = lastN cap vs := by
    intro vs
    have := foldl_lastN cap vs ([] : List (Ctx × α))
    simpa [lastN_nil, replayP, Kind.init] using this
  cases splitSub i ops with
  | none => rfl
  | some x =>
    obtain ⟨pre, c, post⟩ := x
    simp only
    cases ending (produced pre) <;> (try rw [liveSpec_gate (replayP cap) rfl rfl]) <;> simp [hm] <;> simp [replayP]

theorem async_refines (ops : List (Op α)) (i : Nat) :
    ((run .async ops).sub i).got = Spec.async ops i := by
  rw [multi_refines asyncP asyncP_law .async asyncStep_eq]
  unfold multiSpec Spec.async
  cases splitSub i ops with
  | none => rfl
  | some x =>
    obtain ⟨pre, c, post⟩ := x
    simp only
    cases he : ending (produced pre) with
    | never =>
      simp only [asyncP, Bool.false_eq_true, if_false, List.nil_append, Kind.init]
      have := liveSpec_async (produced (whileSubscribed i post)) ((values (produced pre)).foldl (fun _ p => [p]) ([] : List (Ctx × α)))
      simp only [asyncP] at this
      rw [this]
      cases hseg : ending (produced (whileSubscribed i post)) with
      | never => rfl
      | error c' e => rfl
      | complete c' =>
        simp only
        rw [produced_append, values_append_of_never _ _ he, ← foldl_latest_nil, List.foldl_append]
    | error ec e => simp [asyncP]
    | complete cc => simp [asyncP, Kind.init, foldl_latest_nil]

end Ro.Subj
