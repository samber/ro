/-
  RoProofs.Script — from raw scripts to (values, ending). For a variable machine: its emissions
  over the values when they do not depend on the state, when the state is a counter, when there
  are none. Then the reduction every per-operator theorem uses:
  out (runOp m …raw…) = gate (emissions over the values ++ reaction to the ending),
  and what is delivered when the machine forwards the ending (`runOp_out_fwd`) or is silent until
  it (`runOp_out_silent`).
-/
import RoProofs.Gate
namespace Ro
variable {σ α β : Type}

/-- the legal script with these values and this ending -/
def legal (vs : List (Ctx × α)) (e : Ending) : List (Notif α) :=
  vs.map (fun p => Notif.next p.1 p.2) ++ e.toList

theorem gate_eq_legal (raw : List (Notif α)) : gate raw = legal (values raw) (ending raw) := by
  unfold legal
  induction raw with
  | nil => rfl
  | cons x xs ih =>
    cases x with
    | next c v => simp [gate, values, ending, ih]
    | error c e => simp [gate, values, ending, Ending.toList]
    | complete c => simp [gate, values, ending, Ending.toList]

theorem emits_append (m : Machine σ α β) (s : σ) (a b : List (Notif α)) :
    m.emits s (a ++ b) = m.emits s a ++ m.emits (m.after s a) b := by
  induction a generalizing s with
  | nil => rfl
  | cons x xs ih => simp [Machine.emits, Machine.after, ih, List.append_assoc]

/-- emissions over a list of values -/
def Machine.emitsV (m : Machine σ α β) : σ → List (Ctx × α) → List (Notif β)
  | _, [] => []
  | s, (c, v) :: vs => (m.onNext s c v).2 ++ m.emitsV (m.onNext s c v).1 vs

def Machine.afterV (m : Machine σ α β) : σ → List (Ctx × α) → σ
  | s, [] => s
  | s, (c, v) :: vs => m.afterV (m.onNext s c v).1 vs

/-- reaction to the ending -/
def Machine.emitsE (m : Machine σ α β) (s : σ) : Ending → List (Notif β)
  | .never => []
  | .error c e => (m.onError s c e).2
  | .complete c => (m.onComplete s c).2

theorem emits_values (m : Machine σ α β) (s : σ) (vs : List (Ctx × α)) :
    m.emits s (vs.map (fun p => Notif.next p.1 p.2)) = m.emitsV s vs ∧
    m.after s (vs.map (fun p => Notif.next p.1 p.2)) = m.afterV s vs := by
  induction vs generalizing s with
  | nil => exact ⟨rfl, rfl⟩
  | cons p ps ih =>
    obtain ⟨c, v⟩ := p
    simp [Machine.emits, Machine.after, Machine.emitsV, Machine.afterV, Machine.step, ih]

theorem emits_ending (m : Machine σ α β) (s : σ) (e : Ending) :
    m.emits s (e.toList) = m.emitsE s e := by
  cases e <;> simp [Ending.toList, Machine.emits, Machine.emitsE, Machine.step]

theorem emits_legal (m : Machine σ α β) (s : σ) (vs : List (Ctx × α)) (e : Ending) :
    m.emits s (legal vs e) = m.emitsV s vs ++ m.emitsE (m.afterV s vs) e := by
  unfold legal
  rw [emits_append, (emits_values m s vs).1, (emits_values m s vs).2, emits_ending]

/-! ### the reactions to the values, for the usual shapes of machine -/

theorem Machine.emitsV_cons (m : Machine σ α β) (s : σ) (p : Ctx × α) (vs : List (Ctx × α)) :
    m.emitsV s (p :: vs) = (m.onNext s p.1 p.2).2 ++ m.emitsV (m.onNext s p.1 p.2).1 vs := rfl

theorem Machine.afterV_cons (m : Machine σ α β) (s : σ) (p : Ctx × α) (vs : List (Ctx × α)) :
    m.afterV s (p :: vs) = m.afterV (m.onNext s p.1 p.2).1 vs := rfl

theorem Machine.emitsV_append (m : Machine σ α β) (s : σ) (a b : List (Ctx × α)) :
    m.emitsV s (a ++ b) = m.emitsV s a ++ m.emitsV (m.afterV s a) b ∧
    m.afterV s (a ++ b) = m.afterV (m.afterV s a) b := by
  induction a generalizing s with
  | nil => exact ⟨rfl, rfl⟩
  | cons p ps ih =>
    rw [List.cons_append, emitsV_cons, emitsV_cons, afterV_cons, afterV_cons, (ih _).1, (ih _).2,
      List.append_assoc]
    exact ⟨rfl, rfl⟩

theorem Machine.afterV_eq_foldl (m : Machine σ α β) (s : σ) (vs : List (Ctx × α)) :
    m.afterV s vs = vs.foldl (fun s p => (m.onNext s p.1 p.2).1) s := by
  induction vs generalizing s with
  | nil => rfl
  | cons p ps ih => exact ih _

theorem Machine.afterV_congr {β' : Type} (m : Machine σ α β) (m' : Machine σ α β')
    (h : ∀ s c v, (m.onNext s c v).1 = (m'.onNext s c v).1) (s : σ) (vs : List (Ctx × α)) :
    m.afterV s vs = m'.afterV s vs := by
  induction vs generalizing s with
  | nil => rfl
  | cons p ps ih => rw [afterV_cons, afterV_cons, h, ih]

/-- the state is determined by the number of values seen so far (a counter, or no state at all) -/
theorem Machine.emitsV_indexed (m : Machine σ α β) (st : Nat → σ) (g : Ctx → α → Nat → List (Notif β))
    (h : ∀ i c v, m.onNext (st i) c v = (st (i + 1), g c v i)) (i : Nat) (vs : List (Ctx × α)) :
    m.emitsV (st i) vs = (vs.zipIdx i).flatMap (fun q => g q.1.1 q.1.2 q.2) ∧
    m.afterV (st i) vs = st (i + vs.length) := by
  induction vs generalizing i with
  | nil => exact ⟨rfl, rfl⟩
  | cons p ps ih =>
    rw [emitsV_cons, afterV_cons, h, (ih (i + 1)).1, (ih (i + 1)).2, List.length_cons,
      Nat.add_comm ps.length, Nat.add_assoc]
    exact ⟨rfl, rfl⟩

theorem Machine.emitsV_init_indexed (m : Machine σ α β) (st : Nat → σ) (g : Ctx → α → Nat → List (Notif β))
    (hi : m.init = st 0) (h : ∀ i c v, m.onNext (st i) c v = (st (i + 1), g c v i)) (vs : List (Ctx × α)) :
    m.emitsV m.init vs = vs.zipIdx.flatMap (fun q => g q.1.1 q.1.2 q.2) ∧
    m.afterV m.init vs = st vs.length := by
  have := m.emitsV_indexed st g h 0 vs
  rwa [← hi, Nat.zero_add] at this

/-- every machine: the `k`-th emission is the reaction to the `k`-th value in the state reached
    after the first `k` values -/
theorem Machine.emitsV_eq_flatMap (m : Machine σ α β) (s : σ) (vs : List (Ctx × α)) :
    m.emitsV s vs = vs.zipIdx.flatMap (fun q => (m.onNext (m.afterV s (vs.take q.2)) q.1.1 q.1.2).2) := by
  induction vs generalizing s with
  | nil => rfl
  | cons x ps ih =>
    rw [emitsV_cons, ih, List.zipIdx_cons, List.flatMap_cons, List.zipIdx_succ, List.flatMap_map]
    rfl

/-- the emissions do not depend on the state -/
theorem Machine.emitsV_stateless (m : Machine σ α β) (g : Ctx → α → List (Notif β))
    (h : ∀ s c v, (m.onNext s c v).2 = g c v) (s : σ) (vs : List (Ctx × α)) :
    m.emitsV s vs = vs.flatMap (fun p => g p.1 p.2) := by
  induction vs generalizing s with
  | nil => rfl
  | cons p ps ih => rw [emitsV_cons, h, ih]; rfl

theorem Machine.emitsV_silent (m : Machine σ α β) (h : ∀ s c v, (m.onNext s c v).2 = [])
    (s : σ) (vs : List (Ctx × α)) : m.emitsV s vs = [] :=
  (m.emitsV_stateless (fun _ _ => []) h s vs).trans (List.flatMap_eq_nil_iff.mpr fun _ _ => rfl)

/-- **Reduction used by every operator theorem**: for a machine that makes no subscribe-time
    emissions, the delivered trace is the gate of its reactions to the values and the ending of
    the raw script — whatever illegal suffix the raw script has, and in both source modes. -/
theorem runOp_out_plain (m : Machine σ α β) (mode : SrcMode) (sub : Ctx) (raw : List (Notif α))
    (hs : m.subscribes = true) (h0 : ∀ s c, m.onSubscribe s c = (s, [])) :
    (runOp m mode sub raw).out =
      gate (m.emitsV m.init (values raw) ++ m.emitsE (m.afterV m.init (values raw)) (ending raw)) := by
  rw [runOp_out m mode sub raw hs, h0, gate_eq_legal raw, emits_legal]
  simp

/-- forwarding of the ending by the default reactions `fwdE` / `fwdC` -/
theorem emitsE_fwd (m : Machine σ α β) (s : σ) (e : Ending)
    (hE : ∀ s c e, m.onError s c e = fwdE s c e) (hC : ∀ s c, m.onComplete s c = fwdC s c) :
    m.emitsE s e = e.toList := by
  cases e <;> simp [Machine.emitsE, Ending.toList, hE, hC, fwdE, fwdC]

/-- A machine whose reactions `l` to the values contain no terminal delivers `l`, then its reaction
    to the ending. -/
theorem runOp_out_values (m : Machine σ α β) (mode : SrcMode) (sub : Ctx) (raw : List (Notif α))
    (hs : m.subscribes = true) (h0 : ∀ s c, m.onSubscribe s c = (s, []))
    {l : List (Notif β)} (hl : m.emitsV m.init (values raw) = l) (ht : hasTerm l = false) :
    (runOp m mode sub raw).out = l ++ gate (m.emitsE (m.afterV m.init (values raw)) (ending raw)) := by
  rw [runOp_out_plain m mode sub raw hs h0, hl, gate_append_of_noTerm _ _ ht]

/-- … and when it forwards the source's ending: `l`, then the ending. -/
theorem runOp_out_fwd (m : Machine σ α β) (mode : SrcMode) (sub : Ctx) (raw : List (Notif α))
    (hs : m.subscribes = true) (h0 : ∀ s c, m.onSubscribe s c = (s, []))
    (hE : ∀ s c e, m.onError s c e = fwdE s c e) (hC : ∀ s c, m.onComplete s c = fwdC s c)
    {l : List (Notif β)} (hl : m.emitsV m.init (values raw) = l) (ht : hasTerm l = false) :
    (runOp m mode sub raw).out = l ++ (ending raw).toList := by
  rw [runOp_out_values m mode sub raw hs h0 hl ht, emitsE_fwd m _ _ hE hC, gate_toList]

/-- A machine that is silent until the source ends delivers its reaction to the ending. -/
theorem runOp_out_silent (m : Machine σ α β) (mode : SrcMode) (sub : Ctx) (raw : List (Notif α))
    (hs : m.subscribes = true) (h0 : ∀ s c, m.onSubscribe s c = (s, []))
    (hN : ∀ s c v, (m.onNext s c v).2 = []) :
    (runOp m mode sub raw).out = gate (m.emitsE (m.afterV m.init (values raw)) (ending raw)) := by
  rw [runOp_out_plain m mode sub raw hs h0, m.emitsV_silent hN]; rfl

end Ro
