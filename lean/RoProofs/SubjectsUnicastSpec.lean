/-
  RoProofs.SubjectsUnicastSpec — unicast: the model simulates, for every subscriber, a pure
  automaton whose bookkeeping part is literally the definition's `Spec.ustep`; folding that
  automaton gives `Spec.unicastPinned`.  Hence the refinement theorem for the pinned tree (the
  sequential definition everywhere except for a subscriber that arrives after termination while a
  backlog is queued, which the pinned tree discards: subject_unicast.go:68-77), the `_partial`
  theorem against the definition, and the deviation characterised exactly.  The subscriber's part
  of the automaton is the publish automaton of RoProofs/SubjectsView.lean except at the admission,
  on the side of the model (`unicastStep_publish`) as on the side of the automaton (`vstepU_core`).
-/
import RoProofs.SubjectsUnicast
namespace Ro.Subj
open Ro Ro.Subj.Spec

variable {α : Type}

structure UView (α : Type) where
  phase : Phase
  got : List (Notif α)
  status : Status
  u : U α

/-- what an operation means for subscriber `i` (the bookkeeping `u` is advanced by `Spec.ustep`) -/
def ucore (i : Nat) (w : UView α) : Op α → UView α
  | .next c v =>
    match w.status with
    | .active => { w with got := if w.phase = .live then w.got ++ [.next c v] else w.got }
    | _ => w
  | .error c e =>
    match w.status with
    | .active => { w with status := .errored c e, phase := if w.phase = .live then .done else w.phase,
                          got := if w.phase = .live then w.got ++ [.error c e] else w.got }
    | _ => w
  | .complete c =>
    match w.status with
    | .active => { w with status := .completed, phase := if w.phase = .live then .done else w.phase,
                          got := if w.phase = .live then w.got ++ [.complete c] else w.got }
    | _ => w
  | .subscribe j c =>
    if j = i ∧ w.phase = .before then
      match w.status with
      | .active =>
        if w.u.holder.isSome then { w with phase := .done, got := [.error c (.sentinel 6)] }
        else { w with phase := .live, got := nexts w.u.queue }
      | .errored ec e => { w with phase := .done, got := [.error ec e] }
      | .completed => { w with phase := .done, got := [.complete c] }
    else w
  | .unsubscribe j => if j = i ∧ w.phase = .live then { w with phase := .done } else w

def vstepU (cap : Option Nat) (i : Nat) (w : UView α) (o : Op α) : UView α :=
  { ucore i w o with u := ustep cap w.u o }

/-- how a model state and an automaton state correspond -/
structure URel (s : State α) (w : UView α) (i : Nat) : Prop where
  phase : w.phase = phaseOf s i
  got : w.got = (s.sub i).got
  status : w.status = s.status
  closed : w.u.closed = true ↔ s.status ≠ .active
  holder : s.status = .active → w.u.holder = s.observers.head?
  queue : s.status = .active → w.u.queue = s.values
  seen : ∀ j, (s.sub j).used = true ↔ j ∈ w.u.seen

theorem phaseOf_congr {s t : State α} {i : Nat} (hu : (t.sub i).used = (s.sub i).used)
    (hm : i ∈ t.observers ↔ i ∈ s.observers) : phaseOf t i = phaseOf s i := by
  unfold phaseOf
  rw [hu]
  by_cases h1 : i ∈ s.observers
  · simp [h1, hm.mpr h1]
  · have h2 : i ∉ t.observers := fun h => h1 (hm.mp h)
    simp [h1, h2]

theorem phaseOf_done {s : State α} {i : Nat} (hu : (s.sub i).used = true) (hm : i ∉ s.observers) :
    phaseOf s i = .done := by
  simp [phaseOf, hu, hm]

theorem phaseOf_live {s : State α} {i : Nat} (hu : (s.sub i).used = true) (hm : i ∈ s.observers) :
    phaseOf s i = .live := by
  simp [phaseOf, hu, hm]

variable (cap : Option Nat)

/-- the part of a unicast subscriber's view that a publish subscriber has too; `m` stands for the stored values,
    which a publish subject never reads -/
def UView.core (w : UView α) (m : List (Ctx × α)) : View α := ⟨w.phase, w.got, w.status, m⟩

/-- apart from its admission to a live subject, a unicast subscriber sees what a publish subscriber sees -/
theorem vstepU_core (i : Nat) (w : UView α) (m : List (Ctx × α)) (o : Op α)
    (h : isSub i o = true → w.phase = .before → w.status ≠ .active) :
    (vstepU cap i w o).core m = vstep publishP i (w.core m) o := by
  cases o with
  | subscribe j c =>
    by_cases hc : j = i ∧ w.phase = .before
    · have := h (by simp [isSub, hc.1]) hc.2
      cases hs : w.status <;> simp [vstepU, ucore, vstep, UView.core, hc, hs, publishP] at this ⊢
    · simp [vstepU, ucore, vstep, UView.core, hc]
  | unsubscribe j => by_cases hc : j = i ∧ w.phase = .live <;> simp [vstepU, ucore, vstep, UView.core, hc]
  | next c v => cases hs : w.status <;> simp [vstepU, ucore, vstep, UView.core, hs, publishP]
  | error c e => cases hs : w.status <;> simp [vstepU, ucore, vstep, UView.core, hs]
  | complete c => cases hs : w.status <;> simp [vstepU, ucore, vstep, UView.core, hs, publishP]

/-- the subscriber's half of the simulation: what `i` has received, its phase, the status -/
theorem urel_step_view {s : State α} {w : UView α} {i : Nat} (hU : UInv s) (R : URel s w i) (o : Op α) :
    (vstepU cap i w o).phase = phaseOf (unicastStep cap s o) i ∧
    (vstepU cap i w o).got = ((unicastStep cap s o).sub i).got ∧
    (vstepU cap i w o).status = (unicastStep cap s o).status := by
  have hI := hU.inv
  by_cases ho : ∀ j c, o = .subscribe j c → (s.sub j).used = true ∨ s.status ≠ .active
  · -- the step is publish's, of which `view_multiStep` says what `i` sees
    obtain ⟨⟨vs, ds, e⟩, _⟩ := unicastStep_publish cap hU o ho
    have hc := vstepU_core cap i w s.values o (fun hs hp => by
      cases o with
      | subscribe j c =>
        have hj : j = i := by simpa [isSub] using hs
        rw [R.status]
        refine (ho j c rfl).resolve_left fun hu => ?_
        rw [R.phase, phaseOf_before_iff, ← hj, hu] at hp; cases hp
      | _ => cases hs)
    rw [show w.core s.values = view s i from view_ext R.phase R.got R.status rfl,
      ← view_multiStep publishP publishP_law hI o i] at hc
    rw [e]
    exact ⟨congrArg View.phase hc, congrArg View.got hc, congrArg View.status hc⟩
  · cases o with
    | subscribe j c =>
      have hu : (s.sub j).used = false := by
        cases hu : (s.sub j).used with
        | false => rfl
        | true => exact absurd (fun j c e => by cases e; exact .inl hu) ho
      have ha : s.status = .active := Decidable.byContradiction fun hn =>
        ho (fun j c e => by cases e; exact .inr hn)
      have hjo : j ∉ s.observers := hI.not_mem_of_unused hu
      by_cases hji : j = i
      · subst hji
        have hp : w.phase = .before := by rw [R.phase]; exact (phaseOf_before_iff s j).mpr hu
        rcases hU.obs_cases with ho | ⟨x, ho⟩
        · have hh : w.u.holder = none := by rw [R.holder ha, ho]; rfl
          rw [ustep_subscribe_admitted cap c hu ha ho]
          simp [vstepU, ucore, hp, R.status, ha, hh, phaseOf, R.queue ha]
        · have hh : w.u.holder = some x := by rw [R.holder ha, ho]; rfl
          rw [ustep_subscribe_busy cap c hu ha ho]
          simp [vstepU, ucore, hp, R.status, ha, hh, phaseOf, hjo]
      · have hne : i ≠ j := fun e => hji e.symm
        have hw : vstepU cap i w (.subscribe j c) = { w with u := ustep cap w.u (.subscribe j c) } := by
          simp [vstepU, ucore, hji]
        rw [hw]
        rcases hU.obs_cases with ho | ⟨x, ho⟩
        · rw [ustep_subscribe_admitted cap c hu ha ho]
          refine ⟨R.phase.trans (phaseOf_congr (by simp [hne]) (by simp [ho, hne])).symm, ?_, ?_⟩
          · simp [R.got, hne]
          · simp [R.status, ha]
        · rw [ustep_subscribe_busy cap c hu ha ho]
          refine ⟨R.phase.trans (phaseOf_congr (by simp [hne]) (by simp)).symm, ?_, R.status⟩
          simp [R.got, hne]
    | _ => exact absurd (fun j c e => by cases e) ho

/-- the bookkeeping half of the simulation: `Spec.ustep` tracks who holds the subject, the queue, who has come -/
theorem urel_step_book {s : State α} {w : UView α} {i : Nat} (hU : UInv s) (R : URel s w i) (o : Op α) :
    ((ustep cap w.u o).closed = true ↔ (unicastStep cap s o).status ≠ .active) ∧
    ((unicastStep cap s o).status = .active → (ustep cap w.u o).holder = (unicastStep cap s o).observers.head?) ∧
    ((unicastStep cap s o).status = .active → (ustep cap w.u o).queue = (unicastStep cap s o).values) ∧
    ∀ j, ((unicastStep cap s o).sub j).used = true ↔ j ∈ (ustep cap w.u o).seen := by
  have hI := hU.inv
  obtain ⟨_, _, _, Rc, Rh, Rq, Rn⟩ := R
  have hcl : s.status = .active → w.u.closed = false := fun ha => by
    cases hc : w.u.closed with
    | false => rfl
    | true => exact absurd ha (Rc.mp hc)
  have hused : ∀ t : State α, (∀ k, (t.sub k).used = (s.sub k).used) → ∀ k, (t.sub k).used = true ↔ k ∈ w.u.seen :=
    fun t ht k => by rw [ht k]; exact Rn k
  cases o with
  | subscribe j c =>
    cases hu : (s.sub j).used with
    | true =>
      have e : ustep cap w.u (.subscribe j c) = w.u := by simp [ustep, (Rn j).mp hu]
      rw [ustep_subscribe_used cap c hu, e]
      exact ⟨Rc, Rh, Rq, Rn⟩
    | false =>
      have hjs : j ∉ w.u.seen := fun hm => by have := (Rn j).mpr hm; rw [hu] at this; cases this
      have hseen : ∀ (t : State α), (∀ k, (t.sub k).used = if k = j then true else (s.sub k).used) →
          ∀ k, (t.sub k).used = true ↔ k ∈ j :: w.u.seen := by
        intro t hk k
        rw [hk k]
        by_cases hkj : k = j
        · simp [hkj]
        · simp [hkj, Rn k]
      by_cases ha : s.status = .active
      · rcases hU.obs_cases with ho | ⟨x, ho⟩
        · have e : ustep cap w.u (.subscribe j c) = { w.u with seen := j :: w.u.seen, holder := some j, queue := [] } := by
            simp [ustep, hjs, hcl ha, show w.u.holder = none by rw [Rh ha, ho]; rfl]
          rw [ustep_subscribe_admitted cap c hu ha ho, e]
          exact ⟨by simp [hcl ha, ha], fun _ => rfl, fun _ => rfl,
            hseen _ (fun k => by by_cases hk : k = j <;> simp [hk])⟩
        · have e : ustep cap w.u (.subscribe j c) = { w.u with seen := j :: w.u.seen } := by
            simp [ustep, hjs, hcl ha, show w.u.holder = some x by rw [Rh ha, ho]; rfl]
          rw [ustep_subscribe_busy cap c hu ha ho, e]
          exact ⟨Rc, Rh, Rq, hseen _ (fun k => by by_cases hk : k = j <;> simp [hk])⟩
      · have e : ustep cap w.u (.subscribe j c) = { w.u with seen := j :: w.u.seen, queue := [] } := by
          simp [ustep, hjs, Rc.mpr ha]
        rw [ustep_subscribe_late cap c hu ha, e]
        exact ⟨Rc, fun h' => absurd h' ha, fun h' => absurd h' ha,
          hseen _ (fun k => by by_cases hk : k = j <;> simp [hk])⟩
  | next c v =>
    by_cases ha : s.status = .active
    · rcases hU.obs_cases with ho | ⟨x, ho⟩
      · have e : ustep cap w.u (.next c v) = { w.u with queue := lastN cap (w.u.queue ++ [(c, v)]) } := by
          simp [ustep, hcl ha, show w.u.holder = none by rw [Rh ha, ho]; rfl]
        obtain ⟨h1, h2, h3, h4⟩ := push_values cap s c v
        rw [ustep_next_idle cap c v ha ho, e, h1, h2, h3, h4]
        exact ⟨Rc, Rh, fun _ => by rw [Rq ha], Rn⟩
      · have e : ustep cap w.u (.next c v) = w.u := by
          simp [ustep, show w.u.holder = some x by rw [Rh ha, ho]; rfl]
        rw [ustep_next_held cap hU c v ha ho, e]
        exact ⟨Rc, Rh, Rq, hused _ (fun k => by by_cases hk : k = x <;> simp [hk])⟩
    · have e : ustep cap w.u (.next c v) = w.u := by simp [ustep, Rc.mpr ha]
      rw [ustep_next_closed cap c v ha, e]
      exact ⟨Rc, Rh, Rq, Rn⟩
  | error c e =>
    by_cases ha : s.status = .active
    · rw [ustep_error_active cap hU c e ha]
      exact ⟨by simp [ustep], nofun, nofun,
        hused _ (fun k => by rw [State.closeAll_sub]; split <;> rfl)⟩
    · rw [(ustep_terminal_closed cap ha).1]
      exact ⟨by simp [ustep, ha], fun h' => absurd h' ha, fun h' => absurd h' ha, Rn⟩
  | complete c =>
    by_cases ha : s.status = .active
    · rw [ustep_complete_active cap hU c ha]
      exact ⟨by simp [ustep], nofun, nofun,
        hused _ (fun k => by rw [State.closeAll_sub]; split <;> rfl)⟩
    · rw [(ustep_terminal_closed cap ha).2]
      exact ⟨by simp [ustep, ha], fun h' => absurd h' ha, fun h' => absurd h' ha, Rn⟩
  | unsubscribe j =>
    obtain ⟨h1, h2, h3, h4⟩ := ustep_unsubscribe_frame cap hU j
    rw [h1, h2, h4]
    refine ⟨?_, fun ha => ?_, fun ha => ?_, fun k => ?_⟩
    · simp only [ustep]; split <;> exact Rc
    · -- `Spec.ustep` releases the subject exactly when the model does
      have : w.u.holder = some j ↔ j ∈ s.observers := by
        rw [Rh ha]
        rcases hU.obs_cases with ho | ⟨x, ho⟩ <;> simp [ho, eq_comm]
      by_cases hj : j ∈ s.observers
      · simp [ustep, this.mpr hj, hj]
      · simp only [ustep, mt this.mp hj, hj, if_false]; exact Rh ha
    · simp only [ustep]; split <;> exact Rq ha
    · rw [h3]; simp only [ustep]; split <;> exact Rn k

theorem urel_step {s : State α} {w : UView α} {i : Nat} (hU : UInv s) (R : URel s w i) (o : Op α) :
    URel (unicastStep cap s o) (vstepU cap i w o) i :=
  let ⟨v1, v2, v3⟩ := urel_step_view cap hU R o
  let ⟨b1, b2, b3, b4⟩ := urel_step_book cap hU R o
  ⟨v1, v2, v3, b1, b2, b3, b4⟩

def vrunU (cap : Option Nat) (i : Nat) (w : UView α) (ops : List (Op α)) : UView α := ops.foldl (vstepU cap i) w

theorem uview_ext {a b : UView α} (h1 : a.phase = b.phase) (h2 : a.got = b.got) (h3 : a.status = b.status)
    (h4 : a.u = b.u) : a = b := by
  cases a; cases b; simp_all

variable (i : Nat)

theorem vstepU_status (w : UView α) (o : Op α) : (vstepU cap i w o).status = (vstep publishP i (w.core []) o).status := by
  cases o with
  | subscribe j c =>
    cases hs : w.status <;>
      simp [vstepU, ucore, vstep, UView.core, hs, apply_ite UView.status, apply_ite View.status]
  | _ => exact congrArg View.status (vstepU_core cap i w [] _ (fun h => by cases h))

theorem vrunU_core : ∀ (ops : List (Op α)) (w : UView α), (w.phase = .before → ∀ o ∈ ops, isSub i o = false) →
    (vrunU cap i w ops).core [] = vrun publishP i (w.core []) ops
  | [], _, _ => rfl
  | o :: ops, w, h => by
    have h1 := vstepU_core cap i w [] o (fun hs hp => by rw [h hp o (by simp)] at hs; cases hs)
    have := vrunU_core ops (vstepU cap i w o) (fun hp o' ho' =>
      h (Decidable.byContradiction fun hn => vstep_phase_ne_before publishP i (w.core []) o hn ((congrArg View.phase h1).symm.trans hp))
        o' (by simp [ho']))
    simp only [vrunU, vrun, List.foldl_cons] at this ⊢
    rw [this, h1]

theorem vrunU_u : ∀ (ops : List (Op α)) (w : UView α), (vrunU cap i w ops).u = ops.foldl (ustep cap) w.u
  | [], _ => rfl
  | o :: ops, w => vrunU_u ops (vstepU cap i w o)

theorem vrunU_before (pre : List (Op α)) (g : List (Notif α)) (u : U α) (hno : ∀ o ∈ pre, isSub i o = false) :
    vrunU cap i ⟨.before, g, .active, u⟩ pre =
      ⟨.before, g, statusOf (ending (produced pre)), pre.foldl (ustep cap) u⟩ := by
  have h := vrunU_core cap i pre ⟨.before, g, .active, u⟩ (fun _ => hno)
  rw [show UView.core (⟨.before, g, .active, u⟩ : UView α) [] = ⟨.before, g, .active, []⟩ from rfl,
    vrun_before publishP i pre g [] hno] at h
  exact uview_ext (congrArg View.phase h) (congrArg View.got h) (congrArg View.status h) (vrunU_u cap i pre _)

theorem vrunU_done (ops : List (Op α)) (w : UView α) (hp : w.phase = .done) :
    (vrunU cap i w ops).got = w.got ∧ (vrunU cap i w ops).phase = .done := by
  have h := vrunU_core cap i ops w (fun hb => by rw [hp] at hb; cases hb)
  have hd := vrun_done publishP i ops (w.core []) hp
  exact ⟨(congrArg View.got h).trans hd.1, (congrArg View.phase h).trans hd.2⟩

theorem vrunU_live (post : List (Op α)) (g : List (Notif α)) (u : U α) :
    (vrunU cap i ⟨.live, g, .active, u⟩ post).got = g ++ gate (produced (whileSubscribed i post)) ∧
    ((vrunU cap i ⟨.live, g, .active, u⟩ post).phase = .live ↔
      (post.all (fun o => !isUnsub i o) = true ∧ ending (produced post) = .never)) := by
  have h := vrunU_core cap i post ⟨.live, g, .active, u⟩ (fun hb => by cases hb)
  have hl := vrun_live publishP i post g []
  rw [liveSpec_gate publishP rfl rfl] at hl
  exact ⟨(congrArg View.got h).trans hl.1, by rw [← hl.2]; exact Eq.to_iff (congrArg (· = Phase.live) (congrArg View.phase h))⟩

theorem vrunU_append (w : UView α) (a b : List (Op α)) : vrunU cap i w (a ++ b) = vrunU cap i (vrunU cap i w a) b := by
  simp [vrunU, List.foldl_append]

theorem vrunU_got (ops : List (Op α)) :
    (vrunU cap i ⟨.before, [], .active, {}⟩ ops).got = Spec.unicastPinned cap ops i := by
  unfold Spec.unicastPinned Spec.unicastWith
  cases hsp : splitSub i ops with
  | none => rw [vrunU_before cap i ops [] {} (splitSub_none hsp)]
  | some x =>
    obtain ⟨pre, c, post⟩ := x
    obtain ⟨hops, hno⟩ := splitSub_some hsp
    simp only
    rw [hops, vrunU_append, vrunU_before cap i pre [] {} hno]
    have hstep : ∀ w : UView α, vrunU cap i w (.subscribe i c :: post) = vrunU cap i (vstepU cap i w (.subscribe i c)) post :=
      fun _ => rfl
    rw [hstep]
    cases he : ending (produced pre) with
    | never =>
      simp only [statusOf, vstepU, ucore, and_self, if_true, ufold]
      cases hh : (List.foldl (ustep cap) {} pre).holder with
      | none =>
        simp only [Option.isSome_none, Bool.false_eq_true, if_false]
        rw [(vrunU_live cap i post _ _).1]
      | some x =>
        simp only [Option.isSome_some, if_true]
        rw [(vrunU_done cap i post _ rfl).1]
    | error ec e =>
      simp only [statusOf, vstepU, ucore, and_self, if_true, Bool.false_eq_true, if_false, List.nil_append]
      rw [(vrunU_done cap i post _ rfl).1]
    | complete cc =>
      simp only [statusOf, vstepU, ucore, and_self, if_true, Bool.false_eq_true, if_false, List.nil_append]
      rw [(vrunU_done cap i post _ rfl).1]

theorem vrunU_phase_live (ops : List (Op α)) :
    ((vrunU cap i ⟨.before, [], .active, {}⟩ ops).phase = .live) ↔ Spec.subscribed (.unicast cap) ops i = true := by
  unfold Spec.subscribed
  cases hsp : splitSub i ops with
  | none => rw [vrunU_before cap i ops [] {} (splitSub_none hsp)]; simp
  | some x =>
    obtain ⟨pre, c, post⟩ := x
    obtain ⟨hops, hno⟩ := splitSub_some hsp
    simp only
    rw [hops, vrunU_append, vrunU_before cap i pre [] {} hno]
    have hstep : ∀ w : UView α, vrunU cap i w (.subscribe i c :: post) = vrunU cap i (vstepU cap i w (.subscribe i c)) post :=
      fun _ => rfl
    rw [hstep]
    cases he : ending (produced pre) with
    | never =>
      simp only [statusOf, vstepU, ucore, and_self, if_true, ufold]
      cases hh : (List.foldl (ustep cap) {} pre).holder with
      | none =>
        simp only [Option.isSome_none, Bool.false_eq_true, if_false]
        rw [(vrunU_live cap i post _ _).2]
        cases ending (produced post) <;> simp
      | some x =>
        simp only [Option.isSome_some, if_true]
        rw [(vrunU_done cap i post _ rfl).2]; simp
    | error ec e =>
      simp only [statusOf, vstepU, ucore, and_self, if_true]
      rw [(vrunU_done cap i post _ rfl).2]; simp
    | complete cc =>
      simp only [statusOf, vstepU, ucore, and_self, if_true]
      rw [(vrunU_done cap i post _ rfl).2]; simp

theorem vrunU_status : ∀ (ops : List (Op α)) (w : UView α),
    (vrunU cap i w ops).status = (match w.status with
      | .active => statusOf (ending (produced ops))
      | st => st)
  | [], w => by cases hs : w.status <;> simp [vrunU, produced, ending, statusOf, hs]
  | o :: ops, w => by
    have ih := vrunU_status ops (vstepU cap i w o)
    simp only [vrunU, List.foldl_cons] at ih ⊢
    rw [ih, vstepU_status, (vstep_status_values publishP i (w.core []) o).1]
    cases hs : w.status <;> cases o <;> simp [UView.core, hs, produced, ending, statusOf]

theorem urel_init : URel (Kind.unicast (α := α) cap).init ⟨.before, [], .active, {}⟩ i :=
  ⟨rfl, rfl, rfl, by simp [Kind.init], fun _ => rfl, fun _ => rfl, fun j => by simp [Kind.init]⟩

theorem urel_runFrom : ∀ (ops : List (Op α)) (s : State α) (w : UView α), UInv s → URel s w i →
    URel (runFrom (.unicast cap) s ops) (vrunU cap i w ops) i
  | [], _, _, _, R => R
  | o :: ops, _, _, hU, R => urel_runFrom ops _ _ (uinv_step cap hU o) (urel_step cap hU R o)

theorem urel_run (ops : List (Op α)) :
    URel (run (.unicast cap) ops) (vrunU cap i ⟨.before, [], .active, {}⟩ ops) i :=
  urel_runFrom cap i ops _ _ (uinv_init cap) (urel_init cap i)

/-- **unicast, every operation sequence, every buffer size, every subscriber**: the pinned tree
    follows the definition in which a late subscriber gets only the stored terminal -/
theorem unicast_refines_pinned (ops : List (Op α)) :
    ((run (.unicast cap) ops).sub i).got = Spec.unicastPinned cap ops i := by
  rw [← (urel_run cap i ops).got, vrunU_got]

theorem unicast_registered (ops : List (Op α)) :
    i ∈ (run (.unicast cap) ops).observers ↔ Spec.subscribed (.unicast cap) ops i = true := by
  rw [← vrunU_phase_live, (urel_run cap i ops).phase]
  exact (phaseOf_live_iff (kinv_run (.unicast cap) ops).1 i).symm

theorem unicast_status (ops : List (Op α)) : (run (.unicast cap) ops).status = Spec.status ops := by
  rw [← (urel_run cap 0 ops).status, vrunU_status]
  unfold Spec.status statusOf
  cases ending (produced ops) <;> rfl

/-- the definition and its pinned variant agree except for late subscribers with a backlog -/
theorem unicastPinned_eq_of_not_late (ops : List (Op α)) (h : lateWithBacklog cap ops i = false) :
    Spec.unicastPinned cap ops i = Spec.unicast cap ops i := by
  unfold Spec.unicastPinned Spec.unicast Spec.unicastWith
  unfold lateWithBacklog at h
  cases hsp : splitSub i ops with
  | none => rfl
  | some x =>
    obtain ⟨pre, c, post⟩ := x
    rw [hsp] at h
    simp only at h ⊢
    cases he : ending (produced pre) with
    | never => rfl
    | error ec e =>
      rw [he] at h
      have : (ufold cap pre).queue = [] := by simpa using h
      simp [this, nexts]
    | complete cc =>
      rw [he] at h
      have : (ufold cap pre).queue = [] := by simpa using h
      simp [this, nexts]

/-- **unicast against the definition** (`_partial`): everywhere except for a subscriber arriving
    after termination while a backlog is queued -/
theorem unicast_refines_partial (ops : List (Op α)) (h : lateWithBacklog cap ops i = false) :
    ((run (.unicast cap) ops).sub i).got = Spec.unicast cap ops i := by
  rw [unicast_refines_pinned, unicastPinned_eq_of_not_late cap i ops h]

/-- the deviation, exactly: in the excluded class the definition promises the queued backlog
    before the terminal; the pinned tree delivers the terminal alone -/
theorem unicast_late_deviation (ops : List (Op α)) (h : lateWithBacklog cap ops i = true) :
    ∃ pre c post, splitSub i ops = some (pre, c, post) ∧ (ufold cap pre).queue ≠ [] ∧
      Spec.unicast cap ops i = nexts (ufold cap pre).queue ++ ((run (.unicast cap) ops).sub i).got := by
  rw [unicast_refines_pinned]
  unfold lateWithBacklog at h
  unfold Spec.unicastPinned Spec.unicast Spec.unicastWith
  cases hsp : splitSub i ops with
  | none => rw [hsp] at h; cases h
  | some x =>
    obtain ⟨pre, c, post⟩ := x
    rw [hsp] at h
    refine ⟨pre, c, post, rfl, ?_, ?_⟩
    · intro hq; simp [hq] at h
    · simp only
      cases he : ending (produced pre) with
      | never => simp [he] at h
      | error ec e => simp
      | complete cc => simp

end Ro.Subj
