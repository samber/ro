/-
  RoProofs.PromPairs — instances of `Pair` (stages that cannot be told apart from outside the
  plugin's package and never emit a nil context), built one callback at a time
  (`SameReaction`, `Pair.ofReactions`):

  * each stand-alone counting operator with the licence on against the same operator with the
    licence off (`return source`);
  * every int→int catalogue machine the driver chains, against itself. Machines that keep no
    context in their state are related on equal states: their emissions forward or derive the
    context of the notification pointwise; user callbacks enter through an obliviousness
    hypothesis (they cannot read the unexported key and do not return a nil context). Machines that
    keep (context, value) pairs in their state (`takeLastM`, `skipLastM`, `tailM`, `minM`, `lastM`,
    `reduceM`) are related on states that agree up to the private key and hold no nil context
    that can be emitted.

  `maxM` is not an instance: on an empty source it emits with a nil context (`max_emits_nil`).
-/
import RoProofs.PromTransparent
import RoModel.Ops.Aggregate
namespace Ro.Prom
open Ro

variable {α β κ σ σ' : Type}

theorem erase_next {c c' : Ctx} {v v' : α} (h : eraseN (Notif.next c v) = eraseN (Notif.next c' v')) :
    eraseCtx c = eraseCtx c' ∧ v = v' := by
  simp only [eraseN, Notif.next.injEq] at h; exact h
theorem erase_error {c c' : Ctx} {e e' : Err} (h : eraseN (Notif.error c e : Notif α) = eraseN (Notif.error c' e')) :
    eraseCtx c = eraseCtx c' ∧ e = e' := by
  simp only [eraseN, Notif.error.injEq] at h; exact h
theorem erase_complete {c c' : Ctx} (h : eraseN (Notif.complete c : Notif α) = eraseN (Notif.complete c')) :
    eraseCtx c = eraseCtx c' := by
  simp only [eraseN, Notif.complete.injEq] at h; exact h

/-- One callback of a stage on two related states, as a function of the context of the
    notification: on contexts that agree up to the private key, the first not nil, the states stay
    related, the emissions agree up to the private key and the first side emits no nil context. -/
def SameReaction (R : σ → σ' → Prop) (f : σ → Ctx → σ × List (Notif α)) (f' : σ' → Ctx → σ' × List (Notif α)) :
    Prop :=
  ∀ s s' c c', R s s' → eraseCtx c = eraseCtx c' → c.isNil = false →
    R (f s c).1 (f' s' c').1 ∧ eraseL (f s c).2 = eraseL (f' s' c').2 ∧ NonNil (f s c).2

theorem SameReaction.fwdE {R : σ → σ' → Prop} (e : Err) :
    SameReaction (α := α) R (fun s c => fwdE s c e) (fun s c => fwdE s c e) :=
  fun _ _ _ _ h hc hn => ⟨h, by simp [Ro.fwdE, hc], by simp [Ro.fwdE, hn]⟩

theorem SameReaction.fwdC {R : σ → σ' → Prop} : SameReaction (α := α) R fwdC fwdC :=
  fun _ _ _ _ h hc hn => ⟨h, by simp [Ro.fwdC, hc], by simp [Ro.fwdC, hn]⟩

theorem SameReaction.quiet {R : σ → σ' → Prop} :
    SameReaction (α := α) R (fun s _ => (s, [])) (fun s _ => (s, [])) :=
  fun _ _ _ _ h _ _ => ⟨h, rfl, by simp⟩

def Pair.ofReactions (I P : AnyM α) (R : I.σ → P.σ → Prop) (init : R I.m.init P.m.init)
    (subscribes : I.m.subscribes = P.m.subscribes)
    (sub : SameReaction R I.m.onSubscribe P.m.onSubscribe)
    (next : ∀ v, SameReaction R (fun s c => I.m.onNext s c v) (fun s c => P.m.onNext s c v))
    (error : ∀ e, SameReaction R (fun s c => I.m.onError s c e) (fun s c => P.m.onError s c e))
    (complete : SameReaction R I.m.onComplete P.m.onComplete) : Pair α where
  I := I
  P := P
  R := R
  init := init
  subscribes := subscribes
  sub := fun s s' c h hc => sub s s' c c h rfl hc
  step := by
    intro s s' n n' h hn hnil
    cases n <;> cases n' <;> simp only [eraseN_next, eraseN_error, eraseN_complete, Notif.next.injEq,
      Notif.error.injEq, Notif.complete.injEq, reduceCtorEq] at hn
    · obtain ⟨hc, rfl⟩ := hn; exact next _ s s' _ _ h hc hnil
    · obtain ⟨hc, rfl⟩ := hn; exact error _ s s' _ _ h hc hnil
    · exact complete s s' _ _ h hn hnil

/-- a machine against itself -/
def Pair.self (m : Machine σ α α) (R : σ → σ → Prop) (init : R m.init m.init)
    (sub : SameReaction R m.onSubscribe m.onSubscribe)
    (next : ∀ v, SameReaction R (fun s c => m.onNext s c v) (fun s c => m.onNext s c v))
    (error : ∀ e, SameReaction R (fun s c => m.onError s c e) (fun s c => m.onError s c e))
    (complete : SameReaction R m.onComplete m.onComplete) : Pair α :=
  Pair.ofReactions (AnyM.of m) (AnyM.of m) R init rfl sub next error complete

/-! ### stand-alone counting operators: licence on vs licence off -/

/-- a counting forwarder (any state, emissions do not depend on it) against `return source` -/
def Pair.counting (a : AnyM α)
    (hs : a.m.subscribes = true)
    (hsub : ∀ s c, (a.m.onSubscribe s c).2 = [])
    (hstep : ∀ s n, (a.m.step s n).2 = [n]) : Pair α where
  I := a
  P := AnyM.off
  R := fun _ _ => True
  init := trivial
  subscribes := hs
  sub := by
    intro s s' c _ _
    exact ⟨trivial, by rw [hsub]; rfl, by simp [hsub]⟩
  step := by
    intro s s' n n' _ hn hnil
    have : (AnyM.off (α := α)).m.step s' n' = (s', [n']) := by cases n' <;> rfl
    exact ⟨trivial, by simp [hstep, this, hn], by simp [hstep, hnil]⟩

def pairCntNext : Pair α :=
  Pair.counting AnyM.cntNext rfl (fun _ _ => rfl) (fun _ n => by cases n <;> rfl)
def pairCntError : Pair α :=
  Pair.counting AnyM.cntError rfl (fun _ _ => rfl) (fun _ n => by cases n <;> rfl)
def pairCntComplete : Pair α :=
  Pair.counting AnyM.cntComplete rfl (fun _ _ => rfl) (fun _ n => by cases n <;> rfl)
def pairCntSub : Pair α :=
  Pair.counting AnyM.cntSub rfl (fun _ _ => rfl) (fun _ n => by cases n <;> rfl)
def pairLag : Pair α :=
  Pair.counting AnyM.lag rfl (fun _ _ => rfl) (fun _ n => by cases n <;> rfl)

/-- a user callback, as a function of the context it is given: it cannot read the private key
    (an unexported type of another package) and does not return a nil context -/
def Oblivious (f : Ctx → Ctx × β) : Prop :=
  ∀ c c', eraseCtx c = eraseCtx c' → c.isNil = false →
    eraseCtx (f c).1 = eraseCtx (f c').1 ∧ (f c).2 = (f c').2 ∧ (f c).1.isNil = false

/-- a boolean predicate that ignores what it cannot read -/
def ObliviousB (p : Ctx → α → Nat → Bool) : Prop :=
  ∀ c c' v i, eraseCtx c = eraseCtx c' → p c v i = p c' v i

theorem eraseCtx_tag (c : Ctx) (m : Nat) (hm : m ≠ ckKey) : eraseCtx (c.tag m) = (eraseCtx c).tag m := by
  have hb : (m != ckKey) = true := by simpa [bne_iff_ne] using hm
  simp [eraseCtx, Ctx.tag, List.filter_append, List.filter, hb]

/-! ### catalogue machines without a context in their state -/

def pairId : Pair α :=
  Pair.self idM Eq rfl .quiet (fun v => by rintro s _ c c' rfl h hc; simp [idM, h, hc]) .fwdE .fwdC

def pairIgnoreElements : Pair α :=
  Pair.self ignoreElementsM Eq rfl .quiet (fun _ => .quiet) .fwdE .fwdC

def pairMapTo (b : α) : Pair α :=
  Pair.self (mapToM (α := α) b) Eq rfl .quiet (fun v => by rintro s _ c c' rfl h hc; simp [mapToM, h, hc]) .fwdE .fwdC

def pairTake (count : Nat) : Pair α :=
  Pair.self (takeM count) Eq rfl .quiet
    (fun v => by rintro s _ c c' rfl h hc; simp only [takeM]; split <;> simp [h, hc]) .fwdE .fwdC

def pairSkip (count : Nat) : Pair α :=
  Pair.self (skipM count) Eq rfl .quiet
    (fun v => by rintro s _ c c' rfl h hc; simp only [skipM]; split <;> simp [h, hc]) .fwdE .fwdC

def pairHead : Pair α :=
  Pair.self headM Eq rfl .quiet (fun v => by rintro s _ c c' rfl h hc; simp [headM, h, hc]) .fwdE
    (by rintro s _ c c' rfl h hc; simp [headM, h, hc])

def pairElementAt (nth : Nat) : Pair α :=
  Pair.self (elementAtM nth) Eq rfl .quiet
    (fun v => by rintro s _ c c' rfl h hc; simp only [elementAtM]; split <;> simp [h, hc]) .fwdE
    (by rintro s _ c c' rfl h hc; simp [elementAtM, h, hc])

def pairElementAtOrDefault (nth : Nat) (d : α) : Pair α :=
  Pair.self (elementAtOrDefaultM nth d) Eq rfl .quiet
    (fun v => by rintro s _ c c' rfl h hc; simp only [elementAtOrDefaultM]; split <;> simp [h, hc]) .fwdE
    (by rintro s _ c c' rfl h hc; simp [elementAtOrDefaultM, h, hc])

def pairOnErrorReturn (v : α) : Pair α :=
  Pair.self (onErrorReturnM v) Eq rfl .quiet (fun v => by rintro s _ c c' rfl h hc; simp [onErrorReturnM, h, hc])
    (fun _ => by rintro s _ c c' rfl h hc; simp [onErrorReturnM, h, hc]) .fwdC

def pairThrowIfEmpty (e : Err) : Pair α :=
  Pair.self (throwIfEmptyM (α := α) e) Eq rfl .quiet
    (fun v => by rintro s _ c c' rfl h hc; simp [throwIfEmptyM, h, hc]) .fwdE
    (by rintro s _ c c' rfl h hc; simp only [throwIfEmptyM]; split <;> simp [h, hc])

def pairSum : Pair Int :=
  Pair.self sumM Eq rfl .quiet (fun v => by rintro s _ c c' rfl h hc; simp [sumM]) .fwdE
    (by rintro s _ c c' rfl h hc; simp [sumM, h, hc])

def pairClamp (lo hi : Int) : Pair Int :=
  Pair.self (clampM lo hi) Eq rfl .quiet (fun v => by rintro s _ c c' rfl h hc; simp [clampM, h, hc]) .fwdE .fwdC

theorem eraseL_map_next (c : Ctx) (l : List α) :
    eraseL (l.map (Notif.next c)) = l.map (Notif.next (eraseCtx c)) := by
  simp [eraseL, Function.comp_def]

theorem nonNil_map_next {c : Ctx} (hc : c.isNil = false) (l : List α) : NonNil (l.map (Notif.next c)) := by
  intro x hx
  obtain ⟨v, _, rfl⟩ := List.mem_map.mp hx
  exact hc

def pairStartWith (pre : List α) : Pair α :=
  Pair.self (startWithM pre) Eq rfl
    (by rintro s _ c c' rfl h hc; simp [startWithM, eraseL_map_next, nonNil_map_next hc, h])
    (fun v => by rintro s _ c c' rfl h hc; simp [startWithM, h, hc]) .fwdE .fwdC

def pairEndWith (suf : List α) : Pair α :=
  Pair.self (endWithM suf) Eq rfl .quiet (fun v => by rintro s _ c c' rfl h hc; simp [endWithM, h, hc]) .fwdE
    (by rintro s _ c c' rfl h hc; simp [endWithM, eraseL_map_next, nonNil_map_next hc, h, hc])

def pairDefaultIfEmpty (dc : Ctx) (d : α) (hdc : dc.isNil = false) : Pair α :=
  Pair.self (defaultIfEmptyM dc d) Eq rfl .quiet
    (fun v => by rintro s _ c c' rfl h hc; simp [defaultIfEmptyM, h, hc]) .fwdE
    (by rintro s _ c c' rfl h hc; cases s <;> simp [defaultIfEmptyM, h, hc, hdc])

def pairEmpty : Pair α :=
  Pair.self (emptyM (α := α) (β := α)) Eq rfl (by rintro s _ c c' rfl h hc; simp [emptyM, h, hc])
    (fun _ => .quiet) (fun _ => .quiet) .quiet

theorem eraseN_ctx (n : Notif α) : (eraseN n).ctx = eraseCtx n.ctx := by cases n <;> rfl

/-- `Materialize |> Dematerialize` forwards while its middle gate is open (a terminal is followed
    by a completion, which the next subscriber refuses) -/
theorem matDemat_open (n : Notif α) :
    ((materializeM (α := α)).seq dematerializeM).step ((), (), true) n =
      (((), (), !n.isTerminal), if n.isTerminal then [n, .complete n.ctx] else [n]) := by
  cases n <;> rfl

theorem matDemat_closed (n : Notif α) :
    ((materializeM (α := α)).seq dematerializeM).step ((), (), false) n = (((), (), false), []) := by
  cases n <;> rfl

def pairMaterializeDematerialize : Pair α where
  I := AnyM.of ((materializeM (α := α)).seq dematerializeM)
  P := AnyM.of ((materializeM (α := α)).seq dematerializeM)
  R := Eq
  init := rfl
  subscribes := rfl
  sub := fun s s' c h hc => SameReaction.quiet s s' c c h rfl hc
  step := by
    rintro ⟨⟨⟩, ⟨⟩, g⟩ _ n n' rfl hn hnil
    have hc : eraseCtx n.ctx = eraseCtx n'.ctx := by simpa only [eraseN_ctx] using congrArg Notif.ctx hn
    cases g
    · simp only [AnyM.of, matDemat_closed, nonNil_nil_iff, and_self]
    · simp only [AnyM.of, matDemat_open, isTerminal_of_erase hn]
      split <;> simp [hn, hc, hnil]

def pairFind (p : Ctx → α → Nat → Bool) (hp : ObliviousB p) : Pair α :=
  Pair.self (findM p) Eq rfl .quiet
    (fun v => by
      rintro s _ c c' rfl h hc
      simp only [findM, hp c c' v s h]
      split <;> simp [h, hc]) .fwdE .fwdC

def pairMap (f : Ctx → α → Nat → Ctx × α) (hf : ∀ v i, Oblivious (f · v i)) : Pair α :=
  Pair.self (mapM f) Eq rfl .quiet
    (fun v => by
      rintro s _ c c' rfl h hc
      have ho := hf v s c c' h hc
      simp [mapM, ho.1, ho.2.1, ho.2.2]) .fwdE .fwdC

def pairFilter (p : Pred α) (hp : ∀ v i, Oblivious (p · v i)) : Pair α :=
  Pair.self (filterM p) Eq rfl .quiet
    (fun v => by
      rintro s _ c c' rfl h hc
      have ho := hp v s c c' h hc
      simp only [filterM, ← ho.2.1]
      split <;> simp [ho.1, ho.2.2]) .fwdE .fwdC

def pairSkipWhile (p : Pred α) (hp : ∀ v i, Oblivious (p · v i)) : Pair α :=
  Pair.self (skipWhileM p) Eq rfl .quiet
    (fun v => by
      rintro s _ c c' rfl h hc
      have ho := hp v s.2 c c' h hc
      simp only [skipWhileM, ← ho.2.1]
      split
      · simp [h, hc]
      · split <;> simp [ho.1, ho.2.2]) .fwdE .fwdC

def pairTakeWhile (p : Pred α) (hp : ∀ v i, Oblivious (p · v i)) : Pair α :=
  Pair.self (takeWhileM p) Eq rfl .quiet
    (fun v => by
      rintro s _ c c' rfl h hc
      have ho := hp v s.2 c c' h hc
      simp only [takeWhileM, ← ho.2.1]
      split
      · simp
      · split <;> simp [ho.1, ho.2.2])
    (fun e => by rintro s _ c c' rfl h hc; simp only [takeWhileM]; split <;> simp [h, hc])
    (by rintro s _ c c' rfl h hc; simp only [takeWhileM]; split <;> simp [h, hc])

def pairFirst (p : Pred α) (hp : ∀ v i, Oblivious (p · v i)) : Pair α :=
  Pair.self (firstM p) Eq rfl .quiet
    (fun v => by
      rintro s _ c c' rfl h hc
      have ho := hp v s c c' h hc
      simp only [firstM, ← ho.2.1]
      split <;> simp [ho.1, ho.2.2]) .fwdE
    (by rintro s _ c c' rfl h hc; simp [firstM, h, hc])

def pairMapErr (f : Ctx → α → Nat → α × Ctx × Option Err)
    (hf : ∀ v i, Oblivious (fun c => ((f c v i).2.1, (f c v i).1, (f c v i).2.2))) : Pair α :=
  Pair.self (mapErrM f) Eq rfl .quiet
    (fun v => by
      rintro s _ c c' rfl h hc
      have ho := hf v s c c' h hc
      simp only [Prod.mk.injEq] at ho
      simp only [mapErrM, ← ho.2.1.1, ← ho.2.1.2]
      split <;> simp [ho.1, ho.2.2]) .fwdE .fwdC

def pairScan (f : Ctx → α → α → Nat → Ctx × α) (hf : ∀ a v i, Oblivious (f · a v i)) (seed : α) : Pair α :=
  Pair.self (scanM f seed) Eq rfl .quiet
    (fun v => by
      rintro s _ c c' rfl h hc
      have ho := hf s.1 v s.2 c c' h hc
      simp [scanM, ho.1, ho.2.1, ho.2.2]) .fwdE .fwdC

def pairDistinctBy [DecidableEq κ] (key : Ctx → α → Ctx × κ) (hk : ∀ v, Oblivious (key · v)) : Pair α :=
  Pair.self (distinctByM key) Eq rfl .quiet
    (fun v => by
      rintro s _ c c' rfl h hc
      have ho := hk v c c' h hc
      simp only [distinctByM, ← ho.2.1]
      split <;> simp [ho.1, ho.2.2]) .fwdE .fwdC

/-! ### catalogue machines that keep (context, value) pairs in their state -/

def erasePair (p : Ctx × α) : Ctx × α := (eraseCtx p.1, p.2)

/-- related queues of (context, value) pairs: they agree up to the private key and hold no nil
    context -/
def TakeLastR (q q' : List (Ctx × α)) : Prop :=
  q.map erasePair = q'.map erasePair ∧ ∀ p ∈ q, p.1.isNil = false

theorem TakeLastR.length {q q' : List (Ctx × α)} (h : TakeLastR q q') : q.length = q'.length := by
  simpa using congrArg List.length h.1

theorem TakeLastR.drop {q q' : List (Ctx × α)} (h : TakeLastR q q') (k : Nat) : TakeLastR (q.drop k) (q'.drop k) :=
  ⟨by rw [List.map_drop, List.map_drop, h.1], fun p hp => h.2 p (List.mem_of_mem_drop hp)⟩

theorem TakeLastR.snoc {q q' : List (Ctx × α)} (h : TakeLastR q q') {c c' : Ctx} (hc : eraseCtx c = eraseCtx c')
    (hn : c.isNil = false) (v : α) : TakeLastR (q ++ [(c, v)]) (q' ++ [(c', v)]) :=
  ⟨by simp [h.1, erasePair, hc], fun p hp => by
    rcases List.mem_append.mp hp with hp | hp
    · exact h.2 p hp
    · rw [List.mem_singleton.mp hp]; exact hn⟩

/-- replaying related queues -/
theorem TakeLastR.replay {q q' : List (Ctx × α)} (h : TakeLastR q q') :
    eraseL (q.map (fun p => Notif.next p.1 p.2)) = eraseL (q'.map (fun p => Notif.next p.1 p.2)) ∧
    NonNil (q.map (fun p => Notif.next p.1 p.2)) := by
  refine ⟨?_, fun x hx => ?_⟩
  · have := congrArg (List.map (fun p : Ctx × α => Notif.next p.1 p.2)) h.1
    simpa [eraseL, Function.comp_def, erasePair] using this
  · obtain ⟨p, hp, rfl⟩ := List.mem_map.mp hx
    exact h.2 p hp

def pairTakeLast (count : Nat) : Pair α :=
  Pair.self (takeLastM count) TakeLastR ⟨rfl, fun _ h => nomatch h⟩ .quiet
    (fun v s s' c c' hR h hc => by
      refine ⟨?_, rfl, nonNil_nil_iff.mpr trivial⟩
      simp only [takeLastM, hR.length]
      split
      · exact (hR.drop 1).snoc h hc v
      · exact hR.snoc h hc v) .fwdE
    (fun s s' c c' hR h hc => by simp [takeLastM, hR, hR.replay, h, hc])

theorem takeLastR_cons {x y : Ctx × α} {q q' : List (Ctx × α)} :
    TakeLastR (x :: q) (y :: q') ↔
      (eraseCtx x.1 = eraseCtx y.1 ∧ x.2 = y.2 ∧ x.1.isNil = false) ∧ TakeLastR q q' := by
  simp only [TakeLastR, List.map_cons, List.cons.injEq, erasePair, Prod.mk.injEq, List.forall_mem_cons]
  exact ⟨fun h => ⟨⟨h.1.1.1, h.1.1.2, h.2.1⟩, h.1.2, h.2.2⟩, fun h => ⟨⟨⟨h.1.1, h.1.2.1⟩, h.2.1⟩, h.1.2.2, h.2.2⟩⟩

def pairSkipLast (count : Nat) : Pair α :=
  Pair.self (skipLastM count) TakeLastR ⟨rfl, fun _ h => nomatch h⟩ .quiet
    (fun v s s' c c' hR h hc => by
      simp only [skipLastM, hR.length]
      split
      · exact ⟨hR.snoc h hc v, rfl, by simp⟩
      · match s, s', hR with
        | [], [], hR => exact ⟨hR.snoc h hc v, rfl, by simp⟩
        | (c0, v0) :: q, (c0', _) :: q', hR =>
          obtain ⟨⟨hx, rfl, hxn⟩, hq⟩ := takeLastR_cons.mp hR
          exact ⟨hq.snoc h hc v, by simpa using hx, by simpa using hxn⟩
        | [], _ :: _, hR => exact absurd hR.length (by simp)
        | _ :: _, [], hR => exact absurd hR.length (by simp)) .fwdE .fwdC

/-- related optional (context, value) pairs: equal up to the private key, context not nil -/
def OptR (o o' : Option (Ctx × α)) : Prop :=
  o.map erasePair = o'.map erasePair ∧ ∀ p, o = some p → p.1.isNil = false

theorem optR_none : OptR (none : Option (Ctx × α)) none := ⟨rfl, fun _ h => nomatch h⟩

theorem optR_some {c c' : Ctx} (v : α) (h : eraseCtx c = eraseCtx c') (hc : c.isNil = false) :
    OptR (some (c, v)) (some (c', v)) :=
  ⟨by simp [erasePair, h], fun p hp => by cases hp; exact hc⟩

theorem optR_cases {o o' : Option (Ctx × α)} (h : OptR o o') :
    (o = none ∧ o' = none) ∨
    (∃ c c' v, o = some (c, v) ∧ o' = some (c', v) ∧ eraseCtx c = eraseCtx c' ∧ c.isNil = false) := by
  obtain ⟨he, hn⟩ := h
  match o, o' with
  | none, none => exact Or.inl ⟨rfl, rfl⟩
  | some (c, v), some (c', v') =>
    simp only [Option.map_some, Option.some.injEq, erasePair, Prod.mk.injEq] at he
    exact Or.inr ⟨c, c', v, rfl, by rw [he.2], he.1, hn (c, v) rfl⟩
  | none, some _ => simp at he
  | some _, none => simp at he

def pairTail : Pair α :=
  Pair.self tailM OptR optR_none .quiet (fun v _ _ c c' _ h hc => ⟨optR_some v h hc, rfl, nonNil_nil_iff.mpr trivial⟩) .fwdE
    (fun s s' c c' hR h hc => by
      rcases optR_cases hR with ⟨rfl, rfl⟩ | ⟨c0, c0', v0, rfl, rfl, h0, hc0⟩
      · simp [tailM, optR_none, h, hc]
      · simp [tailM, optR_some v0 h0 hc0, h, hc, h0, hc0])

def pairMin : Pair Int :=
  Pair.self minM OptR optR_none .quiet
    (fun v s s' c c' hR h hc => by
      refine ⟨?_, rfl, nonNil_nil_iff.mpr trivial⟩
      rcases optR_cases hR with ⟨rfl, rfl⟩ | ⟨c0, c0', v0, rfl, rfl, h0, hc0⟩
      · exact optR_some v h hc
      · simp only [minM]
        split
        · exact optR_some v h hc
        · exact optR_some v0 h0 hc0) .fwdE
    (fun s s' c c' hR h hc => by
      rcases optR_cases hR with ⟨rfl, rfl⟩ | ⟨c0, c0', v0, rfl, rfl, h0, hc0⟩
      · simp [minM, optR_none, h, hc]
      · simp [minM, optR_some v0 h0 hc0, h, hc, h0, hc0])

/-- `Last`: (last match, index) -/
def LastR (s s' : Option (Ctx × α) × Nat) : Prop := OptR s.1 s'.1 ∧ s.2 = s'.2

def pairLast (p : Pred α) (hp : ∀ v i, Oblivious (p · v i)) : Pair α :=
  Pair.self (lastM p) LastR ⟨optR_none, rfl⟩ .quiet
    (fun v s s' c c' hR h hc => by
      obtain ⟨o, i⟩ := s
      obtain ⟨o', _⟩ := s'
      obtain ⟨hO, rfl⟩ := hR
      have ho := hp v i c c' h hc
      refine ⟨⟨?_, rfl⟩, rfl, nonNil_nil_iff.mpr trivial⟩
      simp only [lastM, ← ho.2.1]
      split
      · exact optR_some v ho.1 ho.2.2
      · exact hO) .fwdE
    (fun s s' c c' hR h hc => by
      rcases optR_cases hR.1 with ⟨h1, h2⟩ | ⟨c0, c0', v0, h1, h2, h0, hc0⟩
      · simp [lastM, hR, h1, h2, h, hc]
      · simp [lastM, hR, h1, h2, h0, hc0])

/-- `Reduce`: (accumulator, last context, index); the last context is only used once a value
    has arrived -/
def ReduceR (s s' : α × Ctx × Nat) : Prop :=
  s.1 = s'.1 ∧ s.2.2 = s'.2.2 ∧ (s.2.2 = 0 ∨ (eraseCtx s.2.1 = eraseCtx s'.2.1 ∧ s.2.1.isNil = false))

def pairReduce (f : Ctx → α → α → Nat → Ctx × α) (hf : ∀ a v i, Oblivious (f · a v i)) (seed : α) : Pair α :=
  Pair.self (reduceM f seed) ReduceR ⟨rfl, rfl, Or.inl rfl⟩ .quiet
    (fun v s s' c c' hR h hc => by
      obtain ⟨a, lc, i⟩ := s
      obtain ⟨_, lc', _⟩ := s'
      obtain ⟨rfl, rfl, _⟩ := hR
      have ho := hf a v i c c' h hc
      exact ⟨⟨ho.2.1, rfl, Or.inr ⟨ho.1, ho.2.2⟩⟩, rfl, nonNil_nil_iff.mpr trivial⟩) .fwdE
    (fun s s' c c' hR h hc => by
      obtain ⟨a, lc, i⟩ := s
      obtain ⟨_, lc', _⟩ := s'
      obtain ⟨rfl, rfl, hl⟩ := hR
      refine ⟨⟨rfl, rfl, hl⟩, ?_⟩
      simp only [reduceM]
      simp only at hl
      rcases hl with h0 | ⟨he, hne⟩
      · simp [h0, h, hc]
      · split <;> simp [h, hc, he, hne])

/-- `Max` on an empty source emits its value with a nil context (known finding of C04/C09):
    it is outside the domain of the transparency theorem -/
theorem max_emits_nil (c : Ctx) : ∃ x ∈ (maxM.step none (Notif.complete c)).2, x.ctx.isNil = true :=
  ⟨.next Ctx.nil 0, by simp [Machine.step, maxM], rfl⟩

end Ro.Prom
