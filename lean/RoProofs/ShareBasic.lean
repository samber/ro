/-
  RoProofs.ShareBasic — list helpers, the invariant of RoModel.Share at event boundaries, and the
  "same control state" relation used to discard everything that only touches traces, stored values
  and the drop log.
-/
import RoModel.Share
import RoModel.Spec.Share
namespace Ro.Share

theorem filter_range_le_one (p : Nat → Bool) (g n : Nat) (h : ∀ k, k < n → p k = true → k = g) :
    ((List.range n).filter p).length ≤ 1 := by
  induction n with
  | zero => simp
  | succ n ih =>
    rw [List.range_succ, List.filter_append]
    by_cases hp : p n = true
    · have hn : n = g := h n (Nat.lt_succ_self n) hp
      have : (List.range n).filter p = [] := by
        rw [List.filter_eq_nil_iff]
        intro a ha hpa
        have := h a (Nat.lt_succ_of_lt (List.mem_range.mp ha)) hpa
        have := List.mem_range.mp ha
        omega
      simp [this, hp]
    · have := ih (fun k hk => h k (Nat.lt_succ_of_lt hk))
      simp [hp, this]

theorem filter_range_eq_nil (p : Nat → Bool) (n : Nat) (h : ∀ k, k < n → p k = false) :
    (List.range n).filter p = [] := by
  rw [List.filter_eq_nil_iff]
  intro a ha
  simp [h a (List.mem_range.mp ha)]

theorem filter_range_all (p : Nat → Bool) (n : Nat) (h : ∀ k, k < n → p k = true) :
    ((List.range n).filter p).length = n := by
  have : (List.range n).filter p = List.range n := by
    rw [List.filter_eq_self]
    intro a ha
    exact h a (List.mem_range.mp ha)
  simp [this]

theorem filter_range_single (p : Nat → Bool) (g n : Nat) (hg : g < n) (hp : p g = true)
    (h : ∀ k, k < n → p k = true → k = g) : ((List.range n).filter p).length = 1 := by
  have h1 := filter_range_le_one p g n h
  have : g ∈ (List.range n).filter p := by
    rw [List.mem_filter]
    exact ⟨List.mem_range.mpr hg, hp⟩
  have : 0 < ((List.range n).filter p).length := List.length_pos_of_mem this
  omega

theorem ite_else_same {α : Sort _} (c : Prop) [Decidable c] (a b d : α) :
    (if c then a else if c then b else d) = if c then a else d := by
  split <;> simp [*]

/-- `modGen` / `modSub` with the changed record named outright: the form the states of the proofs are written in -/
theorem St.modGen_eq (s : St) (g : Nat) (f : Gen → Gen) :
    s.modGen g f = { s with gens := fun k => if k = g then f (s.gens g) else s.gens k } := by
  simp only [St.modGen]; congr 1; funext k; split <;> simp_all

theorem St.modSub_eq (s : St) (i : Nat) (f : DSub → DSub) :
    s.modSub i f = { s with subs := fun k => if k = i then f (s.subs i) else s.subs k } := by
  simp only [St.modSub]; congr 1; funext k; split <;> simp_all

/-- one induction for every property that each step on the list keeps -/
theorem foldl_inv {σ α : Type} {I : σ → Prop} (f : σ → α → σ) (l : List α) (hf : ∀ s a, a ∈ l → I s → I (f s a)) {s : σ}
    (h : I s) : I (l.foldl f s) :=
  l.foldlRecOn f h fun s hs a ha => hf s a ha hs

/-- … in particular for being related to the start by a relation closed under composition -/
theorem foldl_rel {σ α : Type} {R : σ → σ → Prop} (refl : ∀ s, R s s) (trans : ∀ {a b c}, R a b → R b c → R a c)
    (f : σ → α → σ) (hf : ∀ s a, R s (f s a)) (l : List α) (s : σ) : R s (l.foldl f s) :=
  foldl_inv (I := R s) f l (fun u a _ h => trans h (hf u a)) (refl s)

theorem Ev.code_ne_zero (t : Ev) : t.code ≠ 0 := by cases t <;> simp [Ev.code]

theorem Status.ofTerminal_ne_open (t : Ev) : Status.ofTerminal t ≠ .open := by cases t <;> simp [Status.ofTerminal]

theorem mem_openSubs {s : St} {i : Nat} : i ∈ openSubs s ↔ i < s.nsubs ∧ (s.subs i).status = 0 := by
  simp [openSubs, List.mem_filter]

theorem openSubs_nodup (s : St) : (openSubs s).Nodup :=
  (List.nodup_range).sublist List.filter_sublist

theorem openSubs_eq_nil {s : St} : openSubs s = [] ↔ ∀ i, i < s.nsubs → (s.subs i).status ≠ 0 := by
  simp [openSubs, List.filter_eq_nil_iff]

/-- the open subscribers are the same when the statuses are -/
theorem openSubs_congr {s s' : St} (hn : s'.nsubs = s.nsubs)
    (h : ∀ i, i < s.nsubs → ((s'.subs i).status = 0 ↔ (s.subs i).status = 0)) : openSubs s' = openSubs s := by
  unfold openSubs
  rw [hn]
  apply List.filter_congr
  intro i hi
  have := h i (List.mem_range.mp hi)
  simp [this]

/-- closing subscriber `i` removes it from the list -/
theorem openSubs_close {s s' : St} {i : Nat} (hn : s'.nsubs = s.nsubs)
    (hi : (s'.subs i).status ≠ 0)
    (h : ∀ k, k ≠ i → (s'.subs k).status = (s.subs k).status) : openSubs s' = (openSubs s).erase i := by
  rw [(openSubs_nodup s).erase_eq_filter]
  unfold openSubs
  rw [hn, List.filter_filter]
  apply List.filter_congr
  intro k _
  by_cases hk : k = i
  · subst hk; simp [hi]
  · simp [h k hk, hk]

/-- a new open subscriber is appended -/
theorem openSubs_new {s s' : St} (hn : s'.nsubs = s.nsubs + 1) (hi : (s'.subs s.nsubs).status = 0)
    (h : ∀ k, k < s.nsubs → (s'.subs k).status = (s.subs k).status) : openSubs s' = openSubs s ++ [s.nsubs] := by
  unfold openSubs
  rw [hn, List.range_succ, List.filter_append]
  congr 1
  · apply List.filter_congr
    intro k hk
    simp [h k (List.mem_range.mp hk)]
  · simp [hi]

/-- a new closed subscriber is not -/
theorem openSubs_new_closed {s s' : St} (hn : s'.nsubs = s.nsubs + 1) (hi : (s'.subs s.nsubs).status ≠ 0)
    (h : ∀ k, k < s.nsubs → (s'.subs k).status = (s.subs k).status) : openSubs s' = openSubs s := by
  unfold openSubs
  rw [hn, List.range_succ, List.filter_append]
  have : List.filter (fun i => decide ((s'.subs i).status = 0)) [s.nsubs] = [] := by simp [hi]
  rw [this, List.append_nil]
  apply List.filter_congr
  intro k hk
  simp [h k (List.mem_range.mp hk)]

/-! ### shapes of the objects at event boundaries -/

/-- an open downstream subscriber attached to generation `g` -/
structure SubOpen (g : Nat) (d : DSub) : Prop where
  status : d.status = 0
  done : d.done = false
  delFin : d.delFin = some g
  tearFin : d.tearFin = some g

/-- a downstream subscriber that has ended or left: nothing of it remains registered -/
structure SubClosed (d : DSub) : Prop where
  status : d.status ≠ 0
  done : d.done = true
  delFin : d.delFin = none
  tearFin : d.tearFin = none

/-- the creator of a generation while it is still inside the source's `Subscribe` (region R3 not
    finished): registered on the subject, Share's teardown not registered yet -/
structure SubOpenU (g : Nat) (d : DSub) : Prop where
  status : d.status = 0
  done : d.done = false
  delFin : d.delFin = some g
  tearFin : d.tearFin = none

/-- **pending creator** (nesting depth one): `ug` = the generation whose creator is still inside the
    source's `Subscribe` (its R3 is unfinished: upstream teardown not registered on the proxy, proxy not
    yet added to the `sourceSubscription`, Share's teardown not registered); `ua` = that creator as long
    as it is still open. Between top-level events nothing is pending: `Pend.idle`. -/
structure Pend where
  ug : Option Nat := none
  ua : Option Nat := none

def Pend.idle : Pend := {}

/-- the pending creator has ended (terminal inside its own `Subscribe`) -/
def Pend.drop (P : Pend) : Pend := { P with ua := none }

/-- references counted in `refCount` that belong to no open subscriber: the pending creator once it
    has been closed (it gives its reference back only when its `Subscribe` returns) -/
def Pend.c (P : Pend) : Nat := if P.ug.isSome && P.ua.isNone then 1 else 0

@[simp] theorem Pend.c_idle : Pend.idle.c = 0 := rfl
@[simp] theorem Pend.drop_idle : Pend.idle.drop = Pend.idle := rfl
@[simp] theorem Pend.idle_ug : Pend.idle.ug = none := rfl
@[simp] theorem Pend.idle_ua : Pend.idle.ua = none := rfl

/-- the current generation while its upstream subscription is live -/
structure GenActive (P : Pend) (s : St) (g : Nat) : Prop where
  pStatus : (s.gens g).pStatus = 0
  pDone : (s.gens g).pDone = false
  upSub : (s.gens g).upSub = true
  upTorn : (s.gens g).upTorn = false
  ssDone : (s.gens g).ssDone = false
  isOpen : (s.gens g).subj.status = .open
  flagE : s.flagE = false
  flagC : s.flagC = false
  obs : (s.gens g).subj.obs = openSubs s
  /-- R3 of its creator is finished -/
  fin : P.ug ≠ some g → (s.gens g).pFin = true ∧ (s.gens g).ssFins = [g]
  /-- … or still running: then the creator is the pending open subscriber -/
  unf : P.ug = some g → (s.gens g).pFin = false ∧ (s.gens g).ssFins = [] ∧
    ∃ A, P.ua = some A ∧ A < s.nsubs ∧ SubOpenU g (s.subs A)
  subs : ∀ i, i < s.nsubs → (s.subs i).status = 0 → P.ua ≠ some i → SubOpen g (s.subs i)

/-- the current generation after a source terminal that the configuration does not reset on:
    the terminated subject stays the shared one for ever -/
structure GenLatched (P : Pend) (s : St) (g : Nat) : Prop where
  pStatus : (s.gens g).pStatus ≠ 0
  pDone : (s.gens g).pDone = true
  pFin : (s.gens g).pFin = false
  upSub : (s.gens g).upSub = true
  ssDone : (s.gens g).ssDone = false
  closed : (s.gens g).subj.status ≠ .open
  obs : (s.gens g).subj.obs = []
  flag : s.flagE = true ∨ s.flagC = true
  noOpen : openSubs s = []
  fin : P.ug ≠ some g → (s.gens g).upTorn = true ∧ (s.gens g).ssFins = [g]
  unf : P.ug = some g → (s.gens g).upTorn = false ∧ (s.gens g).ssFins = [] ∧ P.ua = none

/-- a generation that has been reset -/
structure GenStale (x : Gen) : Prop where
  pStatus : x.pStatus ≠ 0
  pDone : x.pDone = true
  pFin : x.pFin = false
  upSub : x.upSub = true
  upTorn : x.upTorn = true
  ssFins : x.ssFins = []
  ssDone : x.ssDone = true
  obs : x.subj.obs = []

/-- the pending generation after it has been reset (by a terminal inside its creator's `Subscribe`):
    ended by the source, its teardown not run yet (it is not even registered) -/
structure GenEnded (x : Gen) : Prop where
  pStatus : x.pStatus ≠ 0
  pDone : x.pDone = true
  pFin : x.pFin = false
  upSub : x.upSub = true
  upTorn : x.upTorn = false
  ssFins : x.ssFins = []
  ssDone : x.ssDone = true
  obs : x.subj.obs = []

/-- what holds of every reachable state between two events (`P = Pend.idle`), and — with a pending
    creator `P` — between two events that happen inside the source's `Subscribe` -/
structure Inv (P : Pend) (s : St) : Prop where
  shared : s.sourceSubscription = s.subject
  closed : ∀ i, i < s.nsubs → (s.subs i).status ≠ 0 → SubClosed (s.subs i)
  stale : ∀ g, g < s.ngens → s.subject ≠ some g → P.ug ≠ some g → GenStale (s.gens g)
  ended : ∀ g, g < s.ngens → s.subject ≠ some g → P.ug = some g → GenEnded (s.gens g) ∧ P.ua = none
  count : s.refCount = ((openSubs s).length + P.c : Nat)
  idle : s.subject = none → s.flagE = false ∧ s.flagC = false ∧ openSubs s = []
  cur : ∀ g, s.subject = some g → g < s.ngens ∧ (GenActive P s g ∨ GenLatched P s g)
  ugb : ∀ g, P.ug = some g → g < s.ngens
  uab : ∀ A, P.ua = some A → P.ug = s.subject ∧ s.subject ≠ none

theorem Inv.init : Inv Pend.idle {} := by
  constructor <;> simp [openSubs]

/-- the generations other than the shared one `g`: reset — or, for the pending one, ended -/
theorem Inv.rest {P : Pend} {s : St} {g k : Nat} (hi : Inv P s) (hsub : s.subject = some g) (hk : k < s.ngens) (hkg : k ≠ g) :
    (P.ug ≠ some k → GenStale (s.gens k)) ∧ (P.ug = some k → GenEnded (s.gens k) ∧ P.ua = none) :=
  have hne : s.subject ≠ some k := by rw [hsub]; exact fun h => hkg (Option.some.inj h).symm
  ⟨hi.stale k hk hne, hi.ended k hk hne⟩

/-- a pending creator that is still open belongs to the shared generation -/
theorem Inv.ua_none {P : Pend} {s : St} {g : Nat} (hi : Inv P s) (hsub : s.subject = some g) (hne : P.ug ≠ some g) : P.ua = none := by
  cases h : P.ua with
  | none => rfl
  | some A => exact absurd ((hi.uab A h).1.trans hsub) hne

/-- the invariant of a state whose shared generation is `g`, from the clauses that speak of `g` and of the others -/
theorem Inv.of_cur {P : Pend} {s : St} {g : Nat} (hsub : s.subject = some g) (shared : s.sourceSubscription = s.subject)
    (hg : g < s.ngens) (cur : GenActive P s g ∨ GenLatched P s g)
    (closed : ∀ i, i < s.nsubs → (s.subs i).status ≠ 0 → SubClosed (s.subs i))
    (rest : ∀ k, k < s.ngens → k ≠ g → (P.ug ≠ some k → GenStale (s.gens k)) ∧ (P.ug = some k → GenEnded (s.gens k) ∧ P.ua = none))
    (count : s.refCount = ((openSubs s).length + P.c : Nat)) (ugb : ∀ k, P.ug = some k → k < s.ngens)
    (uab : ∀ A, P.ua = some A → P.ug = some g) : Inv P s where
  shared := shared
  closed := closed
  stale := fun k hk hne => (rest k hk (fun h => hne (by rw [h]; exact hsub))).1
  ended := fun k hk hne => (rest k hk (fun h => hne (by rw [h]; exact hsub))).2
  count := count
  idle := fun hn => by rw [hsub] at hn; cases hn
  cur := fun g' hg' => by
    rw [hsub] at hg'
    cases hg'
    exact ⟨hg, cur⟩
  ugb := ugb
  uab := fun A hA => ⟨(uab A hA).trans hsub.symm, by rw [hsub]; simp⟩

/-- the invariant of a state without a shared generation: nobody listens, nothing is latched -/
theorem Inv.of_none {P : Pend} {s : St} (hsub : s.subject = none) (hss : s.sourceSubscription = none)
    (flagE : s.flagE = false) (flagC : s.flagC = false) (hno : openSubs s = [])
    (closed : ∀ i, i < s.nsubs → (s.subs i).status ≠ 0 → SubClosed (s.subs i))
    (rest : ∀ k, k < s.ngens → (P.ug ≠ some k → GenStale (s.gens k)) ∧ (P.ug = some k → GenEnded (s.gens k)))
    (count : s.refCount = (P.c : Nat)) (ugb : ∀ k, P.ug = some k → k < s.ngens) (hua : P.ua = none) : Inv P s where
  shared := hss.trans hsub.symm
  closed := closed
  stale := fun k hk _ => (rest k hk).1
  ended := fun k hk _ hu => ⟨(rest k hk).2 hu, hua⟩
  count := by rw [hno, count]; simp
  idle := fun _ => ⟨flagE, flagC, hno⟩
  cur := fun g hg => by rw [hsub] at hg; cases hg
  ugb := ugb
  uab := fun A hA => by rw [hua] at hA; cases hA

/-! ### same control state -/

/-- `s'` differs from `s` at most in traces, the subjects' stored values and the drop log -/
structure Sim (s s' : St) : Prop where
  refCount : s'.refCount = s.refCount
  subject : s'.subject = s.subject
  sourceSubscription : s'.sourceSubscription = s.sourceSubscription
  flagE : s'.flagE = s.flagE
  flagC : s'.flagC = s.flagC
  ngens : s'.ngens = s.ngens
  nsubs : s'.nsubs = s.nsubs
  status : ∀ k, (s'.subs k).status = (s.subs k).status
  done : ∀ k, (s'.subs k).done = (s.subs k).done
  delFin : ∀ k, (s'.subs k).delFin = (s.subs k).delFin
  tearFin : ∀ k, (s'.subs k).tearFin = (s.subs k).tearFin
  gStatus : ∀ k, (s'.gens k).subj.status = (s.gens k).subj.status
  gObs : ∀ k, (s'.gens k).subj.obs = (s.gens k).subj.obs
  ssDone : ∀ k, (s'.gens k).ssDone = (s.gens k).ssDone
  ssFins : ∀ k, (s'.gens k).ssFins = (s.gens k).ssFins
  pStatus : ∀ k, (s'.gens k).pStatus = (s.gens k).pStatus
  pDone : ∀ k, (s'.gens k).pDone = (s.gens k).pDone
  pFin : ∀ k, (s'.gens k).pFin = (s.gens k).pFin
  upSub : ∀ k, (s'.gens k).upSub = (s.gens k).upSub
  upTorn : ∀ k, (s'.gens k).upTorn = (s.gens k).upTorn

theorem Sim.refl (s : St) : Sim s s := by constructor <;> intros <;> rfl

theorem Sim.trans {a b c : St} (h1 : Sim a b) (h2 : Sim b c) : Sim a c where
  refCount := h2.refCount.trans h1.refCount
  subject := h2.subject.trans h1.subject
  sourceSubscription := h2.sourceSubscription.trans h1.sourceSubscription
  flagE := h2.flagE.trans h1.flagE
  flagC := h2.flagC.trans h1.flagC
  ngens := h2.ngens.trans h1.ngens
  nsubs := h2.nsubs.trans h1.nsubs
  status := fun k => (h2.status k).trans (h1.status k)
  done := fun k => (h2.done k).trans (h1.done k)
  delFin := fun k => (h2.delFin k).trans (h1.delFin k)
  tearFin := fun k => (h2.tearFin k).trans (h1.tearFin k)
  gStatus := fun k => (h2.gStatus k).trans (h1.gStatus k)
  gObs := fun k => (h2.gObs k).trans (h1.gObs k)
  ssDone := fun k => (h2.ssDone k).trans (h1.ssDone k)
  ssFins := fun k => (h2.ssFins k).trans (h1.ssFins k)
  pStatus := fun k => (h2.pStatus k).trans (h1.pStatus k)
  pDone := fun k => (h2.pDone k).trans (h1.pDone k)
  pFin := fun k => (h2.pFin k).trans (h1.pFin k)
  upSub := fun k => (h2.upSub k).trans (h1.upSub k)
  upTorn := fun k => (h2.upTorn k).trans (h1.upTorn k)

theorem Sim.openSubs {s s' : St} (h : Sim s s') : openSubs s' = openSubs s :=
  openSubs_congr h.nsubs (fun i _ => by rw [h.status i])

/-- the probe's counters read the number of generations and their upstream flags only -/
theorem St.live_congr {s s' : St} (hn : s'.ngens = s.ngens) (h : ∀ k, s'.upLive k = s.upLive k) : s'.live = s.live := by
  unfold St.live
  rw [hn, funext h]

theorem St.total_congr {s s' : St} (hn : s'.ngens = s.ngens) (h : ∀ k, (s'.gens k).upSub = (s.gens k).upSub) :
    s'.total = s.total := by
  unfold St.total
  rw [hn, funext h]

theorem Sim.live {s s' : St} (h : Sim s s') : s'.live = s.live :=
  St.live_congr h.ngens fun k => by rw [St.upLive, St.upLive, h.upSub, h.upTorn]

theorem Sim.total {s s' : St} (h : Sim s s') : s'.total = s.total := St.total_congr h.ngens h.upSub

theorem SubOpen.sim {s s' : St} (h : Sim s s') {g k : Nat} (ho : SubOpen g (s.subs k)) : SubOpen g (s'.subs k) :=
  ⟨by rw [h.status]; exact ho.status, by rw [h.done]; exact ho.done, by rw [h.delFin]; exact ho.delFin,
   by rw [h.tearFin]; exact ho.tearFin⟩

theorem SubClosed.sim {s s' : St} (h : Sim s s') {k : Nat} (ho : SubClosed (s.subs k)) : SubClosed (s'.subs k) :=
  ⟨by rw [h.status]; exact ho.status, by rw [h.done]; exact ho.done, by rw [h.delFin]; exact ho.delFin,
   by rw [h.tearFin]; exact ho.tearFin⟩

theorem GenStale.sim {s s' : St} (h : Sim s s') {g : Nat} (ho : GenStale (s.gens g)) : GenStale (s'.gens g) :=
  ⟨by rw [h.pStatus]; exact ho.pStatus, by rw [h.pDone]; exact ho.pDone, by rw [h.pFin]; exact ho.pFin,
   by rw [h.upSub]; exact ho.upSub, by rw [h.upTorn]; exact ho.upTorn, by rw [h.ssFins]; exact ho.ssFins,
   by rw [h.ssDone]; exact ho.ssDone, by rw [h.gObs]; exact ho.obs⟩

theorem SubOpenU.sim {s s' : St} (h : Sim s s') {g k : Nat} (ho : SubOpenU g (s.subs k)) : SubOpenU g (s'.subs k) :=
  ⟨by rw [h.status]; exact ho.status, by rw [h.done]; exact ho.done, by rw [h.delFin]; exact ho.delFin,
   by rw [h.tearFin]; exact ho.tearFin⟩

theorem GenEnded.sim {s s' : St} (h : Sim s s') {g : Nat} (ho : GenEnded (s.gens g)) : GenEnded (s'.gens g) :=
  ⟨by rw [h.pStatus]; exact ho.pStatus, by rw [h.pDone]; exact ho.pDone, by rw [h.pFin]; exact ho.pFin,
   by rw [h.upSub]; exact ho.upSub, by rw [h.upTorn]; exact ho.upTorn, by rw [h.ssFins]; exact ho.ssFins,
   by rw [h.ssDone]; exact ho.ssDone, by rw [h.gObs]; exact ho.obs⟩

theorem GenActive.sim {P : Pend} {s s' : St} (h : Sim s s') {g : Nat} (ho : GenActive P s g) : GenActive P s' g where
  pStatus := by rw [h.pStatus]; exact ho.pStatus
  pDone := by rw [h.pDone]; exact ho.pDone
  upSub := by rw [h.upSub]; exact ho.upSub
  upTorn := by rw [h.upTorn]; exact ho.upTorn
  ssDone := by rw [h.ssDone]; exact ho.ssDone
  isOpen := by rw [h.gStatus]; exact ho.isOpen
  flagE := by rw [h.flagE]; exact ho.flagE
  flagC := by rw [h.flagC]; exact ho.flagC
  obs := by rw [h.gObs, h.openSubs]; exact ho.obs
  fin := fun hne => by rw [h.pFin, h.ssFins]; exact ho.fin hne
  unf := fun he => by
    obtain ⟨h1, h2, A, hA, hlt, hu⟩ := ho.unf he
    exact ⟨by rw [h.pFin]; exact h1, by rw [h.ssFins]; exact h2, A, hA, by rw [h.nsubs]; exact hlt, hu.sim h⟩
  subs := fun i hi hs hne => (ho.subs i (h.nsubs ▸ hi) (h.status i ▸ hs) hne).sim h

theorem GenLatched.sim {P : Pend} {s s' : St} (h : Sim s s') {g : Nat} (ho : GenLatched P s g) : GenLatched P s' g where
  pStatus := by rw [h.pStatus]; exact ho.pStatus
  pDone := by rw [h.pDone]; exact ho.pDone
  pFin := by rw [h.pFin]; exact ho.pFin
  upSub := by rw [h.upSub]; exact ho.upSub
  ssDone := by rw [h.ssDone]; exact ho.ssDone
  closed := by rw [h.gStatus]; exact ho.closed
  obs := by rw [h.gObs]; exact ho.obs
  flag := by rw [h.flagE, h.flagC]; exact ho.flag
  noOpen := by rw [h.openSubs]; exact ho.noOpen
  fin := fun hne => by rw [h.upTorn, h.ssFins]; exact ho.fin hne
  unf := fun he => by rw [h.upTorn, h.ssFins]; exact ho.unf he

/-- the live generation stays live when its record changes in the observers only and the pending
    creator's record not at all -/
theorem GenActive.of_obs {P : Pend} {s s' : St} {g : Nat} (ha : GenActive P s g) {o : List Nat}
    (hg : s'.gens g = { (s.gens g) with subj := { (s.gens g).subj with obs := o } })
    (hE : s'.flagE = s.flagE) (hC : s'.flagC = s.flagC) (obs : o = openSubs s') (hn : s.nsubs ≤ s'.nsubs)
    (pend : ∀ A, P.ua = some A → A < s.nsubs → s'.subs A = s.subs A)
    (subs : ∀ i, i < s'.nsubs → (s'.subs i).status = 0 → P.ua ≠ some i → SubOpen g (s'.subs i)) : GenActive P s' g where
  pStatus := by rw [hg]; exact ha.pStatus
  pDone := by rw [hg]; exact ha.pDone
  upSub := by rw [hg]; exact ha.upSub
  upTorn := by rw [hg]; exact ha.upTorn
  ssDone := by rw [hg]; exact ha.ssDone
  isOpen := by rw [hg]; exact ha.isOpen
  flagE := hE.trans ha.flagE
  flagC := hC.trans ha.flagC
  obs := by rw [hg]; exact obs
  fin := fun hne => by rw [hg]; exact ha.fin hne
  unf := fun he => by
    obtain ⟨h1, h2, A, hA, hlt, hu⟩ := ha.unf he
    rw [hg]
    exact ⟨h1, h2, A, hA, Nat.lt_of_lt_of_le hlt hn, by rw [pend A hA hlt]; exact hu⟩
  subs := subs

/-- the invariant does not see traces, stored values or drops -/
theorem Inv.sim {P : Pend} {s s' : St} (hi : Inv P s) (h : Sim s s') : Inv P s' where
  shared := by rw [h.sourceSubscription, h.subject]; exact hi.shared
  closed := fun i hlt hs => (hi.closed i (h.nsubs ▸ hlt) (h.status i ▸ hs)).sim h
  stale := fun g hg hne hu => (hi.stale g (h.ngens ▸ hg) (h.subject ▸ hne) hu).sim h
  ended := fun g hg hne hu => by
    have := hi.ended g (h.ngens ▸ hg) (h.subject ▸ hne) hu
    exact ⟨this.1.sim h, this.2⟩
  count := by rw [h.refCount, h.openSubs]; exact hi.count
  idle := fun hn => by
    rw [h.flagE, h.flagC, h.openSubs]
    exact hi.idle (h.subject ▸ hn)
  cur := fun g hg => by
    have := hi.cur g (h.subject ▸ hg)
    refine ⟨by rw [h.ngens]; exact this.1, ?_⟩
    rcases this.2 with ha | hl
    · exact Or.inl (ha.sim h)
    · exact Or.inr (hl.sim h)
  ugb := fun g hg => by rw [h.ngens]; exact hi.ugb g hg
  uab := fun A hA => by rw [h.subject]; exact hi.uab A hA

/-- with nothing pending the current live generation is finished -/
theorem GenActive.pFin {s : St} {g : Nat} (h : GenActive Pend.idle s g) : (s.gens g).pFin = true := (h.fin (by simp)).1
theorem GenActive.ssFins {s : St} {g : Nat} (h : GenActive Pend.idle s g) : (s.gens g).ssFins = [g] := (h.fin (by simp)).2
theorem GenLatched.upTorn {s : St} {g : Nat} (h : GenLatched Pend.idle s g) : (s.gens g).upTorn = true := (h.fin (by simp)).1
theorem GenLatched.ssFins {s : St} {g : Nat} (h : GenLatched Pend.idle s g) : (s.gens g).ssFins = [g] := (h.fin (by simp)).2

end Ro.Share
