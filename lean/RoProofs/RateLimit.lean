/-
  RoProofs.RateLimit — the native limiter in logical time: execution = composition of the pieces,
  per key the first `n` items of each window; the output is a subsequence of the timeline's items;
  events of other keys do not reach a key's group.
-/
import RoModel.RateLimit
namespace Ro.RateLimit
open Ro

variable {κ α : Type}

/-! ### one group: Mealy machine = WindowWhen ; Map(Take n) ; MergeAll -/

theorem winRun_windows (n : Nat) (g : List (GEv α)) (c : Nat) :
    winRun n c g = (windowWhen g).1.take (n - c) ++ ((windowWhen g).2.map (List.take n)).flatten := by
  induction g generalizing c with
  | nil => simp [winRun, windowWhen]
  | cons e r ih =>
    cases e with
    | item v =>
      simp only [winRun, winStep, windowWhen]
      rw [ih (c + 1)]
      by_cases h : c < n
      · have : n - c = (n - (c + 1)) + 1 := by omega
        simp [h, this, List.take_succ_cons]
      · have h1 : n - c = 0 := by omega
        have h2 : n - (c + 1) = 0 := by omega
        simp [h, h1, h2]
    | tick =>
      simp only [winRun, winStep, windowWhen]
      rw [ih 0]
      simp

/-- the group machine started on a fresh window is the composition of the three pieces -/
theorem winRun_eq_pipeline (n : Nat) (g : List (GEv α)) : winRun n 0 g = pipeline n g := by
  rw [winRun_windows]
  simp [pipeline, mergeAll, takeEach, windows]

/-! ### GroupBy + MergeMap: the projection of the run on one key is that key's group machine -/

variable [DecidableEq κ]

theorem runFrom_key (n : Nat) (k : κ) (tl : List (Ev κ α)) (st : κ → Nat) :
    ((runFrom n st tl).filter (fun p => p.1 = k)).map (·.2) = winRun n (st k) (group k tl) := by
  induction tl generalizing st with
  | nil => simp [runFrom, group, winRun]
  | cons e r ih =>
    cases e with
    | item k' v =>
      simp only [runFrom, group]
      by_cases hk : k' = k
      · subst hk
        simp only [if_true, winRun, winStep, List.filter_append, List.map_append]
        rw [ih]
        by_cases h : st k' < n <;> simp [h, setKey]
      · simp only [hk, if_false, List.filter_append, List.map_append]
        rw [ih]
        have : setKey st k' (st k' + 1) k = st k := by
          simp [setKey, Ne.symm hk]
        rw [this]
        by_cases h : st k' < n <;> simp [h, hk]
    | tick k' =>
      simp only [runFrom, group]
      by_cases hk : k' = k
      · subst hk
        simp only [if_true, winRun, winStep]
        rw [ih]
        simp [setKey]
      · simp only [hk, if_false]
        rw [ih]
        simp [setKey, Ne.symm hk]

/-- **per key the output is the first `n` items of each window, in order**: the items of key `k`
    that the limiter lets through are exactly GroupBy's substream of `k`, cut into windows at
    `k`'s ticks, `Take n` of each window, merged back -/
theorem run_perKey (n : Nat) (k : κ) (tl : List (Ev κ α)) :
    ((run n tl).filter (fun p => p.1 = k)).map (·.2) = ((windows (group k tl)).map (List.take n)).flatten := by
  unfold run
  rw [runFrom_key, winRun_eq_pipeline]
  rfl

/-- **order, no duplication** (all keys together): the output is a subsequence of the timeline's
    items — every occurrence passes at most once and in the original order -/
theorem runFrom_sublist (n : Nat) (tl : List (Ev κ α)) (st : κ → Nat) : (runFrom n st tl).Sublist (items tl) := by
  induction tl generalizing st with
  | nil => simp [runFrom, items]
  | cons e r ih =>
    cases e with
    | item k v =>
      simp only [runFrom, items]
      by_cases h : st k < n
      · simpa [h] using (ih _).cons_cons (k, v)
      · simpa [h] using (ih _).cons (k, v)
    | tick k => simpa [runFrom, items] using ih _

/-- other keys' events can be inserted or removed freely -/
theorem group_item_other (k k' : κ) (v : α) (a b : List (Ev κ α)) (h : k' ≠ k) :
    group k (a ++ .item k' v :: b) = group k (a ++ b) := by
  induction a with
  | nil => simp [group, h]
  | cons e r ih => cases e <;> simp only [List.cons_append, group, ih]

theorem group_tick_other (k k' : κ) (a b : List (Ev κ α)) (h : k' ≠ k) :
    group k (a ++ (.tick k' : Ev κ α) :: b) = group k (a ++ b) := by
  induction a with
  | nil => simp [group, h]
  | cons e r ih => cases e <;> simp only [List.cons_append, group, ih]

/-! ### terminal -/

theorem native_items (n : Nat) (tl : List (Ev κ α)) (e : End) :
    (native n tl e).filterMap (fun o => match o with | .item k v => some (k, v) | _ => none) = run n tl := by
  unfold native
  rw [List.filterMap_append]
  have h1 : ∀ l : List (κ × α), (l.map (fun p => Out.item p.1 p.2)).filterMap
      (fun o => match o with | Out.item k v => some (k, v) | _ => none) = l := by
    intro l; induction l with
    | nil => rfl
    | cons a as ih => simp [ih]
  rw [h1]
  cases e <;> simp [End.toOut]

theorem native_never (n : Nat) (tl : List (Ev κ α)) :
    native n tl .never = (run n tl).map (fun p => Out.item p.1 p.2) := by simp [native, End.toOut]

end Ro.RateLimit
