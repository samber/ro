/-
  RoProofs.PromStamped — a static sub-domain on which the counters are exactly the ones the
  property states: chains of operators that *keep the checkpoint*, i.e. every value they emit
  carries a non-nil context descending from a value they received (`Keeps`). Then every value
  that leaves an operator carries the checkpoint stored by `observeBeforePipe`, so every
  processing-time observer makes one observation per value (`tinv_run`: a local invariant of the
  stages behind `observeBeforePipe`, under the condition that values carry the checkpoint).

  `Keeps` instances: the pointwise operators (`idM`, `mapM`, `filterM`, `mapToM`, `mapErrM`,
  `scanM`, `clampM`, `distinctByM`, `ignoreElementsM`), the cutting ones (`takeM`, `skipM`,
  `skipWhileM`, `takeWhileM`, `headM`, `firstM`, `elementAtM`, `findM`, `throwIfEmptyM`) and the
  ones that replay stored (context, value) pairs (`takeLastM`, `skipLastM`, `tailM`, `lastM`,
  `minM`). Not instances, each with a one-line reason in docs/C19.md: operators that emit a value
  at subscription or completion time with the subscriber's / the terminal's context or a fresh one.
-/
import RoProofs.PromTransparent
import RoModel.Ops.Aggregate
import RoModel.DriverCore
import RoProofs.PromCounters
namespace Ro.Prom
open Ro

variable {α β κ : Type}

/-- a value carries a non-nil context with the checkpoint (terminals: nothing required) -/
def GoodN : Notif α → Prop
  | .next c _ => c.isNil = false ∧ stamped c = true
  | _ => True

def GoodL (l : List (Notif α)) : Prop := ∀ x ∈ l, GoodN x

@[simp] theorem goodL_nil : GoodL ([] : List (Notif α)) ↔ True := ⟨fun _ => trivial, fun _ _ h => nomatch h⟩
@[simp] theorem goodL_cons {x : Notif α} {l} : GoodL (x :: l) ↔ GoodN x ∧ GoodL l := List.forall_mem_cons
@[simp] theorem goodL_append {a b : List (Notif α)} : GoodL (a ++ b) ↔ GoodL a ∧ GoodL b := List.forall_mem_append
@[simp] theorem goodN_next (c : Ctx) (v : α) : GoodN (Notif.next c v) ↔ c.isNil = false ∧ stamped c = true := Iff.rfl
@[simp] theorem goodN_error (c : Ctx) (e : Err) : GoodN (Notif.error c e : Notif α) ↔ True := Iff.rfl
@[simp] theorem goodN_complete (c : Ctx) : GoodN (Notif.complete c : Notif α) ↔ True := Iff.rfl

theorem stamped_stamp (c : Ctx) : stamped (stamp c) = true := by
  simp [stamped, stamp, Ctx.tag]

@[simp] theorem stamp_isNil (c : Ctx) : (stamp c).isNil = c.isNil := rfl

theorem stamped_tag (c : Ctx) (m : Nat) (h : stamped c = true) : stamped (c.tag m) = true := by
  simp only [stamped, Ctx.tag, List.contains_eq_mem, List.mem_append, decide_eq_true_eq] at h ⊢
  exact Or.inl h

theorem count_of_goodL (l : List (Notif α)) (h : GoodL l) : countStampedNext l = countNext l := by
  induction l with
  | nil => rfl
  | cons x xs ih =>
    rw [goodL_cons] at h
    cases x with
    | next c v =>
      have := h.1
      simp only [goodN_next] at this
      simp [countStampedNext, countNext, ih h.2, this.1, this.2]
    | error c e => simp [countStampedNext, countNext, ih h.2]
    | complete c => simp [countStampedNext, countNext, ih h.2]

/-- an operator that keeps the checkpoint: from values that carry it, only values that carry it -/
structure Keeps (α : Type) : Type 1 where
  a : AnyM α
  Inv : a.σ → Prop
  init : Inv a.m.init
  sub : ∀ s c, Inv s → Inv (a.m.onSubscribe s c).1 ∧ GoodL (a.m.onSubscribe s c).2
  step : ∀ s n, Inv s → GoodN n → Inv (a.m.step s n).1 ∧ GoodL (a.m.step s n).2

def chainK : List (Keeps α) → List (AnyM α)
  | [] => []
  | k :: ks => k.a :: chainK ks

/-- no invariant on the state needed -/
def Keeps.ofTrue (a : AnyM α) (hsub : ∀ s c, GoodL (a.m.onSubscribe s c).2)
    (hstep : ∀ s n, GoodN n → GoodL (a.m.step s n).2) : Keeps α where
  a := a
  Inv := fun _ => True
  init := trivial
  sub := fun s c _ => ⟨trivial, hsub s c⟩
  step := fun s n _ hn => ⟨trivial, hstep s n hn⟩

/-- the local invariant of a checkpoint-keeping stage: its gate has only let through values that
    carry the checkpoint, and its state satisfies the invariant that makes it keep the checkpoint -/
def KeepInv (a : AnyM α) (s : a.σ) (l : List (Notif α)) (_ : Nat) : Prop :=
  GoodL l ∧ ∃ k : Keeps α, ∃ h : a = k.a, k.Inv (h ▸ s)

theorem keepInv_local {a : AnyM α} (ha : ∃ k : Keeps α, a = k.a) : LocalInv GoodN KeepInv a where
  init := by obtain ⟨k, rfl⟩ := ha; exact ⟨goodL_nil.mpr trivial, k, rfl, k.init⟩
  sub := by
    rintro s l _ c ⟨hl, k, rfl, hk⟩
    exact ⟨⟨hl, k, rfl, (k.sub s c hk).1⟩, (k.sub s c hk).2⟩
  step := by
    rintro s l _ n hn ⟨hl, k, rfl, hk⟩
    exact ⟨⟨goodL_append.mpr ⟨hl, goodL_cons.mpr ⟨hn, goodL_nil.mpr trivial⟩⟩, k, rfl, (k.step s n hk hn).1⟩,
      (k.step s n hk hn).2⟩

theorem proc_step_good (s : (AnyM.proc (α := α)).σ) (n : Notif α) (hn : GoodN n) :
    GoodL ((AnyM.proc (α := α)).m.step s n).2 := by
  cases n with
  | next c v => simp [AnyM.proc, Machine.step, procM, hn.1, stamped_stamp]
  | error c e => simp [AnyM.proc, Machine.step, procM, fwdE]
  | complete c => simp [AnyM.proc, Machine.step, procM, fwdC]

theorem after_step_good (s : (AnyM.after (α := α)).σ) (n : Notif α) (hn : GoodN n) :
    GoodL ((AnyM.after (α := α)).m.step s n).2 := by
  rw [after_step]; exact goodL_cons.mpr ⟨hn, goodL_nil.mpr trivial⟩

/-- every stage behind `observeBeforePipe` keeps the checkpoint when the operators do -/
theorem keeps_tailI (ks : List (Keeps α)) : ∀ a ∈ tailI (chainK ks), ∃ k : Keeps α, a = k.a := by
  induction ks with
  | nil =>
    intro a ha
    exact ⟨Keeps.ofTrue AnyM.after (fun _ _ => goodL_nil.mpr trivial) after_step_good, List.mem_singleton.mp ha⟩
  | cons k ks ih =>
    intro a ha
    rcases List.mem_cons.mp ha with rfl | ha
    · exact ⟨k, rfl⟩
    rcases List.mem_cons.mp ha with rfl | ha
    · exact ⟨Keeps.ofTrue AnyM.proc (fun _ _ => goodL_nil.mpr trivial) proc_step_good, rfl⟩
    · exact ih a ha

theorem tailSeen_good (ms : List (AnyM α)) (c : Cfg (tailI ms)) (hc : AllInv KeepInv (tailI ms) c) :
    ∀ l ∈ tailSeen ms c, GoodL l := by
  induction ms with
  | nil => intro l hl; cases hl
  | cons a rest ih =>
    intro l hl
    rcases List.mem_cons.mp hl with rfl | hl
    · exact hc.2.1.1
    · exact ih c.2.2 hc.2.2 l hl

theorem before_step_good (s : (AnyM.before (α := α)).σ) (n : Notif α) (hn : n.ctx.isNil = false) :
    GoodL ((AnyM.before (α := α)).m.step s n).2 := by
  cases n with
  | next c v => have hc : c.isNil = false := hn; simp [AnyM.before, Machine.step, beforeM, hc, stamped_stamp]
  | error c e => simp [AnyM.before, Machine.step, beforeM, fwdE]
  | complete c => simp [AnyM.before, Machine.step, beforeM, fwdC]

/-- every run of the instrumented composition over checkpoint-keeping operators and a source
    that emits no nil context: every gate behind `observeBeforePipe` has only let through values
    that carry the checkpoint -/
theorem tinv_run (ks : List (Keeps α)) (hot : Bool) (sub : Ctx) (raw : List (Notif α)) (cut : Option Nat)
    (hn : NonNil raw) :
    AllInv KeepInv (tailI (chainK ks)) (run hot sub (instrument (chainK ks)) raw cut).cfg.2 := by
  have hl : ∀ a ∈ tailI (chainK ks), LocalInv GoodN KeepInv a := fun a ha => keepInv_local (keeps_tailI ks a ha)
  refine run_induction (ms := instrument (chainK ks)) (fun c _ => AllInv KeepInv (tailI (chainK ks)) c.2) sub raw
    ?_ ?_ (fun c _ => allInv_settle _ c.2) (fun c _ => allInv_closeAll _ c.2) hot cut
  · -- `observeBeforePipe`'s subscribe function emits nothing
    have : (subscribePhase sub (instrument (chainK ks)) (initCfg _)).cfg.2 =
        (subscribePhase sub (tailI (chainK ks)) (initCfg _)).cfg := by
      simp only [instrument, subscribePhase]; split <;> rfl
    rw [this]; exact allInv_subscribePhase hl sub _ (allInv_init hl)
  · intro hot c _ n hn' hc
    cases hg : c.1.gate
    · rw [push_closed hot _ c n hg]; exact hc
    · show AllInv KeepInv _ (push hot (AnyM.before :: tailI (chainK ks)) c n).1.2
      rw [push_cons_open hot _ _ c n hg]
      exact allInv_feedAll hl hot _ _ (before_step_good _ n (hn n hn')) hc

/-- a user callback that keeps the checkpoint: it derives its context from the one it is given -/
def KeepsStamp {β : Type} (f : Ctx → α → Nat → Ctx × β) : Prop :=
  ∀ c v i, c.isNil = false → stamped c = true → (f c v i).1.isNil = false ∧ stamped (f c v i).1 = true

/-- the driver's callbacks do -/
theorem keepsStamp_tagWith {β : Type} (g : α → Nat → β) (t : Option Nat) :
    KeepsStamp (fun c v i => (Ro.Driver.tagWith t c, g v i)) := by
  intro c v i hc hs
  cases t with
  | none => exact ⟨hc, hs⟩
  | some m => exact ⟨hc, stamped_tag c m hs⟩

macro "keeps_simple" m:ident : tactic => `(tactic| (
  intro s n hn
  cases n with
  | next c v =>
    simp only [goodN_next] at hn
    simp only [AnyM.of, Machine.step, $m:ident]
    repeat' split
    all_goals simp [hn.1, hn.2]
  | error c e => simp [AnyM.of, Machine.step, $m:ident, fwdE]
  | complete c => simp [AnyM.of, Machine.step, $m:ident, fwdC]))

def keepsId : Keeps α := Keeps.ofTrue (AnyM.of idM) (fun _ _ => by simp [AnyM.of, idM]) (by keeps_simple idM)
def keepsMapTo (b : α) : Keeps α :=
  Keeps.ofTrue (AnyM.of (mapToM (α := α) b)) (fun _ _ => by simp [AnyM.of, mapToM]) (by keeps_simple mapToM)
def keepsIgnoreElements : Keeps α :=
  Keeps.ofTrue (AnyM.of ignoreElementsM) (fun _ _ => by simp [AnyM.of, ignoreElementsM]) (by keeps_simple ignoreElementsM)
def keepsTake (count : Nat) : Keeps α :=
  Keeps.ofTrue (AnyM.of (takeM count)) (fun _ _ => by simp [AnyM.of, takeM]) (by keeps_simple takeM)
def keepsSkip (count : Nat) : Keeps α :=
  Keeps.ofTrue (AnyM.of (skipM count)) (fun _ _ => by simp [AnyM.of, skipM]) (by keeps_simple skipM)
def keepsHead : Keeps α :=
  Keeps.ofTrue (AnyM.of headM) (fun _ _ => by simp [AnyM.of, headM]) (by keeps_simple headM)
def keepsElementAt (nth : Nat) : Keeps α :=
  Keeps.ofTrue (AnyM.of (elementAtM nth)) (fun _ _ => by simp [AnyM.of, elementAtM]) (by keeps_simple elementAtM)
def keepsThrowIfEmpty (e : Err) : Keeps α :=
  Keeps.ofTrue (AnyM.of (throwIfEmptyM (α := α) e)) (fun _ _ => by simp [AnyM.of, throwIfEmptyM]) (by
    intro s n hn
    cases n with
    | next c v => simp only [goodN_next] at hn; simp [AnyM.of, Machine.step, throwIfEmptyM, hn.1, hn.2]
    | error c e => simp [AnyM.of, Machine.step, throwIfEmptyM, fwdE]
    | complete c => simp only [AnyM.of, Machine.step, throwIfEmptyM]; split <;> simp)
def keepsClamp (lo hi : Int) : Keeps Int :=
  Keeps.ofTrue (AnyM.of (clampM lo hi)) (fun _ _ => by simp [AnyM.of, clampM]) (by keeps_simple clampM)
def keepsFind (p : Ctx → α → Nat → Bool) : Keeps α :=
  Keeps.ofTrue (AnyM.of (findM p)) (fun _ _ => by simp [AnyM.of, findM]) (by keeps_simple findM)

def keepsMap (f : Ctx → α → Nat → Ctx × α) (hf : KeepsStamp f) : Keeps α :=
  Keeps.ofTrue (AnyM.of (mapM f)) (fun _ _ => by simp [AnyM.of, mapM]) (by
    intro s n hn
    cases n with
    | next c v =>
      simp only [goodN_next] at hn
      have := hf c v s hn.1 hn.2
      simp [AnyM.of, Machine.step, mapM, this.1, this.2]
    | error c e => simp [AnyM.of, Machine.step, mapM, fwdE]
    | complete c => simp [AnyM.of, Machine.step, mapM, fwdC])

def keepsFilter (p : Pred α) (hp : KeepsStamp p) : Keeps α :=
  Keeps.ofTrue (AnyM.of (filterM p)) (fun _ _ => by simp [AnyM.of, filterM]) (by
    intro s n hn
    cases n with
    | next c v =>
      simp only [goodN_next] at hn
      have := hp c v s hn.1 hn.2
      simp only [AnyM.of, Machine.step, filterM]
      split <;> simp [this.1, this.2]
    | error c e => simp [AnyM.of, Machine.step, filterM, fwdE]
    | complete c => simp [AnyM.of, Machine.step, filterM, fwdC])

def keepsSkipWhile (p : Pred α) (hp : KeepsStamp p) : Keeps α :=
  Keeps.ofTrue (AnyM.of (skipWhileM p)) (fun _ _ => by simp [AnyM.of, skipWhileM]) (by
    intro s n hn
    cases n with
    | next c v =>
      simp only [goodN_next] at hn
      have := hp c v s.2 hn.1 hn.2
      simp only [AnyM.of, Machine.step, skipWhileM]
      repeat' split
      all_goals simp [this.1, this.2, hn.1, hn.2]
    | error c e => simp [AnyM.of, Machine.step, skipWhileM, fwdE]
    | complete c => simp [AnyM.of, Machine.step, skipWhileM, fwdC])

def keepsTakeWhile (p : Pred α) (hp : KeepsStamp p) : Keeps α :=
  Keeps.ofTrue (AnyM.of (takeWhileM p)) (fun _ _ => by simp [AnyM.of, takeWhileM]) (by
    intro s n hn
    cases n with
    | next c v =>
      simp only [goodN_next] at hn
      have := hp c v s.2 hn.1 hn.2
      simp only [AnyM.of, Machine.step, takeWhileM]
      repeat' split
      all_goals simp [this.1, this.2]
    | error c e => simp only [AnyM.of, Machine.step, takeWhileM]; split <;> simp
    | complete c => simp only [AnyM.of, Machine.step, takeWhileM]; split <;> simp)

def keepsFirst (p : Pred α) (hp : KeepsStamp p) : Keeps α :=
  Keeps.ofTrue (AnyM.of (firstM p)) (fun _ _ => by simp [AnyM.of, firstM]) (by
    intro s n hn
    cases n with
    | next c v =>
      simp only [goodN_next] at hn
      have := hp c v s hn.1 hn.2
      simp only [AnyM.of, Machine.step, firstM]
      split <;> simp [this.1, this.2]
    | error c e => simp [AnyM.of, Machine.step, firstM, fwdE]
    | complete c => simp [AnyM.of, Machine.step, firstM])

/-- stored (context, value) pairs all carry the checkpoint -/
def GoodQ (q : List (Ctx × α)) : Prop := ∀ p ∈ q, p.1.isNil = false ∧ stamped p.1 = true

theorem goodL_of_goodQ (q : List (Ctx × α)) (h : GoodQ q) : GoodL (q.map (fun p => Notif.next p.1 p.2)) := by
  intro x hx
  simp only [List.mem_map] at hx
  obtain ⟨p, hp, rfl⟩ := hx
  exact h p hp

def keepsTakeLast (count : Nat) : Keeps α where
  a := AnyM.of (takeLastM count)
  Inv := fun (q : List (Ctx × α)) => GoodQ q
  init := fun _ h => absurd h List.not_mem_nil
  sub := fun _ _ h => ⟨h, by simp [AnyM.of, takeLastM]⟩
  step := by
    intro (q : List (Ctx × α)) n hq hn
    cases n with
    | next c v =>
      simp only [goodN_next] at hn
      refine ⟨?_, by simp [AnyM.of, Machine.step, takeLastM]⟩
      intro p hp
      simp only [AnyM.of, Machine.step, takeLastM] at hp
      rcases List.mem_append.mp hp with h | h
      · split at h
        · exact hq p (List.mem_of_mem_drop h)
        · exact hq p h
      · simp only [List.mem_singleton] at h; rw [h]; exact hn
    | error c e => exact ⟨hq, by simp [AnyM.of, Machine.step, takeLastM, fwdE]⟩
    | complete c =>
      refine ⟨hq, ?_⟩
      simp only [AnyM.of, Machine.step, takeLastM, goodL_append]
      exact ⟨goodL_of_goodQ q hq, by simp⟩

def keepsSkipLast (count : Nat) : Keeps α where
  a := AnyM.of (skipLastM count)
  Inv := fun (q : List (Ctx × α)) => GoodQ q
  init := fun _ h => absurd h List.not_mem_nil
  sub := fun _ _ h => ⟨h, by simp [AnyM.of, skipLastM]⟩
  step := by
    intro (q : List (Ctx × α)) n hq hn
    cases n with
    | next c v =>
      simp only [goodN_next] at hn
      simp only [AnyM.of, Machine.step, skipLastM]
      split
      · refine ⟨?_, by simp⟩
        intro p hp
        rcases List.mem_append.mp hp with h | h
        · exact hq p h
        · simp only [List.mem_singleton] at h; rw [h]; exact hn
      · cases q with
        | nil => exact ⟨fun p hp => by simp only [List.mem_singleton] at hp; rw [hp]; exact hn, by simp⟩
        | cons x xs =>
          refine ⟨?_, by simpa using hq x (List.mem_cons_self ..)⟩
          intro p hp
          rcases List.mem_append.mp hp with h | h
          · exact hq p (List.mem_cons_of_mem _ h)
          · simp only [List.mem_singleton] at h; rw [h]; exact hn
    | error c e => exact ⟨hq, by simp [AnyM.of, Machine.step, skipLastM, fwdE]⟩
    | complete c => exact ⟨hq, by simp [AnyM.of, Machine.step, skipLastM, fwdC]⟩

/-- a stored optional pair carries the checkpoint -/
def GoodO (o : Option (Ctx × α)) : Prop := ∀ p, o = some p → p.1.isNil = false ∧ stamped p.1 = true

def keepsTail : Keeps α where
  a := AnyM.of tailM
  Inv := fun (o : Option (Ctx × α)) => GoodO o
  init := fun _ h => by cases h
  sub := fun _ _ h => ⟨h, by simp [AnyM.of, tailM]⟩
  step := by
    intro (o : Option (Ctx × α)) n ho hn
    cases n with
    | next c v =>
      simp only [goodN_next] at hn
      exact ⟨fun p hp => by cases hp; exact hn, by simp [AnyM.of, Machine.step, tailM]⟩
    | error c e => exact ⟨ho, by simp [AnyM.of, Machine.step, tailM, fwdE]⟩
    | complete c =>
      refine ⟨ho, ?_⟩
      cases o with
      | none => simp [AnyM.of, Machine.step, tailM]
      | some p => simpa [AnyM.of, Machine.step, tailM] using ho p rfl

def keepsMin : Keeps Int where
  a := AnyM.of minM
  Inv := fun (o : Option (Ctx × Int)) => GoodO o
  init := fun _ h => by cases h
  sub := fun _ _ h => ⟨h, by simp [AnyM.of, minM]⟩
  step := by
    intro (o : Option (Ctx × Int)) n ho hn
    cases n with
    | next c v =>
      simp only [goodN_next] at hn
      refine ⟨?_, by simp [AnyM.of, Machine.step, minM]⟩
      cases o with
      | none => exact fun p hp => by cases hp; exact hn
      | some q =>
        simp only [AnyM.of, Machine.step, minM]
        split
        · exact fun p hp => by cases hp; exact hn
        · exact fun p hp => by cases hp; exact ho q rfl
    | error c e => exact ⟨ho, by simp [AnyM.of, Machine.step, minM, fwdE]⟩
    | complete c =>
      refine ⟨ho, ?_⟩
      cases o with
      | none => simp [AnyM.of, Machine.step, minM]
      | some p => simpa [AnyM.of, Machine.step, minM] using ho p rfl

def keepsLast (p : Pred α) (hp : KeepsStamp p) : Keeps α where
  a := AnyM.of (lastM p)
  Inv := fun (s : Option (Ctx × α) × Nat) => GoodO s.1
  init := fun _ h => by cases h
  sub := fun _ _ h => ⟨h, by simp [AnyM.of, lastM]⟩
  step := by
    intro (s : Option (Ctx × α) × Nat) n ho hn
    cases n with
    | next c v =>
      simp only [goodN_next] at hn
      have := hp c v s.2 hn.1 hn.2
      refine ⟨?_, by simp [AnyM.of, Machine.step, lastM]⟩
      simp only [AnyM.of, Machine.step, lastM]
      split
      · exact fun q hq => by cases hq; exact this
      · exact ho
    | error c e => exact ⟨ho, by simp [AnyM.of, Machine.step, lastM, fwdE]⟩
    | complete c =>
      refine ⟨ho, ?_⟩
      obtain ⟨o, i⟩ := s
      cases o with
      | none => simp [AnyM.of, Machine.step, lastM]
      | some q => simpa [AnyM.of, Machine.step, lastM] using ho q rfl

def keepsMapErr (f : Ctx → α → Nat → α × Ctx × Option Err)
    (hf : ∀ c v i, c.isNil = false → stamped c = true → (f c v i).2.1.isNil = false ∧ stamped (f c v i).2.1 = true) :
    Keeps α :=
  Keeps.ofTrue (AnyM.of (mapErrM f)) (fun _ _ => by simp [AnyM.of, mapErrM]) (by
    intro s n hn
    cases n with
    | next c v =>
      simp only [goodN_next] at hn
      have := hf c v s hn.1 hn.2
      simp only [AnyM.of, Machine.step, mapErrM]
      split <;> simp [this.1, this.2]
    | error c e => simp [AnyM.of, Machine.step, mapErrM, fwdE]
    | complete c => simp [AnyM.of, Machine.step, mapErrM, fwdC])

def keepsScan (f : Ctx → α → α → Nat → Ctx × α) (seed : α)
    (hf : ∀ c a v i, c.isNil = false → stamped c = true → (f c a v i).1.isNil = false ∧ stamped (f c a v i).1 = true) :
    Keeps α :=
  Keeps.ofTrue (AnyM.of (scanM f seed)) (fun _ _ => by simp [AnyM.of, scanM]) (by
    intro s n hn
    cases n with
    | next c v =>
      simp only [goodN_next] at hn
      have := hf c s.1 v s.2 hn.1 hn.2
      simp [AnyM.of, Machine.step, scanM, this.1, this.2]
    | error c e => simp [AnyM.of, Machine.step, scanM, fwdE]
    | complete c => simp [AnyM.of, Machine.step, scanM, fwdC])

def keepsDistinctBy [DecidableEq κ] (key : Ctx → α → Ctx × κ)
    (hk : ∀ c v, c.isNil = false → stamped c = true → (key c v).1.isNil = false ∧ stamped (key c v).1 = true) :
    Keeps α :=
  Keeps.ofTrue (AnyM.of (distinctByM key)) (fun _ _ => by simp [AnyM.of, distinctByM]) (by
    intro s n hn
    cases n with
    | next c v =>
      simp only [goodN_next] at hn
      have := hk c v hn.1 hn.2
      simp only [AnyM.of, Machine.step, distinctByM]
      split <;> simp [this.1, this.2]
    | error c e => simp [AnyM.of, Machine.step, distinctByM, fwdE]
    | complete c => simp [AnyM.of, Machine.step, distinctByM, fwdC])

end Ro.Prom
