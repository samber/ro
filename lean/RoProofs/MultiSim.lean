/-
  RoProofs.MultiSim — refinement between two multi-source machines with different encodings of the operator's
  locals (`MMachine.Sim`), and the transfer theorem: related machines have indistinguishable runs
  (`MMachine.Sim.run`, `.runCut`: same delivered trace, refused notifications, per-source subscription counts,
  gates and subscription contexts, for every source configuration, subscription context, interleaving and cut).
  Used by RoProps/C05gen.lean to carry the C05 theorems from the hand-written machines of RoModel/Multi/OpsA.lean
  to the machines regenerated from the Go source (RoGen/MultiGen.lean).
-/
import RoModel.Multi.Core
namespace Ro.Multi
open Ro

variable {σ₁ σ₂ α β : Type}

/-- from related locals, two phases leave related locals and make the same calls -/
def PhaseRel (R : σ₁ → σ₂ → Prop) (p1 : Phase σ₁ β) (p2 : Phase σ₂ β) : Prop :=
  ∀ s1 s2, R s1 s2 → R (p1 s1).1 (p2 s2).1 ∧ (p1 s1).2 = (p2 s2).2

/-- for the relation "`g` encodes `s`": the two phases commute with the encoding -/
theorem PhaseRel.of_enc (enc : σ₂ → σ₁) {p1 : Phase σ₁ β} {p2 : Phase σ₂ β}
    (h : ∀ s, p1 (enc s) = (enc (p2 s).1, (p2 s).2)) : PhaseRel (fun g s => g = enc s) p1 p2 := by
  intro s1 s2 hs
  rw [hs, h]
  exact ⟨rfl, rfl⟩

inductive PhasesRel (R : σ₁ → σ₂ → Prop) : List (Phase σ₁ β) → List (Phase σ₂ β) → Prop
  | nil : PhasesRel R [] []
  | cons {p1 p2 ps1 ps2} : PhaseRel R p1 p2 → PhasesRel R ps1 ps2 → PhasesRel R (p1 :: ps1) (p2 :: ps2)

structure MMachine.Sim (R : σ₁ → σ₂ → Prop) (m1 : MMachine σ₁ α β) (m2 : MMachine σ₂ α β) : Prop where
  init : R m1.init m2.init
  boot : ∀ c, PhasesRel R (m1.boot c) (m2.boot c)
  react : ∀ k n, PhasesRel R (m1.react k n) (m2.react k n)
  teardown : ∀ s1 s2, R s1 s2 → R (m1.teardown s1).1 (m2.teardown s2).1 ∧ (m1.teardown s1).2 = (m2.teardown s2).2

/-- two run states that differ only in the (related) locals -/
structure MSt.Rel (R : σ₁ → σ₂ → Prop) (r1 : MSt σ₁ α β) (r2 : MSt σ₂ α β) : Prop where
  st : R r1.st r2.st
  subs : r1.subs = r2.subs
  sopen : r1.sopen = r2.sopen
  sctx : r1.sctx = r2.sctx
  downOpen : r1.downOpen = r2.downOpen
  booted : r1.booted = r2.booted
  out : r1.out = r2.out
  drops : r1.drops = r2.drops
  overflow : r1.overflow = r2.overflow

/-- the same run state over other locals -/
def MSt.withSt (r : MSt σ₁ α β) (s : σ₂) : MSt σ₂ α β :=
  { st := s, subs := r.subs, sopen := r.sopen, sctx := r.sctx, downOpen := r.downOpen, booted := r.booted, out := r.out,
    drops := r.drops, overflow := r.overflow }

section
variable {R : σ₁ → σ₂ → Prop} {m1 : MMachine σ₁ α β} {m2 : MMachine σ₂ α β}

theorem MSt.Rel.intro {r : MSt σ₁ α β} {s : σ₂} (h : R r.st s) : MSt.Rel R r (r.withSt s) :=
  ⟨h, rfl, rfl, rfl, rfl, rfl, rfl, rfl, rfl⟩

/-- related run states are the same state over related locals: after `rw [h.elim]` the two interpreters
    test the same conditions and make the same changes, and `.intro` closes each branch -/
theorem MSt.Rel.elim {r1 : MSt σ₁ α β} {r2 : MSt σ₂ α β} (h : MSt.Rel R r1 r2) : r2 = r1.withSt r2.st := by
  obtain ⟨_, h1, h2, h3, h4, h5, h6, h7, h8⟩ := h
  cases r2; simp only [MSt.withSt, h1, h2, h3, h4, h5, h6, h7, h8]

/-- both interpreters branch on the same test -/
theorem MSt.Rel.ite {c : Prop} [Decidable c] {a a' : MSt σ₁ α β} {b b' : MSt σ₂ α β}
    (ht : c → MSt.Rel R a b) (hf : ¬c → MSt.Rel R a' b') : MSt.Rel R (if c then a else a') (if c then b else b') := by
  by_cases hc : c
  · rw [if_pos hc, if_pos hc]; exact ht hc
  · rw [if_neg hc, if_neg hc]; exact hf hc

theorem MSt.Rel.closeSrc {r1 : MSt σ₁ α β} {r2 : MSt σ₂ α β} (h : MSt.Rel R r1 r2) (k : Nat) :
    MSt.Rel R (r1.closeSrc k) (r2.closeSrc k) := by
  rw [h.elim]; exact .intro (r := r1.closeSrc k) h.st

theorem MSt.Rel.closeAll (ks : List Nat) {r1 : MSt σ₁ α β} {r2 : MSt σ₂ α β} (h : MSt.Rel R r1 r2) :
    MSt.Rel R (ks.foldl MSt.closeSrc r1) (ks.foldl MSt.closeSrc r2) := by
  induction ks generalizing r1 r2 with
  | nil => exact h
  | cons k ks ih => exact ih (h.closeSrc k)

theorem MSt.Rel.runTeardown (hs : m1.Sim R m2) {r1 : MSt σ₁ α β} {r2 : MSt σ₂ α β} (h : MSt.Rel R r1 r2) :
    MSt.Rel R (MSt.runTeardown m1 r1) (MSt.runTeardown m2 r2) := by
  have ht := hs.teardown r1.st r2.st h.st
  unfold MSt.runTeardown
  rw [ht.2, h.elim]
  exact MSt.Rel.closeAll _ (.intro (r := { r1 with st := _ }) ht.1)

theorem MSt.Rel.emit (hs : m1.Sim R m2) {r1 : MSt σ₁ α β} {r2 : MSt σ₂ α β} (h : MSt.Rel R r1 r2) (n : Notif β) :
    MSt.Rel R (r1.emit m1 n) (r2.emit m2 n) := by
  rw [h.elim]
  refine .ite (fun _ => .ite (fun _ => .ite (fun _ => ?_) fun _ => ?_) fun _ => ?_) fun _ => ?_
  · exact MSt.Rel.runTeardown hs (.intro (r := { r1 with out := _, downOpen := _ }) h.st)
  · exact .intro (r := { r1 with out := _, downOpen := _ }) h.st
  · exact .intro (r := { r1 with out := _ }) h.st
  · exact .intro (r := { r1 with drops := _ }) h.st

theorem MSt.Rel.cut (hs : m1.Sim R m2) {r1 : MSt σ₁ α β} {r2 : MSt σ₂ α β} (h : MSt.Rel R r1 r2) :
    MSt.Rel R (r1.cut m1) (r2.cut m2) := by
  rw [h.elim]
  exact .ite (fun _ => MSt.Rel.runTeardown hs (.intro (r := { r1 with downOpen := _ }) h.st)) fun _ => .intro h.st

/-- the two interpreters passed down for nested (synchronous) subscriptions agree on related inputs -/
def RecRel (R : σ₁ → σ₂ → Prop) (rec1 : List (Phase σ₁ β) → MSt σ₁ α β → MSt σ₁ α β)
    (rec2 : List (Phase σ₂ β) → MSt σ₂ α β → MSt σ₂ α β) : Prop :=
  ∀ ps1 ps2 r1 r2, PhasesRel R ps1 ps2 → MSt.Rel R r1 r2 → MSt.Rel R (rec1 ps1 r1) (rec2 ps2 r2)

variable {rec1 : List (Phase σ₁ β) → MSt σ₁ α β → MSt σ₁ α β} {rec2 : List (Phase σ₂ β) → MSt σ₂ α β → MSt σ₂ α β}

theorem MSt.Rel.deliver (hs : m1.Sim R m2) (hrec : RecRel R rec1 rec2) (k : Nat) {r1 : MSt σ₁ α β} {r2 : MSt σ₂ α β}
    (h : MSt.Rel R r1 r2) (n : Notif α) : MSt.Rel R (deliver m1 rec1 k r1 n) (deliver m2 rec2 k r2 n) := by
  rw [h.elim]
  exact .ite (fun _ => hrec _ _ _ _ (hs.react k n) (.ite (fun _ => .intro (r := r1.closeSrc k) h.st) fun _ => .intro h.st))
    fun _ => .intro (r := { r1 with drops := _ }) h.st

theorem MSt.Rel.deliverAll (hs : m1.Sim R m2) (hrec : RecRel R rec1 rec2) (k : Nat) (l : List (Notif α))
    {r1 : MSt σ₁ α β} {r2 : MSt σ₂ α β} (h : MSt.Rel R r1 r2) :
    MSt.Rel R (l.foldl (Multi.deliver m1 rec1 k) r1) (l.foldl (Multi.deliver m2 rec2 k) r2) := by
  induction l generalizing r1 r2 with
  | nil => exact h
  | cons n l ih => exact ih (h.deliver hs hrec k n)

theorem MSt.Rel.act (hs : m1.Sim R m2) (cfg : Sources α) (hrec : RecRel R rec1 rec2) {r1 : MSt σ₁ α β} {r2 : MSt σ₂ α β}
    (h : MSt.Rel R r1 r2) (a : Act β) : MSt.Rel R (act m1 cfg rec1 r1 a) (act m2 cfg rec2 r2 a) := by
  cases a with
  | emit n => exact h.emit hs n
  | unsub k => exact h.closeSrc k
  | sub k c =>
    rw [h.elim]
    exact .ite (fun _ => MSt.Rel.deliverAll hs hrec k _ (.intro (r := { r1 with subs := _, sopen := _, sctx := _ }) h.st))
      fun _ => .intro (r := { r1 with subs := _, sopen := _, sctx := _ }) h.st

theorem MSt.Rel.acts (hs : m1.Sim R m2) (cfg : Sources α) (hrec : RecRel R rec1 rec2) (l : List (Act β))
    {r1 : MSt σ₁ α β} {r2 : MSt σ₂ α β} (h : MSt.Rel R r1 r2) :
    MSt.Rel R (l.foldl (Multi.act m1 cfg rec1) r1) (l.foldl (Multi.act m2 cfg rec2) r2) := by
  induction l generalizing r1 r2 with
  | nil => exact h
  | cons a l ih => exact ih (h.act hs cfg hrec a)

theorem MSt.Rel.phase (hs : m1.Sim R m2) (cfg : Sources α) (hrec : RecRel R rec1 rec2) {p1 : Phase σ₁ β} {p2 : Phase σ₂ β}
    (hp : PhaseRel R p1 p2) {r1 : MSt σ₁ α β} {r2 : MSt σ₂ α β} (h : MSt.Rel R r1 r2) :
    MSt.Rel R (phase m1 cfg rec1 r1 p1) (phase m2 cfg rec2 r2 p2) := by
  have hp' := hp r1.st r2.st h.st
  unfold Multi.phase
  rw [hp'.2, h.elim]
  exact MSt.Rel.acts hs cfg hrec _ (.intro (r := { r1 with st := _ }) hp'.1)

theorem MSt.Rel.phases (hs : m1.Sim R m2) (cfg : Sources α) (hrec : RecRel R rec1 rec2) :
    RecRel R (Multi.phases m1 cfg rec1) (Multi.phases m2 cfg rec2) := by
  intro ps1 ps2 r1 r2 hps
  induction hps generalizing r1 r2 with
  | nil => intro h; exact h
  | cons hp _ ih => intro h; exact ih _ _ (h.phase hs cfg hrec hp)

theorem MSt.Rel.phasesAt (hs : m1.Sim R m2) (cfg : Sources α) (d : Nat) :
    RecRel R (Multi.phasesAt m1 cfg d) (Multi.phasesAt m2 cfg d) := by
  induction d with
  | zero =>
    exact MSt.Rel.phases hs cfg fun _ _ r1 _ _ h => by
      rw [h.elim]; exact .intro (r := { r1 with overflow := _ }) h.st
  | succ d ih => exact MSt.Rel.phases hs cfg ih

theorem MMachine.Sim.bootSt (hs : m1.Sim R m2) (cfg : Sources α) (sub : Ctx) :
    MSt.Rel R (Multi.bootSt m1 cfg sub) (Multi.bootSt m2 cfg sub) := by
  have h1 := MSt.Rel.phasesAt hs cfg (depth cfg) _ _ _ _ (hs.boot sub) (.intro (r := { st := m1.init }) hs.init)
  unfold Multi.bootSt
  generalize Multi.phasesAt m1 cfg _ _ _ = r1 at h1
  rw [show MSt.withSt { st := m1.init } m2.init = { st := m2.init } from rfl] at h1
  generalize Multi.phasesAt m2 cfg _ _ _ = r2 at h1
  rw [h1.elim]
  exact .ite (fun _ => .intro (r := { r1 with booted := _ }) h1.st)
    fun _ => MSt.Rel.runTeardown hs (.intro (r := { r1 with booted := _ }) h1.st)

theorem MSt.Rel.feed (hs : m1.Sim R m2) (cfg : Sources α) {r1 : MSt σ₁ α β} {r2 : MSt σ₂ α β} (h : MSt.Rel R r1 r2)
    (e : MEvent α) : MSt.Rel R (Multi.feed m1 cfg r1 e) (Multi.feed m2 cfg r2 e) := by
  unfold Multi.feed
  rw [← h.subs]
  split
  · exact h
  · exact h.deliver hs (MSt.Rel.phasesAt hs cfg _) _ _

theorem MSt.Rel.feedAll (hs : m1.Sim R m2) (cfg : Sources α) (evs : List (MEvent α)) {r1 : MSt σ₁ α β} {r2 : MSt σ₂ α β}
    (h : MSt.Rel R r1 r2) : MSt.Rel R (Multi.feedAll m1 cfg r1 evs) (Multi.feedAll m2 cfg r2 evs) := by
  unfold Multi.feedAll
  induction evs generalizing r1 r2 with
  | nil => exact h
  | cons e evs ih => exact ih (h.feed hs cfg e)

/-- a refinement makes the two runs indistinguishable, for every configuration of sources (hot or
    synchronous), subscription context and interleaving -/
theorem MMachine.Sim.run (hs : m1.Sim R m2) (cfg : Sources α) (sub : Ctx) (order : List Nat) :
    MSt.Rel R (runMulti m1 cfg sub order) (runMulti m2 cfg sub order) :=
  MSt.Rel.feedAll hs cfg _ (hs.bootSt cfg sub)

/-- … and under an external `Unsubscribe` after any number of steps -/
theorem MMachine.Sim.runCut (hs : m1.Sim R m2) (cfg : Sources α) (sub : Ctx) (order : List Nat) (c : Nat) :
    MSt.Rel R (runMultiCut m1 cfg sub order c) (runMultiCut m2 cfg sub order c) :=
  MSt.Rel.feedAll hs cfg _ ((hs.run cfg sub (order.take c)).cut hs)

theorem MMachine.Sim.out (hs : m1.Sim R m2) (cfg : Sources α) (sub : Ctx) (order : List Nat) :
    (runMulti m1 cfg sub order).out = (runMulti m2 cfg sub order).out := (hs.run cfg sub order).out

end
end Ro.Multi
