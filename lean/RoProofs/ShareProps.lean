/-
  RoProofs.ShareProps — what the invariant of RoModel.Share gives: the upstream counters, the
  reference count, when the source is subscribed and released, what a source terminal leaves behind,
  who receives what.
-/
import RoProofs.ShareFrames
namespace Ro.Share
attribute [local simp] St.modGen_eq St.modSub_eq St.drop ite_else_same

/-! ### the probe's counters -/

theorem live_le_one_of_inv {s : St} (hi : Inv Pend.idle s) : s.live ≤ 1 := by
  unfold St.live
  apply filter_range_le_one s.upLive (s.subject.getD 0)
  intro k hk hl
  have := ((upLive_iff hi k hk).mp hl).1
  rw [this]; rfl

theorem total_eq_ngens {s : St} (hi : Inv Pend.idle s) : s.total = s.ngens := by
  unfold St.total
  apply filter_range_all
  intro k hk
  by_cases hsub : s.subject = some k
  · rcases (hi.cur k hsub).2 with ha | hl
    · simp [ha.upSub]
    · simp [hl.upSub]
  · simp [(hi.stale k hk hsub (by simp)).upSub]

theorem live_of_active {s : St} {g : Nat} (hi : Inv Pend.idle s) (hsub : s.subject = some g) (ha : GenActive Pend.idle s g) : s.live = 1 := by
  unfold St.live
  apply filter_range_single s.upLive g s.ngens (hi.cur g hsub).1 ((upLive_iff hi g (hi.cur g hsub).1).mpr ⟨hsub, ha⟩)
  intro k hk hl
  have := ((upLive_iff hi k hk).mp hl).1
  rw [hsub] at this
  exact (Option.some.inj this).symm

theorem live_of_not_active {s : St} (hi : Inv Pend.idle s) (h : ¬ ∃ g, s.subject = some g ∧ GenActive Pend.idle s g) : s.live = 0 := by
  unfold St.live
  rw [filter_range_eq_nil]
  · rfl
  · intro k hk
    cases hl : s.upLive k with
    | false => rfl
    | true => exact absurd ⟨k, (upLive_iff hi k hk).mp hl⟩ h

/-- no upstream subscription is live once the teardown of the shared generation, if any, has run -/
theorem live_zero_of_torn {s : St} (hi : Inv Pend.idle s) (h : ∀ g, s.subject = some g → (s.gens g).upTorn = true) : s.live = 0 :=
  live_of_not_active hi fun ⟨g, hg, ha⟩ => by
    have := ha.upTorn
    rw [h g hg] at this
    cases this

/-- as long as one subscriber listens, the source is subscribed — exactly once -/
theorem open_imp_live {s : St} (hi : Inv Pend.idle s) (ho : openSubs s ≠ []) : s.live = 1 := by
  cases hsub : s.subject with
  | none => exact absurd (hi.idle hsub).2.2 ho
  | some g =>
    rcases (hi.cur g hsub).2 with ha | hl
    · exact live_of_active hi hsub ha
    · exact absurd hl.noOpen ho

/-! ### counters that no notification touches -/

structure Cnt (s s' : St) : Prop where
  nsubs : s'.nsubs = s.nsubs
  ngens : s'.ngens = s.ngens

theorem Quiet.cnt {s s' : St} (h : Quiet s s') : Cnt s s' := ⟨h.nsubs, h.ngens⟩

theorem subjNext_cnt (conn : Conn) (g : Nat) (v : Int) (s : St) : Cnt s (subjNext conn g v s) :=
  (subjNext_sim conn g v s).quiet.cnt

theorem playPre_cnt (cfg : Cfg) (g : Nat) (pre : List Ev) (s : St) : Cnt s (playPre cfg g pre s) :=
  (playPre_quiet cfg g pre s).cnt

theorem push_cnt (cfg : Cfg) (x : Ev) (s : St) : Cnt s (push cfg x s) :=
  (push_quiet cfg x s).cnt

/-! ### how a `sub` event ends -/

/-- the creator of a new generation: after the synchronous prefix `cfg.pre k` the generation is
    live, or already reset (the reference is given back at once), or latched -/
theorem subscribe_fresh_outcome (cfg : Cfg) {s : St} (hi : Inv Pend.idle s) (hsub : s.subject = none) :
    ∃ u,
      ((FLive Pend.idle s.ngens s.nsubs u ∧ subscribe cfg s = liveDone s.nsubs s.ngens u) ∨
       (FReset Pend.idle s.ngens s.nsubs u ∧ subscribe cfg s = resetDone s.ngens u) ∨
       (FLatch Pend.idle s.ngens s.nsubs u ∧ subscribe cfg s = latchDone s.ngens u)) := by
  obtain ⟨n, he⟩ := subscribeK_fresh cfg id ((needsNew_iff hi).mpr hsub)
  refine ⟨playPre cfg s.ngens (cfg.pre n) (freshState cfg.conn s), ?_⟩
  rw [← subscribeK_id, he]
  rcases playPre_live cfg (cfg.pre n) (flive_freshState cfg.conn hi hsub) with h | h | h
  · exact Or.inl ⟨h, (finish_live cfg.flags h).1⟩
  · exact Or.inr (Or.inl ⟨h, (finish_reset cfg.flags h).1⟩)
  · exact Or.inr (Or.inr ⟨h, (finish_latch cfg.flags h).1⟩)

theorem subscribe_ngens (cfg : Cfg) {s : St} (hi : Inv Pend.idle s) :
    (subscribe cfg s).ngens = if s.subject = none then s.ngens + 1 else s.ngens := by
  cases hsub : s.subject with
  | none =>
    obtain ⟨u, h | h | h⟩ := subscribe_fresh_outcome cfg hi hsub
    · rw [h.2]; simp [liveDone, h.1.ngens]
    · rw [h.2]; simp [resetDone, h.1.ngens]
    · rw [h.2]; simp [latchDone, h.1.ngens]
  | some g =>
    have hss : s.sourceSubscription = some g := by rw [hi.shared]; exact hsub
    rcases (hi.cur g hsub).2 with ha | hl
    · rw [subscribe_join_active cfg hsub hss ha.isOpen]; rfl
    · obtain ⟨t, _, he⟩ := subscribe_join_latched cfg hsub hss hl.flag hl.closed
      rw [he]; rfl

/-- **upstream subscribed at 0→1, joined otherwise**: a `sub` event subscribes the source exactly
    when there is no current generation, and then exactly once -/
theorem sub_total (cfg : Cfg) {s : St} (hi : Inv Pend.idle s) :
    (step cfg s .sub).total = if s.subject = none then s.total + 1 else s.total := by
  show (subscribe cfg s).total = _
  rw [total_eq_ngens (subscribe_cases cfg hi), total_eq_ngens hi, subscribe_ngens cfg hi]

/-- later subscribers join the running execution: the live upstream subscription is kept -/
theorem sub_join_live (cfg : Cfg) {s : St} {g : Nat} (hi : Inv Pend.idle s) (hsub : s.subject = some g) :
    (step cfg s .sub).live = s.live ∧ (step cfg s .sub).subject = some g := by
  show (subscribe cfg s).live = _ ∧ (subscribe cfg s).subject = _
  have hss : s.sourceSubscription = some g := by rw [hi.shared]; exact hsub
  rcases (hi.cur g hsub).2 with ha | hl
  · rw [subscribe_join_active cfg hsub hss ha.isOpen]
    exact ⟨St.live_congr rfl fun k => by simp [St.upLive, joinState]; split <;> simp_all, hsub⟩
  · obtain ⟨t, _, he⟩ := subscribe_join_latched cfg hsub hss hl.flag hl.closed
    rw [he]
    exact ⟨rfl, hsub⟩

/-! ### an `unsub` event -/

theorem closeState_counters (c : Nat) (tr : List Ev) (i g : Nat) (s : St) :
    (closeState c tr i g s).live = s.live ∧ (closeState c tr i g s).total = s.total ∧
      (closeState c tr i g s).subject = s.subject := by
  exact ⟨St.live_congr rfl fun k => by simp [St.upLive, closeState]; split <;> simp_all,
    St.total_congr rfl fun k => by simp [closeState]; split <;> simp_all, rfl⟩

/-- **released at 1→0 when `ResetOnRefCountZero`**: the last open subscriber leaves, no terminal
    is latched (an open subscriber exists, so the generation is live): the upstream subscription is
    released and the shared pair cleared -/
theorem unsub_last_releases (cfg : Cfg) {s : St} {i : Nat} (hi : Inv Pend.idle s) (hz : cfg.flags.onZero = true)
    (ho : openSubs s = [i]) :
    (step cfg s (.unsub i)).live = 0 ∧ (step cfg s (.unsub i)).subject = none := by
  have hmem : i ∈ openSubs s := by rw [ho]; simp
  obtain ⟨hlt, hs⟩ := mem_openSubs.mp hmem
  have hinv := inv_dUnsubscribe cfg.flags hi i hlt (by simp)
  have hstep : step cfg s (.unsub i) = dUnsubscribe cfg.flags i s := by simp [step, hlt]
  rw [hstep] at *
  have hrc : s.refCount = 1 := by rw [hi.count, ho]; rfl
  obtain ⟨g, _, _, _, ⟨_, h | h⟩ | ⟨e, _⟩⟩ := dUnsubscribe_cases cfg.flags hi hlt hs (by simp)
  · rw [hz] at h; cases h
  · rw [hrc] at h; exact absurd rfl h
  · have hsn : (dUnsubscribe cfg.flags i s).subject = none := by rw [e]; rfl
    refine ⟨live_of_not_active hinv ?_, hsn⟩
    intro ⟨g', hg', _⟩
    rw [hsn] at hg'; cases hg'

/-- **…and kept otherwise**: without `ResetOnRefCountZero`, or while another subscriber stays, an
    `unsub` event never touches the upstream subscription -/
theorem unsub_keeps (cfg : Cfg) {s : St} (i : Nat) (hi : Inv Pend.idle s)
    (h : cfg.flags.onZero = false ∨ 2 ≤ (openSubs s).length) :
    (step cfg s (.unsub i)).live = s.live ∧ (step cfg s (.unsub i)).total = s.total ∧
      (step cfg s (.unsub i)).subject = s.subject := by
  by_cases hlt : i < s.nsubs
  · have hstep : step cfg s (.unsub i) = dUnsubscribe cfg.flags i s := by simp [step, hlt]
    rw [hstep]
    by_cases hs : (s.subs i).status = 0
    · have hlen := length_erase_open hlt hs
      have hcount := hi.count
      obtain ⟨g, _, _, _, ⟨e, _⟩ | ⟨_, hz, hrc, _⟩⟩ := dUnsubscribe_cases cfg.flags hi hlt hs (by simp)
      · rw [e]; exact closeState_counters _ _ _ _ _
      · rcases h with h | h
        · rw [hz] at h; cases h
        · omega
    · simp [dUnsubscribe, hs]
  · simp [step, hlt]

/-! ### what the new subscriber receives at once, case by case -/

/-- **later subscribers join the running execution**: the new subscriber receives exactly what the
    connector hands out on subscription (nothing / the last value / the buffered values), is open,
    and nobody else's record is touched -/
theorem join_active_trace (cfg : Cfg) {s : St} {g : Nat} (hi : Inv Pend.idle s) (hsub : s.subject = some g) (ha : GenActive Pend.idle s g) :
    ((step cfg s .sub).subs s.nsubs).trace = Spec.joined cfg.conn (s.gens g).subj ∧
    ((step cfg s .sub).subs s.nsubs).status = 0 ∧
    (∀ k, k ≠ s.nsubs → (step cfg s .sub).subs k = s.subs k) ∧
    (∀ k, ((step cfg s .sub).gens k).subj.buf = (s.gens k).subj.buf ∧ ((step cfg s .sub).gens k).subj.last = (s.gens k).subj.last) := by
  show ((subscribe cfg s).subs s.nsubs).trace = _ ∧ ((subscribe cfg s).subs s.nsubs).status = 0 ∧
    (∀ k, k ≠ s.nsubs → (subscribe cfg s).subs k = s.subs k) ∧
    (∀ k, ((subscribe cfg s).gens k).subj.buf = (s.gens k).subj.buf ∧ ((subscribe cfg s).gens k).subj.last = (s.gens k).subj.last)
  rw [subscribe_join_active cfg hsub (by rw [hi.shared]; exact hsub) ha.isOpen]
  refine ⟨by simp [joinState], by simp [joinState], fun k hk => by simp [joinState, hk], fun k => ?_⟩
  simp [joinState]
  split <;> simp_all

/-- **after a source terminal the configuration does not reset on, the execution is replayed**:
    a subscriber arriving at the latched generation receives the connector's stored values (replay
    only) and the stored terminal, is closed at once, and nothing else changes — neither another
    subscriber's record nor any generation (so every later subscriber is served the same) -/
theorem latched_sub (cfg : Cfg) {s : St} {g : Nat} (hi : Inv Pend.idle s) (hsub : s.subject = some g) (hl : GenLatched Pend.idle s g) :
    ((step cfg s .sub).subs s.nsubs).trace = Spec.late cfg.conn (s.gens g).subj ∧
    ((step cfg s .sub).subs s.nsubs).status ≠ 0 ∧
    (∀ k, k ≠ s.nsubs → (step cfg s .sub).subs k = s.subs k) ∧
    (step cfg s .sub).gens = s.gens := by
  show ((subscribe cfg s).subs s.nsubs).trace = _ ∧ ((subscribe cfg s).subs s.nsubs).status ≠ 0 ∧
    (∀ k, k ≠ s.nsubs → (subscribe cfg s).subs k = s.subs k) ∧ (subscribe cfg s).gens = s.gens
  obtain ⟨t, _, he⟩ := subscribe_join_latched cfg hsub (by rw [hi.shared]; exact hsub) hl.flag hl.closed
  rw [he]
  exact ⟨by simp [lateState], by simp [lateState, t.code_ne_zero], fun k hk => by simp [lateState, hk], rfl⟩

/-- a latched generation stays latched, with the same stored values and terminal, whatever happens -/
theorem latched_forever (cfg : Cfg) {s : St} {g : Nat} (hi : Inv Pend.idle s) (hsub : s.subject = some g) (hl : GenLatched Pend.idle s g) (e : Event) :
    (step cfg s e).subject = some g ∧ GenLatched Pend.idle (step cfg s e) g ∧ (step cfg s e).gens = s.gens ∧
      (step cfg s e).live = 0 ∧ (step cfg s e).total = s.total := by
  have hinv := inv_step cfg hi e
  have hcase : (step cfg s e).subject = some g ∧ (step cfg s e).gens = s.gens ∧ (step cfg s e).ngens = s.ngens := by
    cases e with
    | sub =>
      refine ⟨(sub_join_live cfg hi hsub).2, (latched_sub cfg hi hsub hl).2.2.2, ?_⟩
      show (subscribe cfg s).ngens = _
      rw [subscribe_ngens cfg hi, hsub]; simp
    | unsub i =>
      have : step cfg s (.unsub i) = s := by
        simp only [step]
        split
        next hlt =>
          have := openSubs_eq_nil.mp hl.noOpen i hlt
          simp [dUnsubscribe, this]
        next => rfl
      rw [this]; exact ⟨hsub, rfl, rfl⟩
    | src x =>
      have : step cfg s (.src x) = s := by
        rcases push_eq cfg x hi with ⟨g', hg', ha', _⟩ | ⟨_, he⟩
        · rw [hsub] at hg'
          cases hg'
          have := ha'.upTorn
          rw [hl.upTorn] at this
          cases this
        · exact he
      rw [this]; exact ⟨hsub, rfl, rfl⟩
  obtain ⟨h1, h2, h3⟩ := hcase
  have hut : ∀ g', (step cfg s e).subject = some g' → ((step cfg s e).gens g').upTorn = true := fun g' hg' => by
    rw [h1] at hg'; cases hg'; rw [h2]; exact hl.upTorn
  have hlat : GenLatched Pend.idle (step cfg s e) g := by
    rcases (hinv.cur g h1).2 with ha | hl'
    · have := ha.upTorn
      rw [hut g h1] at this
      cases this
    · exact hl'
  exact ⟨h1, hlat, h2, live_zero_of_torn hinv hut, by rw [total_eq_ngens hinv, total_eq_ngens hi, h3]⟩

/-! ### a source notification reaches every open subscriber, once -/

theorem bcastNext_trace (v : Int) (l : List Nat) (hl : l.Nodup) (s : St) (k : Nat) :
    ((l.foldl (fun s i => dNext i v s) s).subs k).trace =
        (if k ∈ l ∧ (s.subs k).status = 0 then (s.subs k).trace ++ [Ev.next v] else (s.subs k).trace) ∧
    ((l.foldl (fun s i => dNext i v s) s).subs k).status = (s.subs k).status := by
  induction l generalizing s with
  | nil => simp
  | cons a l ih =>
    rw [List.foldl_cons]
    have hnd := List.nodup_cons.mp hl
    obtain ⟨ih1, ih2⟩ := ih hnd.2 (dNext a v s)
    rw [ih1, ih2]
    by_cases hka : k = a
    · subst hka
      have := dNext_self k v s
      simp [hnd.1, this.1, this.2]
    · have := (dNext_only a v s).other k hka
      simp [this, hka]

theorem bcastTerm_trace (fl : Flags) (t : Ev) (l : List Nat) (s : St) (k : Nat) :
    ((l.foldl (fun s i => dTerm fl i t s) s).subs k).trace =
        (if k ∈ l ∧ (s.subs k).status = 0 then (s.subs k).trace ++ [t] else (s.subs k).trace) ∧
    ((s.subs k).status ≠ 0 → ((l.foldl (fun s i => dTerm fl i t s) s).subs k).status ≠ 0) := by
  induction l generalizing s with
  | nil => simp
  | cons a l ih =>
    rw [List.foldl_cons]
    obtain ⟨ih1, ih2⟩ := ih (dTerm fl a t s)
    by_cases hka : k = a
    · subst hka
      have hself := dTerm_self fl k t s
      refine ⟨?_, fun _ => ih2 hself.2⟩
      rw [ih1]
      simp [hself.2, hself.1]
    · have := (dTerm_only fl a t s).other k hka
      refine ⟨?_, fun h => ih2 (by rw [this]; exact h)⟩
      rw [ih1, this]
      simp [hka]

theorem subjStore_frame (conn : Conn) (g : Nat) (v : Int) (s : St) :
    (subjStore conn g v s).subs = s.subs ∧ ((subjStore conn g v s).gens g).subj.obs = (s.gens g).subj.obs := by
  cases conn <;> simp [subjStore]

theorem subjBuffer_subs (conn : Conn) (g : Nat) (v : Int) (s : St) : (subjBuffer conn g v s).subs = s.subs := by
  cases conn <;> simp [subjBuffer]
  split <;> rfl

/-- what `pTerm` is made of when the proxy and the subject of generation `g` are open -/
theorem pTerm_open (cfg : Cfg) {g : Nat} {s : St} (t : Ev) (h1 : (s.gens g).pStatus = 0) (h2 : (s.gens g).subj.status = .open) :
    pTerm cfg g t s = pSubnUnsub g (subjClear g (bcastTerm cfg.flags g t
      ((pDecide cfg.flags g t (s.modGen g fun x => { x with pStatus := t.code })).modGen g
        fun x => { x with subj := { x.subj with status := Status.ofTerminal t } }))) := by
  have hopen : ((pDecide cfg.flags g t (s.modGen g fun x => { x with pStatus := t.code })).gens g).subj.status = Status.open := by
    rw [(pDecide_go cfg.flags g t _).subj]; simp [h2]
  simp only [pTerm, if_pos h1, subjTerm, hopen]

/-- … and what it leaves of the subject: the terminal stored, the values untouched -/
theorem pTerm_subj (cfg : Cfg) {g : Nat} {s : St} (t : Ev) (h1 : (s.gens g).pStatus = 0) (h2 : (s.gens g).subj.status = .open) :
    ((pTerm cfg g t s).gens g).subj.status = Status.ofTerminal t ∧ ((pTerm cfg g t s).gens g).subj.buf = (s.gens g).subj.buf := by
  rw [pTerm_open cfg t h1 h2, (pSubnUnsub_go g _).subj]
  have hb := foldl_rel ValKeep.refl ValKeep.trans (fun s i => dTerm cfg.flags i t s) (fun s i => (dTerm_only cfg.flags i t s).vals)
  simp only [subjClear, bcastTerm, St.modGen, if_true]
  rw [(hb _ _ g).1, (hb _ _ g).2.1]
  simp [(pDecide_go cfg.flags g t _).subj g]

/-- **all current subscribers receive the same notifications**: a source notification is appended,
    exactly once, to the trace of every open subscriber and to nobody else's -/
theorem src_uniform (cfg : Cfg) {s : St} (hi : Inv Pend.idle s) (x : Ev) (k : Nat) (hk : k < s.nsubs) :
    ((step cfg s (.src x)).subs k).trace =
      if (s.subs k).status = 0 then (s.subs k).trace ++ [x] else (s.subs k).trace := by
  show ((push cfg x s).subs k).trace = _
  rcases push_eq cfg x hi with ⟨g, hsub, ha, he⟩ | ⟨_, he⟩
  · rw [he]
    have hmem : k ∈ (s.gens g).subj.obs ↔ (s.subs k).status = 0 := by
      rw [ha.obs, mem_openSubs]; exact ⟨fun h => h.2, fun h => ⟨hk, h⟩⟩
    have hterm : ∀ t : Ev, ((pTerm cfg g t s).subs k).trace =
        if (s.subs k).status = 0 then (s.subs k).trace ++ [t] else (s.subs k).trace := by
      intro t
      rw [pTerm_open cfg t ha.pStatus ha.isOpen, (pSubnUnsub_go g _).subs]
      show ((bcastTerm cfg.flags g t _).subs k).trace = _
      unfold bcastTerm
      rw [(bcastTerm_trace cfg.flags t _ _ k).1]
      have hobs : (((pDecide cfg.flags g t (s.modGen g fun x => { x with pStatus := t.code })).modGen g
            fun x => { x with subj := { x.subj with status := Status.ofTerminal t } }).gens g).subj.obs = (s.gens g).subj.obs := by
        simp [(pDecide_go cfg.flags g t _).subj g]
      have hsubs : ((pDecide cfg.flags g t (s.modGen g fun x => { x with pStatus := t.code })).modGen g
            fun x => { x with subj := { x.subj with status := Status.ofTerminal t } }).subs = s.subs := by
        simp [(pDecide_go cfg.flags g t _).subs]
      rw [hobs, hsubs]
      by_cases h0 : (s.subs k).status = 0
      · simp [h0, hmem.mpr h0]
      · simp [h0]
    cases x with
    | next v =>
      have e : pEmit cfg g (.next v) s = subjBuffer cfg.conn g v (bcastNext g v (subjStore cfg.conn g v s)) := by
        simp [pEmit, pNext, ha.pStatus, subjNext, ha.isOpen]
      rw [e, subjBuffer_subs]
      unfold bcastNext
      obtain ⟨hs1, hs2⟩ := subjStore_frame cfg.conn g v s
      rw [hs2, (bcastNext_trace v _ (by rw [ha.obs]; exact openSubs_nodup s) _ k).1, hs1]
      by_cases h0 : (s.subs k).status = 0
      · simp [h0, hmem.mpr h0]
      · simp [h0]
    | error e' => exact hterm (.error e')
    | complete => exact hterm .complete
  · rw [he]
    by_cases h0 : (s.subs k).status = 0
    · obtain ⟨g, hsub, ha⟩ := open_active hi hk h0
      have hg := (hi.cur g hsub).1
      have := (upLive_iff hi g hg).mpr ⟨hsub, ha⟩
      rw [‹∀ k, k < s.ngens → s.upLive k = false› g hg] at this
      cases this
    · simp [h0]

/-! ### a source terminal on the live generation -/

/-- **after the source terminates**: nobody is left open, the upstream subscription is gone, and
    the shared pair is cleared exactly when the configuration resets on that terminal; otherwise
    the generation is latched with the terminal stored and the connector's values untouched -/
theorem src_terminal (cfg : Cfg) {s : St} {g : Nat} (t : Ev) (ht : t.isTerminal = true) (hi : Inv Pend.idle s)
    (hsub : s.subject = some g) (ha : GenActive Pend.idle s g) :
    (step cfg s (.src t)).live = 0 ∧ openSubs (step cfg s (.src t)) = [] ∧
    (step cfg s (.src t)).subject = (if cfg.flags.resetsOn t then none else some g) ∧
    (step cfg s (.src t)).total = s.total ∧
    (cfg.flags.resetsOn t = false → GenLatched Pend.idle (step cfg s (.src t)) g ∧
      ((step cfg s (.src t)).gens g).subj.status = Status.ofTerminal t ∧
      ((step cfg s (.src t)).gens g).subj.buf = (s.gens g).subj.buf) := by
  have hstep : step cfg s (.src t) = pTerm cfg g t s := by
    show push cfg t s = _
    rcases push_eq cfg t hi with ⟨g', hg', _, he⟩ | ⟨hno, _⟩
    · rw [hsub] at hg'
      have : g' = g := (Option.some.inj hg').symm
      subst this
      rw [he]
      cases t with
      | next v => simp [Ev.isTerminal] at ht
      | error e => rfl
      | complete => rfl
    · have hg := (hi.cur g hsub).1
      have := (upLive_iff hi g hg).mpr ⟨hsub, ha⟩
      rw [hno g hg] at this; cases this
  rw [hstep]
  obtain ⟨hinv, hng, _, hut', _, hsj, hno⟩ := inv_pTerm (cfg := cfg) t ht hi hsub ha
  have hut := hut' (by simp)
  simp only [Pend.afterTerm_idle] at hinv
  have hlive := live_zero_of_torn hinv fun g' hg' => by
    rw [hsj] at hg'
    split at hg' <;> cases hg'
    exact hut
  refine ⟨hlive, hno, hsj, by rw [total_eq_ngens hinv, total_eq_ngens hi, hng], fun hnr => ⟨?_, pTerm_subj cfg t ha.pStatus ha.isOpen⟩⟩
  rcases (hinv.cur g (by rw [hsj, hnr]; rfl)).2 with ha' | hl'
  · have := ha'.upTorn
    rw [hut] at this; cases this
  · exact hl'

/-! ### nobody else's trace is touched by `sub` / `unsub` -/

theorem unsub_traces (cfg : Cfg) (s : St) (i k : Nat) : ((step cfg s (.unsub i)).subs k).trace = (s.subs k).trace := by
  simp only [step]
  split
  · by_cases hki : k = i
    · subst hki
      unfold dUnsubscribe
      split
      · rw [dSubnUnsub_trace]; simp
      · rfl
    · rw [(dUnsubscribe_only cfg.flags i s).other k hki]
  · rfl

/-- a purely hot source: the creator of a generation receives only what a brand-new connector hands
    out (nothing, or behavior's initial value): a *fresh* execution; nobody else is touched -/
theorem fresh_hot_trace (cfg : Cfg) (hhot : cfg.Hot) {s : St} (hi : Inv Pend.idle s) (hsub : s.subject = none) :
    ((step cfg s .sub).subs s.nsubs).trace = Spec.joined cfg.conn (Subj.new cfg.conn) ∧
    ((step cfg s .sub).subs s.nsubs).status = 0 ∧
    (∀ k, k ≠ s.nsubs → (step cfg s .sub).subs k = s.subs k) ∧
    (step cfg s .sub).subject = some s.ngens ∧ (step cfg s .sub).live = 1 := by
  show ((subscribe cfg s).subs s.nsubs).trace = _ ∧ ((subscribe cfg s).subs s.nsubs).status = 0 ∧
    (∀ k, k ≠ s.nsubs → (subscribe cfg s).subs k = s.subs k) ∧ (subscribe cfg s).subject = some s.ngens ∧ (subscribe cfg s).live = 1
  -- a hot prefix cannot terminate: R3 ends live
  obtain ⟨n, he⟩ := subscribeK_fresh cfg id ((needsNew_iff hi).mpr hsub)
  obtain ⟨hfe, hfi, hfa, hfs⟩ := finish_live cfg.flags (flive_freshState cfg.conn hi hsub)
  have e : subscribe cfg s = liveDone s.nsubs s.ngens (freshState cfg.conn s) := by
    rw [← subscribeK_id, he, hhot n]; exact hfe
  rw [hfe] at hfi hfa hfs
  rw [e]
  refine ⟨by simp [liveDone, freshState], by simp [liveDone, freshState], fun k hk => by simp [liveDone, freshState, hk],
    hfs, live_of_active hfi hfs hfa⟩

end Ro.Share
