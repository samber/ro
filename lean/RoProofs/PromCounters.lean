/-
  RoProofs.PromCounters — the counters of the instrumentation are functions of the trace.

  * `tally_run`: in every configuration at the end of a run, every stage whose counters are
    `Sound` shows `tally state = spec (accepted notifications) (runs of its subscribe function)`.
    The observers of the instrumented composition are `Sound` here, the stand-alone counting operators in RoProps/C19.lean.
  * `out_eq_lastSeen`: what the user's observer is delivered is exactly what the gate of the last
    stage (`observeAfterPipe`) let through — so notifications-out counts delivered values.
  * `head_seen_sync` / `head_seen_prefix`: what the first stage (`observeBeforePipe`) accepted is the
    gated raw script of the source (a prefix of it when teardowns are registered) — so
    notifications-in counts the values the source emitted while subscribed.
  * `subds_run`: the subscribe function of a stage runs once per subscription iff every stage
    after it subscribes to its upstream; the last stage's always runs — one subscription counted
    per `Subscribe`.
-/
import RoProofs.PromChain
import RoModel.Spec.Prom
namespace Ro.Prom
open Ro

variable {α : Type}

theorem countNext_append (a b : List (Notif α)) : countNext (a ++ b) = countNext a + countNext b := by
  induction a with
  | nil => simp [countNext]
  | cons x xs ih => cases x <;> simp [countNext, ih] <;> omega

theorem countError_append (a b : List (Notif α)) : countError (a ++ b) = countError a + countError b := by
  induction a with
  | nil => simp [countError]
  | cons x xs ih => cases x <;> simp [countError, ih] <;> omega

theorem countComplete_append (a b : List (Notif α)) : countComplete (a ++ b) = countComplete a + countComplete b := by
  induction a with
  | nil => simp [countComplete]
  | cons x xs ih => cases x <;> simp [countComplete, ih] <;> omega

theorem countNonNilNext_append (a b : List (Notif α)) :
    countNonNilNext (a ++ b) = countNonNilNext a + countNonNilNext b := by
  induction a with
  | nil => simp [countNonNilNext]
  | cons x xs ih => cases x <;> simp [countNonNilNext, ih] <;> omega

theorem countStampedNext_append (a b : List (Notif α)) :
    countStampedNext (a ++ b) = countStampedNext a + countStampedNext b := by
  induction a with
  | nil => simp [countStampedNext]
  | cons x xs ih => cases x <;> simp [countStampedNext, ih] <;> omega

/-- the counters of a stage follow their specification -/
structure Sound (a : AnyM α) : Prop where
  init : a.tally a.m.init = a.spec [] 0
  sub : ∀ s l k c, a.tally s = a.spec l k → a.tally (a.m.onSubscribe s c).1 = a.spec l (k + 1)
  step : ∀ s l k n, a.tally s = a.spec l k → a.tally (a.m.step s n).1 = a.spec (l ++ [n]) k

def TallyInv (a : AnyM α) (s : a.σ) (l : List (Notif α)) (k : Nat) : Prop :=
  Sound a → a.tally s = a.spec l k

theorem tallyInv_local (a : AnyM α) : LocalInv (fun _ => True) TallyInv a where
  init := fun hs => hs.init
  sub := fun s l k c h => ⟨fun hs => hs.sub s l k c (h hs), fun _ _ => trivial⟩
  step := fun s l k n _ h => ⟨fun hs => hs.step s l k n (h hs), fun _ _ => trivial⟩

/-- every stage, every run: sound counters equal their specification -/
theorem tally_run (hot : Bool) (sub : Ctx) (ms : List (AnyM α)) (raw : List (Notif α)) (cut : Option Nat) :
    AllInv TallyInv ms (run hot sub ms raw cut).cfg :=
  allInv_run (fun a _ => tallyInv_local a) hot sub raw cut (fun _ _ => trivial)

theorem sound_of {σ : Type} (m : Machine σ α α) : Sound (AnyM.of m) :=
  ⟨rfl, fun _ _ _ _ _ => rfl, fun _ _ _ _ _ => rfl⟩

theorem sound_off : Sound (AnyM.off (α := α)) :=
  ⟨rfl, fun _ _ _ _ _ => rfl, fun _ _ _ _ _ => rfl⟩

theorem sound_before : Sound (AnyM.before (α := α)) where
  init := rfl
  sub := fun _ _ _ _ h => h
  step := by
    intro s l k n h
    simp only [AnyM.before, List.cons.injEq, and_true] at h ⊢
    cases n with
    | next c v =>
      simp only [Machine.step, beforeM, countNext_append, countNonNilNext_append, countNext, countNonNilNext]
      cases hc : c.isNil <;> simp [h.1, h.2]
    | error c e => simp [Machine.step, beforeM, fwdE, countNext_append, countNonNilNext_append, countNext, countNonNilNext, h.1, h.2]
    | complete c => simp [Machine.step, beforeM, fwdC, countNext_append, countNonNilNext_append, countNext, countNonNilNext, h.1, h.2]

theorem sound_after : Sound (AnyM.after (α := α)) where
  init := rfl
  sub := by
    intro s l k c h
    simp only [AnyM.after, List.cons.injEq, and_true] at h ⊢
    simp [afterM, h.1, h.2]
  step := by
    intro s l k n h
    simp only [AnyM.after, List.cons.injEq, and_true] at h ⊢
    cases n <;> simp [Machine.step, afterM, fwdE, fwdC, countNext_append, countNext, h.1, h.2]

/-- a stage whose state is one counter of the notifications it accepted -/
theorem sound_counter (m : Machine Nat α α) (cnt : List (Notif α) → Nat) (h0 : m.init = cnt [])
    (hsub : ∀ s c, (m.onSubscribe s c).1 = s) (hstep : ∀ l n, (m.step (cnt l) n).1 = cnt (l ++ [n])) :
    Sound { σ := Nat, m := m, tally := fun s => [s], spec := fun l _ => [cnt l] } where
  init := congrArg (fun s => [s]) h0
  sub := fun s l k c h => (congrArg (fun s => [s]) (hsub s c)).trans h
  step := fun s l k n h => by
    obtain rfl : s = cnt l := List.head_eq_of_cons_eq h
    exact congrArg (fun s => [s]) (hstep l n)

theorem sound_proc : Sound (AnyM.proc (α := α)) :=
  sound_counter procM countStampedNext rfl (fun _ _ => rfl) (fun l n => by
    cases n with
    | next c v =>
      simp only [Machine.step, procM, countStampedNext_append, countStampedNext]
      cases c.isNil <;> cases stamped c <;> simp
    | error c e => simp [Machine.step, procM, fwdE, countStampedNext_append, countStampedNext]
    | complete c => simp [Machine.step, procM, fwdC, countStampedNext_append, countStampedNext])

/-- the chain ends with `observeAfterPipe` -/
def EndsAfter : List (AnyM α) → Prop
  | [] => False
  | [a] => a = AnyM.after
  | _ :: b :: rest => EndsAfter (b :: rest)

/-- the gate of the last stage and the gate of the final subscriber are equal -/
def AG : (ms : List (AnyM α)) → Cfg ms → Prop
  | [], _ => True
  | [_], c => c.1.gate = SinkSt.gate c.2
  | _ :: b :: rest, c => AG (b :: rest) c.2

theorem after_step (s : (AnyM.after (α := α)).σ) (n : Notif α) : ((AnyM.after (α := α)).m.step s n).2 = [n] := by
  cases n <;> rfl

/-- `o` is what the gate of the last stage has let through, and that gate agrees with the final
    subscriber's: kept by a push, with `o` growing by what the push delivers -/
theorem push_last (hot : Bool) (ms : List (AnyM α)) (he : EndsAfter ms) (c : Cfg ms) (o : List (Notif α))
    (n : Notif α) (hc : lastSeen ms c = o ∧ AG ms c) :
    lastSeen ms (push hot ms c n).1 = o ++ (push hot ms c n).2 ∧ AG ms (push hot ms c n).1 := by
  induction ms generalizing o n with
  | nil => exact he.elim
  | cons a rest ih =>
    cases hgate : c.1.gate
    · rw [push_closed hot _ c n hgate]; simpa using hc
    · rw [push_cons_open hot a rest c n hgate]
      cases rest with
      | nil =>
        obtain rfl : a = AnyM.after := he
        have hs : SinkSt.gate c.2 = true := hgate ▸ hc.2.symm
        rw [after_step, feedAll_cons, feedAll_nil, push_sink_open hot c.2 n hs]
        refine ⟨by simp [lastSeen, ← hc.1], ?_⟩
        show (!n.isTerminal && !(hot && !(!n.isTerminal))) = !n.isTerminal
        cases n.isTerminal <;> simp
      | cons b rest' =>
        exact feedAll_induction _ (fun c' o' => lastSeen (b :: rest') c' = o' ∧ AG (b :: rest') c') c.2 o _
          (fun c' o' n' _ => ih he c' o' n') hc

theorem subscribePhase_last (sub : Ctx) (ms : List (AnyM α)) (he : EndsAfter ms) (c : Cfg ms) (o : List (Notif α))
    (hc : lastSeen ms c = o ∧ AG ms c) :
    lastSeen ms (subscribePhase sub ms c).cfg = o ++ (subscribePhase sub ms c).out ∧
    AG ms (subscribePhase sub ms c).cfg := by
  induction ms generalizing o with
  | nil => exact he.elim
  | cons a rest ih =>
    cases rest with
    | nil =>
      obtain rfl : a = AnyM.after := he
      rw [subscribePhase_cons_reached sub _ _ c rfl]
      exact ⟨by simpa [lastSeen, subscribePhase, AnyM.after, afterM] using hc.1, hc.2⟩
    | cons b rest' =>
      have hb := ih he c.2 o hc
      cases hr : (subscribePhase sub (b :: rest') c.2).reached
      · rw [subscribePhase_cons_unreached sub _ _ c hr]; exact hb
      · rw [subscribePhase_cons_reached sub _ _ c hr]
        exact List.append_assoc .. ▸
          feedAll_induction _ (fun c' o' => lastSeen (b :: rest') c' = o' ∧ AG (b :: rest') c') _ _
            (a.m.onSubscribe c.1.st sub).2 (fun c' o' n' _ => push_last false (b :: rest') he c' o' n') hb

theorem settle_last (ms : List (AnyM α)) (c : Cfg ms) (hc : AG ms c) :
    lastSeen ms (settle ms c) = lastSeen ms c ∧ AG ms (settle ms c) := by
  induction ms with
  | nil => exact ⟨rfl, trivial⟩
  | cons a rest ih =>
    cases rest with
    | nil =>
      have hg : c.1.gate = SinkSt.gate c.2 := hc
      refine ⟨rfl, ?_⟩
      show (c.1.gate && SinkSt.gate c.2) = SinkSt.gate c.2
      rw [hg]; simp
    | cons b rest' => exact ih c.2 hc

theorem closeAll_last (ms : List (AnyM α)) (c : Cfg ms) :
    lastSeen ms (closeAll ms c) = lastSeen ms c ∧ AG ms (closeAll ms c) := by
  induction ms with
  | nil => exact ⟨rfl, trivial⟩
  | cons a rest ih =>
    cases rest with
    | nil => exact ⟨rfl, rfl⟩
    | cons b rest' => exact ih c.2

theorem init_last (ms : List (AnyM α)) : lastSeen ms (initCfg ms) = [] ∧ AG ms (initCfg ms) := by
  induction ms with
  | nil => exact ⟨rfl, trivial⟩
  | cons a rest ih =>
    cases rest with
    | nil => exact ⟨rfl, rfl⟩
    | cons b rest' => exact ih

/-- for a chain that ends with `observeAfterPipe`: the user's observer is delivered exactly what
    that operator's gate let through (every source mode, script and cut) -/
theorem out_eq_lastSeen (hot : Bool) (sub : Ctx) (ms : List (AnyM α)) (he : EndsAfter ms)
    (raw : List (Notif α)) (cut : Option Nat) :
    (run hot sub ms raw cut).out = lastSeen ms (run hot sub ms raw cut).cfg :=
  (run_induction (fun c o => lastSeen ms c = o ∧ AG ms c) sub raw
    (by simpa using subscribePhase_last sub ms he _ [] (init_last ms))
    (fun hot c o n _ => push_last hot ms he c o n)
    (fun c o h => (settle_last ms c h.2).imp_left (·.trans h.1))
    (fun c o h => (closeAll_last ms c).imp_left (·.trans h.1)) hot cut).1.symm

theorem endsAfter_tailI (ms : List (AnyM α)) : EndsAfter (tailI ms) := by
  induction ms with
  | nil => rfl
  | cons a rest ih =>
    cases rest with
    | nil => exact ih
    | cons b rest' => exact ih

theorem endsAfter_instrument (ms : List (AnyM α)) : EndsAfter (instrument ms) := by
  have := endsAfter_tailI ms
  cases ms with
  | nil => exact this
  | cons a rest => exact this

theorem subscribePhase_head (sub : Ctx) (a : AnyM α) (rest : List (AnyM α)) (c : Cfg (a :: rest)) :
    (subscribePhase sub (a :: rest) c).cfg.1.seen = c.1.seen ∧ (subscribePhase sub (a :: rest) c).cfg.1.gate = c.1.gate := by
  simp only [subscribePhase]
  split <;> exact ⟨rfl, rfl⟩

/-- the head gate lets through a prefix of the gated script; all of it if it is open and the source
    is synchronous (no teardown is registered yet, so no gate downstream can close it) -/
theorem feedAll_head (hot : Bool) (a : AnyM α) (rest : List (AnyM α)) (c : Cfg (a :: rest)) (raw : List (Notif α)) :
    ∃ l, l <+: gate raw ∧ (hot = false → c.1.gate = true → l = gate raw) ∧
      (feedAll (push hot (a :: rest)) c raw).1.1.seen = c.1.seen ++ l := by
  induction raw generalizing c with
  | nil => exact ⟨[], by simp [gate], fun _ _ => rfl, by simp⟩
  | cons x xs ih =>
    rw [feedAll_cons]
    obtain ⟨l, hl, hall, hs⟩ := ih (push hot (a :: rest) c x).1
    cases hg : c.1.gate
    · have hc : headOpen (a :: rest) c = false := hg
      have := feedAll_push_closed hot (a :: rest) c xs hc
      rw [push_closed hot _ c x hc, this]
      exact ⟨[], List.nil_prefix, nofun, by simp⟩
    · cases hx : x.isTerminal
      · refine ⟨x :: l, ?_, fun hh _ => ?_, ?_⟩
        · simp only [gate, hx]
          exact List.cons_prefix_cons.mpr ⟨rfl, hl⟩
        · rw [hall hh (by simp [push, hg, hx, hh])]; simp [gate, hx]
        · rw [hs]; simp [push, hg]
      · -- the terminal closes the gate: nothing more is accepted
        have hcl : headOpen (a :: rest) (push hot (a :: rest) c x).1 = false := by
          simp [push, hg, headOpen, hx]
        rw [feedAll_push_closed hot (a :: rest) _ xs hcl]
        exact ⟨[x], by simp [gate, hx], fun _ _ => by simp [gate, hx], by simp [push, hg]⟩

/-- the source was subscribed and is synchronous: the first stage accepted exactly the gated
    raw script -/
theorem head_seen_sync (sub : Ctx) (a : AnyM α) (rest : List (AnyM α)) (raw : List (Notif α)) (cut : Option Nat)
    (hr : (run false sub (a :: rest) raw cut).srcSubs = 1) :
    (run false sub (a :: rest) raw cut).cfg.1.seen = gate raw := by
  cases hre : (subscribePhase sub (a :: rest) (initCfg (a :: rest))).reached
  · rw [run_unreached false sub _ raw cut hre] at hr; simp at hr
  · rw [run_sync sub _ raw cut hre]
    have h0 := subscribePhase_head sub a rest (initCfg (a :: rest))
    show (settle (a :: rest) _).1.seen = _
    obtain ⟨l, _, hl, hs⟩ := feedAll_head false a rest (subscribePhase sub (a :: rest) (initCfg (a :: rest))).cfg raw
    simp only [settle]
    rw [hs, hl rfl (h0.2.trans rfl), h0.1]
    exact List.nil_append _

theorem gate_take_prefix (raw : List (Notif α)) (k : Nat) : gate (raw.take k) <+: gate raw := by
  induction raw generalizing k with
  | nil => simp [gate]
  | cons x xs ih =>
    cases k with
    | zero => simp [gate]
    | succ k =>
      simp only [List.take_succ_cons, gate]
      split
      · exact List.prefix_refl _
      · exact List.cons_prefix_cons.mpr ⟨rfl, ih k⟩

/-- whatever the source mode and cut: the first stage accepted a prefix of the gated raw script
    (the values the source emitted while it was subscribed) -/
theorem head_seen_prefix (hot : Bool) (sub : Ctx) (a : AnyM α) (rest : List (AnyM α)) (raw : List (Notif α))
    (cut : Option Nat) : (run hot sub (a :: rest) raw cut).cfg.1.seen <+: gate raw := by
  have h0 : (subscribePhase sub (a :: rest) (initCfg (a :: rest))).cfg.1.seen = [] :=
    (subscribePhase_head sub a rest _).1
  -- fed to a chain whose first stage has accepted nothing yet
  have key : ∀ hot (c : Cfg (a :: rest)) l, c.1.seen = [] →
      (feedAll (push hot (a :: rest)) c l).1.1.seen <+: gate l := by
    intro hot c l hc
    obtain ⟨p, hp, _, hs⟩ := feedAll_head hot a rest c l
    rw [hs, hc]; exact hp
  cases hre : (subscribePhase sub (a :: rest) (initCfg (a :: rest))).reached
  · rw [run_unreached hot sub _ raw cut hre]
    exact h0 ▸ List.nil_prefix
  · cases hot
    · rw [run_sync sub _ raw cut hre]; exact key false _ raw h0
    · cases cut with
      | none => rw [run_hot_none sub _ raw hre]; exact key true (settle _ _) raw h0
      | some k =>
        -- after the external `Unsubscribe` nothing more is accepted
        rw [run_hot_some sub _ raw k hre, feedAll_push_closed true _ _ _ (closeAll_headOpen _ _)]
        exact (key true (settle _ _) (raw.take k) h0).trans (gate_take_prefix raw k)

def allSubscribe : List (AnyM α) → Bool
  | [] => true
  | a :: rest => a.m.subscribes && allSubscribe rest

/-- stage k is subscribed iff every stage after it subscribes to its upstream -/
def reachList : List (AnyM α) → List Nat
  | [] => []
  | _ :: rest => (if allSubscribe rest then 1 else 0) :: reachList rest

theorem push_subds (hot : Bool) (ms : List (AnyM α)) (c : Cfg ms) (n : Notif α) :
    subds ms (push hot ms c n).1 = subds ms c := by
  induction ms generalizing n with
  | nil => rfl
  | cons a rest ih =>
    simp only [push]
    split
    · simp only [subds]
      congr 1
      exact feedAll_inv _ (fun c' => subds rest c' = subds rest c.2) (fun c' n' h' => by rw [ih]; exact h') _ _ rfl
    · rfl

theorem feedAll_subds (hot : Bool) (ms : List (AnyM α)) (c : Cfg ms) (ns : List (Notif α)) :
    subds ms (feedAll (push hot ms) c ns).1 = subds ms c :=
  feedAll_inv _ (fun c' => subds ms c' = subds ms c) (fun c' n' h' => by rw [push_subds]; exact h') _ _ rfl

theorem settle_subds (ms : List (AnyM α)) (c : Cfg ms) : subds ms (settle ms c) = subds ms c := by
  induction ms with
  | nil => rfl
  | cons a rest ih => simp only [settle, subds, ih]

theorem closeAll_subds (ms : List (AnyM α)) (c : Cfg ms) : subds ms (closeAll ms c) = subds ms c := by
  induction ms with
  | nil => rfl
  | cons a rest ih => simp only [closeAll, subds, ih]

theorem subscribePhase_subds (sub : Ctx) (ms : List (AnyM α)) :
    subds ms (subscribePhase sub ms (initCfg ms)).cfg = reachList ms ∧
    (subscribePhase sub ms (initCfg ms)).reached = allSubscribe ms := by
  induction ms with
  | nil => exact ⟨rfl, rfl⟩
  | cons a rest ih =>
    have hi : (initCfg (a :: rest)).2 = initCfg rest := rfl
    cases hb : allSubscribe rest
    · have hr : (subscribePhase sub rest (initCfg (a :: rest)).2).reached = false := by rw [hi, ih.2, hb]
      rw [subscribePhase_cons_unreached sub a rest _ hr]
      refine ⟨?_, by simp [allSubscribe, hb]⟩
      show (initCfg (a :: rest)).1.subd :: subds rest (subscribePhase sub rest (initCfg rest)).cfg = _
      rw [ih.1]; simp [reachList, hb, initCfg]
    · have hr : (subscribePhase sub rest (initCfg (a :: rest)).2).reached = true := by rw [hi, ih.2, hb]
      rw [subscribePhase_cons_reached sub a rest _ hr]
      refine ⟨?_, by simp [allSubscribe, hb]⟩
      show ((initCfg (a :: rest)).1.subd + 1) :: subds rest (feedAll (push false rest) (subscribePhase sub rest (initCfg rest)).cfg _).1 = _
      rw [feedAll_subds, ih.1]; simp [reachList, hb, initCfg]

/-- every run: the subscribe function of stage k has run once if every later stage subscribes
    to its upstream, and not at all otherwise -/
theorem subds_run (hot : Bool) (sub : Ctx) (ms : List (AnyM α)) (raw : List (Notif α)) (cut : Option Nat) :
    subds ms (run hot sub ms raw cut).cfg = reachList ms :=
  run_induction (fun c _ => subds ms c = reachList ms) sub raw (subscribePhase_subds sub ms).1
    (fun hot c _ n _ h => (push_subds hot ms c n).trans h) (fun c _ h => (settle_subds ms c).trans h)
    (fun c _ h => (closeAll_subds ms c).trans h) hot cut

/-- the source is subscribed once iff every stage subscribes to its upstream -/
theorem srcSubs_run (hot : Bool) (sub : Ctx) (ms : List (AnyM α)) (raw : List (Notif α)) (cut : Option Nat) :
    (run hot sub ms raw cut).srcSubs = if allSubscribe ms then 1 else 0 := by
  rw [← (subscribePhase_subds sub ms).2]
  simp only [run]
  cases (subscribePhase sub ms (initCfg ms)).reached <;> cases hot <;> cases cut <;> rfl

theorem lastSeen_cons_tailI (x : AnyM α) (ms : List (AnyM α)) (c : Cfg (x :: tailI ms)) :
    lastSeen (x :: tailI ms) c = lastSeen (tailI ms) c.2 := by
  cases ms <;> rfl

/-- sound counters behind `observeBeforePipe`, the last stage subscribed once: the processing-time
    observations by operator index, and the state of `observeAfterPipe` -/
theorem tail_tally (ms : List (AnyM α)) (c : Cfg (tailI ms)) (h : AllInv TallyInv (tailI ms) c)
    (hs : subds (tailI ms) c = reachList (tailI ms)) :
    (tailCounters ms c).1 = (tailSeen ms c).map countStampedNext ∧
    (tailCounters ms c).2 = (1, countNext (lastSeen (tailI ms) c)) := by
  induction ms with
  | nil =>
    have h1 : [c.1.st.1, c.1.st.2] = [c.1.subd, countNext c.1.seen] := h.1 sound_after
    have hs : c.1.subd = 1 := List.head_eq_of_cons_eq hs
    simp only [List.cons.injEq, and_true] at h1
    exact ⟨rfl, Prod.ext (h1.1.trans hs) h1.2⟩
  | cons a rest ih =>
    have hp : [(c.2.1.st : Nat)] = [countStampedNext c.2.1.seen] := h.2.1 sound_proc
    have ih' := ih c.2.2 h.2.2 (List.tail_eq_of_cons_eq (List.tail_eq_of_cons_eq hs))
    refine ⟨?_, ?_⟩
    · exact List.cons_eq_cons.mpr ⟨List.head_eq_of_cons_eq hp, ih'.1⟩
    · show (tailCounters rest c.2.2).2 = (1, countNext (lastSeen (AnyM.proc :: tailI rest) c.2))
      rw [ih'.2, lastSeen_cons_tailI]

end Ro.Prom
