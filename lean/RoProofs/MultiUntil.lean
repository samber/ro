/-
  RoProofs.MultiUntil — TakeUntil / SkipUntil: machine = definition for every arrival order.
-/
import RoProofs.MultiCore
namespace Ro.Multi
open Ro

variable {α : Type}

/-- `k` is one of the two source indices -/
def two (k : Nat) : Bool := decide (k < 2)

/-- the composite subscription once both sources are collected -/
def Comp.holds2 (c : Comp) : Prop := c.done = false ∧ 0 ∈ c.members ∧ 1 ∈ c.members

theorem Comp.holds2.teardown {c : Comp} (h : c.holds2) {k : Nat} (hk : two k = true) : k ∈ c.unsubscribe.2 := by
  have : k = 0 ∨ k = 1 := by simp [two] at hk; omega
  rw [Comp.unsubscribe, if_neg (by simp [h.1])]
  rcases this with rfl | rfl
  · exact h.2.1
  · exact h.2.2

/-- `X.SubscribeWithContext(c, …)` for source `k`, then `subscriptions.AddUnsubscribable(…)`; `get`/`put` say
    where the locals keep the composite subscription -/
def subAdd {σ β : Type} (get : σ → Comp) (put : σ → Comp → σ) (k : Nat) (c : Ctx) : List (Phase σ β) :=
  [fun s => (s, [.sub k c]), fun s => (put s ((get s).add (β := β) k).1, ((get s).add k).2)]

theorem phases_subAdd {σ β : Type} (m : MMachine σ α β) (cfg : Sources α) (rec) (get : σ → Comp) (put : σ → Comp → σ)
    (k : Nat) (c : Ctx) (r : MSt σ α β) (hk : cfg.sync k = false) (hd : (get r.st).done = false) :
    phases m cfg rec (subAdd get put k c) r =
      { r with st := put r.st { get r.st with members := (get r.st).members ++ [k] },
               subs := setAt r.subs k (r.subs k + 1), sopen := setAt r.sopen k true, sctx := setAt r.sctx k c } := by
  simp [subAdd, phases, phase, act, hk, Comp.add, hd]

/-- the state right after `Subscribe` returned, both sources hot -/
structure Booted2 {σ β : Type} (r : MSt σ α β) : Prop where
  down : r.downOpen = true
  booted : r.booted = true
  out : r.out = []
  sopen : ∀ k, r.sopen k = two k
  subs : ∀ k, two k = true → r.subs k ≠ 0
  nsubs : ∀ k, two k = false → r.subs k = 0

/-- a subscribe function that subscribes and collects the two (hot) sources, in either order -/
theorem boot2 {σ β : Type} (m : MMachine σ α β) (cfg : Sources α) (hhot : ∀ k, cfg.sync k = false)
    (get : σ → Comp) (put : σ → Comp → σ) (hgp : ∀ s c, get (put s c) = c) (a b : Nat) (sub : Ctx)
    (hboot : m.boot sub = subAdd get put a sub ++ subAdd get put b sub) (hinit : get m.init = {})
    (hab : a = 0 ∧ b = 1 ∨ a = 1 ∧ b = 0) :
    Booted2 (bootSt m cfg sub) ∧ (bootSt m cfg sub).st = put (put m.init { members := [a] }) { members := [a, b] } := by
  unfold bootSt
  rw [phasesAt_depth, hboot, phases_append, phases_subAdd m cfg _ get put a sub _ (hhot a) (by rw [hinit]),
    phases_subAdd m cfg _ get put b sub _ (hhot b) (by simp [hgp, hinit])]
  simp only [hgp, hinit, if_true]
  refine ⟨⟨rfl, rfl, rfl, ?_, ?_, ?_⟩, rfl⟩ <;> intro k <;> rcases hab with ⟨rfl, rfl⟩ | ⟨rfl, rfl⟩ <;>
    rcases k with _ | _ | k <;> simp [setAt, two]

/-- the arrival order the operator's two subscribers hear: sources 0 and 1, each up to its own terminal -/
def heard2 (evs : List (MEvent α)) : List (MEvent α) := Spec.gateEvents (Spec.restrict two evs)

theorem emitOnly2_run {σ : Type} {m : MMachine σ α α} {cfg : Sources α} {I : σ → Prop}
    {step : σ → Nat → Notif α → σ × List (Notif α)} (hE : EmitOnly m cfg I two step)
    (r : MSt σ α α) (hB : Booted2 r) (hI : I r.st) (evs : List (MEvent α)) :
    (feedAll m cfg r evs).out = gate (emitsFrom step r.st (heard2 evs)) ∧
    ((feedAll m cfg r evs).downOpen = false → ∀ k, two k = true → (feedAll m cfg r evs).sopen k = false) := by
  have h := emitOnly_out hE evs r (fun _ => false) hB.down hB.booted hI
    (fun k hk => ⟨hB.subs k hk, by rw [hB.sopen, hk]; rfl⟩) (fun k hk => Or.inl (hB.nsubs k hk))
  rwa [hB.out] at h

def takeUntilStep (s : UntilSt) (k : Nat) (n : Notif α) : UntilSt × List (Notif α) :=
  if k = 0 then
    match n with
    | .next c v => if s.ready then (s, []) else (s, [.next c v])
    | .error c e => (s, [.error c e])
    | .complete c => (s, [.complete c])
  else
    match n with
    | .next c _ => ({ s with ready := true }, [.complete c])
    | .error _ _ => (s, [])
    | .complete _ => (s, [])

theorem takeUntil_emitOnly (cfg : Sources α) :
    EmitOnly (takeUntilM (α := α)) cfg (fun s => s.comp.holds2) two takeUntilStep where
  react := by
    intro rec r k n _ _
    rcases k with _ | k <;> cases n
    · cases h : r.st.ready <;> simp [takeUntilM, takeUntilStep, phases, phase, emits, act, h]
    · rfl
    · rfl
    · -- `destination.Complete` first, then `Store(ready, 1)`: the flag is not looked at by the teardown
      exact (emit_setSt (takeUntilM (α := α)) (fun s => { s with ready := true }) (fun _ => rfl) (fun _ => rfl) r _).symm
    · rfl
    · rfl
  inv := by
    intro s k n _ hI
    unfold takeUntilStep
    split <;> cases n <;> dsimp only <;> (try split) <;> exact hI
  teardown := fun _ _ hI hk => hI.teardown hk

theorem takeUntil_boot (cfg : Sources α) (hhot : ∀ k, cfg.sync k = false) (sub : Ctx) :
    Booted2 (bootSt (takeUntilM (α := α)) cfg sub) ∧ (bootSt (takeUntilM (α := α)) cfg sub).st.comp.holds2 ∧
    (bootSt (takeUntilM (α := α)) cfg sub).st.ready = false := by
  have h := boot2 (takeUntilM (α := α)) cfg hhot (·.comp) (fun s c => { s with comp := c }) (fun _ _ => rfl) 0 1 sub rfl rfl (.inl ⟨rfl, rfl⟩)
  rw [h.2]
  exact ⟨h.1, ⟨rfl, by simp, by simp⟩, rfl⟩

theorem takeUntil_emits (g : List (MEvent α)) (s : UntilSt) (hr : s.ready = false) :
    gate (emitsFrom takeUntilStep s g) = Spec.takeUntil false g := by
  induction g generalizing s with
  | nil => rfl
  | cons e es ih =>
    obtain ⟨k, n⟩ := e
    cases k with
    | zero =>
      cases n with
      | next c v => simp [emitsFrom, takeUntilStep, hr, Spec.takeUntil, gate_cons_next, ih s hr]
      | error c e => simp [emitsFrom, takeUntilStep, Spec.takeUntil, gate_cons_error]
      | complete c => simp [emitsFrom, takeUntilStep, Spec.takeUntil, gate_cons_complete]
    | succ k =>
      cases n with
      | next c v => simp [emitsFrom, takeUntilStep, Spec.takeUntil, gate_cons_complete]
      | error c e => simp [emitsFrom, takeUntilStep, Spec.takeUntil, ih s hr]
      | complete c => simp [emitsFrom, takeUntilStep, Spec.takeUntil, ih s hr]

/-- what the pinned TakeUntil delivers, for every arrival order: the definition except that the
    signal's error is not listened to -/
theorem takeUntil_impl (cfg : Sources α) (hhot : ∀ k, cfg.sync k = false) (sub : Ctx) (evs : List (MEvent α)) :
    (feedAll takeUntilM cfg (bootSt takeUntilM cfg sub) evs).out = Spec.takeUntil false (heard2 evs) := by
  have hb := takeUntil_boot cfg hhot sub
  rw [(emitOnly2_run (takeUntil_emitOnly cfg) _ hb.1 hb.2.1 evs).1, takeUntil_emits _ _ hb.2.2]

/-- no error of the signal (source 1) is heard -/
def noSignalError (g : List (MEvent α)) : Bool :=
  g.all (fun e => match e with | (_ + 1, .error _ _) => false | _ => true)

theorem takeUntil_sigErr_irrelevant (g : List (MEvent α)) (h : noSignalError g = true) :
    Spec.takeUntil true g = Spec.takeUntil false g := by
  induction g with
  | nil => rfl
  | cons e es ih =>
    obtain ⟨k, n⟩ := e
    have ih' := ih (Bool.and_eq_true_iff.1 h).2
    rcases k with _ | k <;> cases n
    · exact congrArg (_ :: ·) ih'
    · rfl
    · rfl
    · rfl
    · cases h      -- an error of the signal: excluded
    · exact ih'

def skipUntilStep (s : UntilSt) (k : Nat) (n : Notif α) : UntilSt × List (Notif α) :=
  if k = 0 then
    match n with
    | .next c v => if s.ready then (s, [.next c v]) else (s, [])
    | .error c e => (s, [.error c e])
    | .complete c => (s, [.complete c])
  else
    match n with
    | .next _ _ => ({ s with ready := true }, [])
    | .error _ _ => (s, [])
    | .complete _ => (s, [])

theorem skipUntil_emitOnly (cfg : Sources α) :
    EmitOnly (skipUntilM (α := α)) cfg (fun s => s.comp.holds2) two skipUntilStep where
  react := by
    intro rec r k n _ _
    rcases k with _ | k <;> cases n
    · cases h : r.st.ready <;> simp [skipUntilM, skipUntilStep, phases, phase, emits, act, h]
    all_goals rfl
  inv := by
    intro s k n _ hI
    unfold skipUntilStep
    split <;> cases n <;> dsimp only <;> (try split) <;> exact hI
  teardown := fun _ _ hI hk => hI.teardown hk

theorem skipUntil_boot (cfg : Sources α) (hhot : ∀ k, cfg.sync k = false) (sub : Ctx) :
    Booted2 (bootSt (skipUntilM (α := α)) cfg sub) ∧ (bootSt (skipUntilM (α := α)) cfg sub).st.comp.holds2 ∧
    (bootSt (skipUntilM (α := α)) cfg sub).st.ready = false := by
  have h := boot2 (skipUntilM (α := α)) cfg hhot (·.comp) (fun s c => { s with comp := c }) (fun _ _ => rfl) 0 1 sub rfl rfl (.inl ⟨rfl, rfl⟩)
  rw [h.2]
  exact ⟨h.1, ⟨rfl, by simp, by simp⟩, rfl⟩

theorem skipUntil_emits (g : List (MEvent α)) (s : UntilSt) :
    gate (emitsFrom skipUntilStep s g) = Spec.skipUntil false s.ready g := by
  induction g generalizing s with
  | nil => simp [emitsFrom, Spec.skipUntil]
  | cons e es ih =>
    obtain ⟨k, n⟩ := e
    cases k with
    | zero =>
      cases n with
      | next c v =>
        by_cases hr : s.ready = true
        · simp [emitsFrom, skipUntilStep, hr, Spec.skipUntil, gate_cons_next, ih s]
        · have hr' : s.ready = false := by simpa using hr
          simp [emitsFrom, skipUntilStep, hr', Spec.skipUntil, ih s]
      | error c e => simp [emitsFrom, skipUntilStep, Spec.skipUntil, gate_cons_error]
      | complete c => simp [emitsFrom, skipUntilStep, Spec.skipUntil, gate_cons_complete]
    | succ k =>
      cases n with
      | next c v => simp [emitsFrom, skipUntilStep, Spec.skipUntil, ih]
      | error c e => simp [emitsFrom, skipUntilStep, Spec.skipUntil, ih s]
      | complete c => simp [emitsFrom, skipUntilStep, Spec.skipUntil, ih s]

/-- what the pinned SkipUntil delivers, for every arrival order -/
theorem skipUntil_impl (cfg : Sources α) (hhot : ∀ k, cfg.sync k = false) (sub : Ctx) (evs : List (MEvent α)) :
    (feedAll skipUntilM cfg (bootSt skipUntilM cfg sub) evs).out = Spec.skipUntil false false (heard2 evs) := by
  have hb := skipUntil_boot cfg hhot sub
  rw [(emitOnly2_run (skipUntil_emitOnly cfg) _ hb.1 hb.2.1 evs).1, skipUntil_emits, hb.2.2]

theorem skipUntil_sigErr_irrelevant (g : List (MEvent α)) (ready : Bool) (h : noSignalError g = true) :
    Spec.skipUntil true ready g = Spec.skipUntil false ready g := by
  induction g generalizing ready with
  | nil => cases ready <;> rfl
  | cons e es ih =>
    obtain ⟨k, n⟩ := e
    have ih' := fun rd => ih rd (Bool.and_eq_true_iff.1 h).2
    rcases k with _ | k <;> cases n
    · cases ready
      · exact ih' _
      · exact congrArg (_ :: ·) (ih' _)
    · rfl
    · rfl
    · exact ih' _
    · cases h
    · exact ih' _

end Ro.Multi
