/-
  RoProofs.TimedRange — RangeWithInterval = Interval |> Map |> Take: the k-th value is `a ± k`, not
  before `k+1` periods; completion after the last value or after cancellation.
-/
import RoProofs.TimedPeriodic
namespace Ro.Timed

theorem range_model_clause (r : RangeRun) (h : RangeWF r) :
    Clause { op := .rangeWithInterval, d := r.p, a := r.a, b := r.b, step := r.step } (rangeTrace r) := by
  -- the attempts are the first `n` ticks as values, then one completion: at once for `n = 0`, with
  -- the last value once `n` ticks have come, and the loop's own after a cancellation otherwise
  have hvals : ∀ {k dl}, ((r.ticks.take (rangeCount r.a r.b r.step)).mapIdx
        (fun k t => Ev.at t (.next (rangeVal r.a r.b r.step k))))[k]? = some dl →
      RangeAt r.a r.b r.step r.p (rangeTrace r) k dl := by
    intro k dl hk
    simp only [List.getElem?_mapIdx, List.getElem?_take, Option.map_eq_some_iff] at hk
    obtain ⟨t, ht, rfl⟩ := hk
    split at ht
    next hlt => exact ⟨hlt, rfl, h.neverEarly k t ht⟩
    next => cases ht
  have hlate : ∀ c x, r.stop = some (c, x) → lateCount c ((r.ticks.take (rangeCount r.a r.b r.step)).mapIdx
      (fun k t => Ev.at t (.next (rangeVal r.a r.b r.step k)))) ≤ cancelSlack := fun c x hs => by
    rw [lateCount_mapIdx c _ _ (fun _ _ => rfl)]
    exact Nat.le_trans ((List.take_sublist _ r.ticks).filter _).length_le (h.selectFair c x hs)
  have hd : (rangeTrace r).dels = down r.unsub (rangeAttempts r) := rfl
  unfold rangeAttempts at hd
  simp only at hd
  split at hd
  next hz =>
    refine clause_down r.unsub _ hd (silentOK_stopCut _ r.stop r.unsub [] _ hd rfl (by simp)
      fun _ _ _ => Nat.zero_le _) fun k dl hk => ?_
    match k with
    | 0 => cases hk; exact .inl hz.symm
    | k + 1 => cases hk
  next hnz =>
  split at hd
  next hle =>
    refine clause_down r.unsub _ hd (silentOK_stopCut _ r.stop r.unsub _ _ hd rfl (by simp) hlate)
      fun k dl hk => ?_
    rw [List.getElem?_append] at hk
    split at hk
    · exact hvals hk
    · next hge =>
      simp only [List.length_mapIdx, List.length_take, Nat.min_eq_left hle] at hge hk
      have : k = rangeCount r.a r.b r.step := by
        have := (List.getElem?_eq_some_iff.1 hk).1
        simp at this; omega
      subst this
      simp at hk
      exact hk ▸ .inl rfl
  next hgt =>
    refine clause_down r.unsub _ hd (silentOK_stopCut _ r.stop r.unsub _ _ hd rfl (stopAttempt_length _) hlate)
      fun k dl hk => ?_
    rw [List.getElem?_append] at hk
    split at hk
    · exact hvals hk
    · obtain ⟨c, x, hs, rfl⟩ := stopAttempt_getElem? hk
      exact .inr (cancelledBy_stopCut _ c x r.unsub (by simp [rangeTrace, hs]) (h.stopLate c x hs))

-- non-vacuity: 5 down to 3 (exclusive), period 10, late ticks
example : (rangeTrace { a := 5, b := 3, p := 10, sub := 0, ticks := [11, 25, 31], stop := none, unsub := none }).dels
    = [Ev.at 11 (.next 5), Ev.at 25 (.next 4), Ev.at 25 .complete] := by decide

end Ro.Timed
