/-
  RoProofs.SubjectsMicro — the micro-step reading of the multicast subjects' operations
  (`Kind.micro`: pre-part, one visit per registered subscriber and loop, post-part) agrees with the
  atomic step when nothing runs in between.
-/
import RoProofs.Subjects
namespace Ro.Subj
open Ro

variable {α : Type}

theorem foldl_apply_map {β : Type} (l : List β) (g : β → State α → State α) (s : State α) :
    (l.map g).foldl (fun s f => f s) s = l.foldl (fun s b => g b s) s := by
  induction l generalizing s with
  | nil => rfl
  | cons b l ih => simp [ih]

theorem subNext_observers (s : State α) (i : Nat) (c : Ctx) (v : α) : (subNext s i c v).observers = s.observers := by
  unfold subNext; split <;> rfl

theorem foldl_subNext_observers (c : Ctx) (v : α) : ∀ (l : List Nat) (s : State α),
    (l.foldl (fun s i => subNext s i c v) s).observers = s.observers
  | [], _ => rfl
  | i :: l, s => by rw [List.foldl_cons, foldl_subNext_observers c v l, subNext_observers]

theorem broadcastNext_observers (s : State α) (c : Ctx) (v : α) : (broadcastNext s c v).observers = s.observers :=
  foldl_subNext_observers c v _ s

/-- flushing the stored values with the observer list taken once (micro) or re-read per value (Go) -/
theorem flush_snapshot (obs : List Nat) : ∀ (vs : List (Ctx × α)) (s : State α), s.observers = obs →
    ((vs.map (fun p => obs.map (fun i (s' : State α) => visitNext s' i p.1 p.2))).flatten).foldl (fun s f => f s) s
      = vs.foldl (fun s p => broadcastNext s p.1 p.2) s ∧
    (vs.foldl (fun s p => broadcastNext s p.1 p.2) s).observers = obs
  | [], s, h => ⟨rfl, h⟩
  | p :: vs, s, h => by
    have hb : (broadcastNext s p.1 p.2).observers = obs := by rw [broadcastNext_observers, h]
    have ih := flush_snapshot obs vs (broadcastNext s p.1 p.2) hb
    simp only [List.map_cons, List.flatten_cons, List.foldl_append, List.foldl_cons]
    rw [foldl_apply_map]
    have : obs.foldl (fun s b => visitNext s b p.1 p.2) s = broadcastNext s p.1 p.2 := by
      unfold broadcastNext visitNext; rw [h]
    rw [this]
    exact ih

/-- **micro-steps run without interruption = the atomic step** (every multicast kind, operation, state) -/
theorem micro_agrees (k : Kind α) (s : State α) (o : Op α) (m : Micro α) (h : k.micro s o = some m) :
    m.run = k.step s o := by
  unfold Kind.micro at h
  cases hs : s.status with
  | errored ec e => rw [hs] at h; cases h
  | completed => rw [hs] at h; cases h
  | active =>
    rw [hs] at h
    cases k <;> cases o <;> cases h
    case active.async.complete.refl =>
      simp only [Micro.run, Kind.step, asyncStep, hs, List.foldl_append, termVisits, nextVisits]
      have hf := flush_snapshot s.observers s.values { s with status := .completed } rfl
      rw [hf.1, foldl_apply_map]
      unfold broadcastTerminal
      rw [hf.2]
    -- one loop: visiting the observers in turn is the broadcast
    all_goals
      simp only [Micro.run, nextVisits, termVisits, foldl_apply_map, Kind.step, publishStep, behaviorStep, replayStep,
        asyncStep, hs]
      rfl

end Ro.Subj
