/-
  RoProofs.MultiRace — RaceWith / Race / Amb.
   * Release, for any mix of hot and synchronous sources: `subscriptions[j]` holds every source that is subscribed
     and has not been unsubscribed (`RaceHeld`), so the teardown releases everything whenever it runs — at the
     winner's terminal (`race_done_releases`) or at an external Unsubscribe (`race_cut_releases_any`).
   * Over hot sources, for every arrival order: the output mirrors the first source to notify (`race_spec`) and the
     losers are released at the winner's first notification (`race_end`).
-/
import RoProofs.MultiCore
namespace Ro.Multi
open Ro

variable {α : Type}

def below (n : Nat) (k : Nat) : Bool := decide (k < n)

theorem raceM_teardown (n : Nat) (s : RaceSt) : (raceM (α := α) n).teardown s = (s, s.stored) := rfl

theorem foldl_act_unsub (m : MMachine RaceSt α α) (cfg : Sources α) (rec) (l : List Nat) (r : MSt RaceSt α α) :
    (l.map Act.unsub).foldl (act m cfg rec) r = l.foldl MSt.closeSrc r := by
  induction l generalizing r with
  | nil => rfl
  | cons k ks ih => exact ih _

theorem ofNat_ne_neg1 (j : Nat) : (Int.ofNat j = -1) = False := by
  simp

/-! ### release, for ANY mix of hot and synchronous sources

`subscriptions[j]` holds every source that is subscribed and has not been unsubscribed — including
a source that won inside its own `Subscribe` (fix 5ca7c2d). Hence the teardown (`unsubscribeOthers(-1)`)
releases everything, whenever it runs. -/

/-- every subscribed source whose subscriber is still open is stored, or is the one whose `Subscribe`
    call is in progress -/
def RaceHeld (r : MSt RaceSt α α) : Prop :=
  ∀ k, r.subs k ≠ 0 → r.sopen k = true → (k ∈ r.st.stored ∨ r.st.pending = some k)

/-- what a reaction (and any sequence of reactions) may do to the bookkeeping -/
structure RaceStep (r r' : MSt RaceSt α α) : Prop where
  stored : r'.st.stored = r.st.stored
  pending : r'.st.pending = r.st.pending
  subs : r'.subs = r.subs
  booted : r'.booted = r.booted
  shrink : ∀ k, r'.sopen k = true → r.sopen k = true
  torn : r.booted = true → r'.downOpen = false → r.downOpen = true → ∀ k, k ∈ r.st.stored → r'.sopen k = false
  stay : r.downOpen = false → r'.downOpen = false

/-- a step that leaves the downstream gate alone -/
theorem RaceStep.quiet {r r' : MSt RaceSt α α} (hs : r'.st.stored = r.st.stored) (hp : r'.st.pending = r.st.pending)
    (hsub : r'.subs = r.subs) (hb : r'.booted = r.booted) (hd : r'.downOpen = r.downOpen)
    (ho : ∀ k, r'.sopen k = true → r.sopen k = true) : RaceStep r r' :=
  ⟨hs, hp, hsub, hb, ho, fun _ h1 h2 => (by rw [hd, h2] at h1; cases h1), fun h => hd.trans h⟩

theorem RaceStep.refl (r : MSt RaceSt α α) : RaceStep r r := .quiet rfl rfl rfl rfl rfl fun _ h => h

theorem RaceStep.trans {r r' r'' : MSt RaceSt α α} (h1 : RaceStep r r') (h2 : RaceStep r' r'') : RaceStep r r'' where
  stored := h2.stored.trans h1.stored
  pending := h2.pending.trans h1.pending
  subs := h2.subs.trans h1.subs
  booted := h2.booted.trans h1.booted
  shrink := fun k h => h1.shrink k (h2.shrink k h)
  torn := by
    intro hb hd'' hd k hk
    cases hd' : r'.downOpen with
    | true => exact h2.torn (h1.booted ▸ hb) hd'' hd' k (h1.stored ▸ hk)
    | false =>
      cases hs : r''.sopen k with
      | false => rfl
      | true => exact (h2.shrink k hs).symm.trans (h1.torn hb hd' hd k hk)
  stay := fun h => h2.stay (h1.stay h)

theorem RaceStep.closeAll (ks : List Nat) (r : MSt RaceSt α α) : RaceStep r (ks.foldl MSt.closeSrc r) := by
  rw [closeAll_eq]
  exact .quiet rfl rfl rfl rfl rfl fun k h => by simp only at h; split at h; cases h; exact h

theorem RaceStep.emit (n : Nat) (r : MSt RaceSt α α) (x : Notif α) : RaceStep r (r.emit (raceM n) x) := by
  cases hd : r.downOpen with
  | false => rw [emit_closed _ r x hd]; exact .quiet rfl rfl rfl rfl rfl fun _ h => h
  | true =>
    cases hx : x.isTerminal with
    | false => rw [emit_open_next _ r x hd hx]; exact .quiet rfl rfl rfl rfl rfl fun _ h => h
    | true =>
      cases hb : r.booted with
      | false =>
        have he : r.emit (raceM n) x = { r with out := r.out ++ [x], downOpen := false } := by
          simp [MSt.emit, hd, hx, hb]
        rw [he]
        exact ⟨rfl, rfl, rfl, rfl, fun _ h => h, fun h => (by simp [hb] at h), fun _ => rfl⟩
      | true =>
        rw [emit_open_term _ r x hd hx hb, runTeardown_eq]
        exact ⟨rfl, rfl, rfl, rfl, fun k h => (by simp only at h; split at h; cases h; exact h),
          fun _ _ _ k hk => (by simp [raceM_teardown, hk]), fun _ => rfl⟩

/-- the three callbacks of source `j` -/
theorem RaceStep.react (n : Nat) (cfg : Sources α) (rec) (j : Nat) (x : Notif α) (r : MSt RaceSt α α) :
    RaceStep r (phases (raceM n) cfg rec ((raceM n).react j x) r) := by
  show RaceStep r (phase (raceM n) cfg rec r (raceReact j x))
  unfold phase raceReact
  simp only []
  generalize hs' : (if r.st.won = -1 then { r.st with won := Int.ofNat j } else r.st) = s'
  have hst : s'.stored = r.st.stored ∧ s'.pending = r.st.pending := by
    subst hs'; split <;> exact ⟨rfl, rfl⟩
  have h1 : RaceStep r { r with st := s' } := .quiet hst.1 hst.2 rfl rfl rfl fun _ h => h
  split
  · -- forwarded, then unsubscribeOthers(j)
    simp only [List.cons_append, List.nil_append, List.foldl_cons, act, RaceSt.others]
    rw [foldl_act_unsub]
    exact h1.trans ((RaceStep.emit n _ x).trans (RaceStep.closeAll _ _))
  · exact h1

theorem RaceStep.deliver (n : Nat) (cfg : Sources α) (d : Nat) (j : Nat) (r : MSt RaceSt α α) (x : Notif α) :
    RaceStep r (deliver (raceM n) (phasesAt (raceM n) cfg d) j r x) := by
  obtain ⟨rec, hrec⟩ := phasesAt_is_phases (raceM (α := α) n) cfg d
  unfold Ro.Multi.deliver
  split
  · rw [hrec]
    refine RaceStep.trans ?_ (RaceStep.react n cfg rec j x _)
    split
    · exact RaceStep.closeAll [j] r
    · exact RaceStep.refl r
  · exact .quiet rfl rfl rfl rfl rfl fun _ h => h

theorem RaceStep.script (n : Nat) (cfg : Sources α) (d : Nat) (j : Nat) (l : List (Notif α)) (r : MSt RaceSt α α) :
    RaceStep r (l.foldl (Ro.Multi.deliver (raceM n) (phasesAt (raceM n) cfg d) j) r) := by
  induction l generalizing r with
  | nil => exact RaceStep.refl r
  | cons x xs ih => exact RaceStep.trans (RaceStep.deliver n cfg d j r x) (ih _)

theorem RaceStep.feedAll (n : Nat) (cfg : Sources α) (evs : List (MEvent α)) (r : MSt RaceSt α α) :
    RaceStep r (feedAll (raceM n) cfg r evs) := by
  induction evs generalizing r with
  | nil => exact RaceStep.refl r
  | cons e es ih =>
    refine RaceStep.trans ?_ (ih (feed (raceM n) cfg r e))
    unfold feed
    split
    · exact RaceStep.refl r
    · exact RaceStep.deliver n cfg _ e.1 r e.2

theorem RaceStep.closed {r r' : MSt RaceSt α α} (h : RaceStep r r') {k : Nat} (hk : r.sopen k = false) :
    r'.sopen k = false := by
  cases hs : r'.sopen k with
  | false => rfl
  | true => exact (h.shrink k hs).symm.trans hk

/-! `RaceAfter w r f` is `RaceStep r f` read from a stored source `w` that `r` is forwarding (booted, output
open): counters and store are those of `r`, closed subscribers stay closed, and once the output has ended
`w` is released too. `RaceStep.after` is its only source; the theorems of this file use `RaceStep` itself. -/

structure RaceAfter (w : Nat) (r f : MSt RaceSt α α) : Prop where
  subs : f.subs = r.subs
  stored : f.st.stored = r.st.stored
  booted : f.booted = true
  mono : ∀ j, r.sopen j = false → f.sopen j = false
  wclosed : f.downOpen = false → f.sopen w = false

theorem RaceStep.after {r f : MSt RaceSt α α} (h : RaceStep r f) {w : Nat} (hb : r.booted = true) (hd : r.downOpen = true)
    (hw : w ∈ r.st.stored) : RaceAfter w r f :=
  ⟨h.subs, h.stored, h.booted.trans hb, fun _ => h.closed, fun hd' => h.torn hb hd' hd w hw⟩

theorem RaceHeld.step {r r' : MSt RaceSt α α} (h : RaceHeld r) (hs : RaceStep r r') : RaceHeld r' := by
  intro k h1 h2
  rw [hs.stored, hs.pending]
  exact h k (hs.subs ▸ h1) (hs.shrink k h2)

/-- with no `Subscribe` call in progress, the teardown releases every subscribed source -/
theorem RaceHeld.teardown {r : MSt RaceSt α α} (h : RaceHeld r) (hp : r.st.pending = none) (n k : Nat)
    (hk : r.subs k ≠ 0) : (r.runTeardown (raceM n)).sopen k = false := by
  rw [runTeardown_eq]
  show (if k ∈ r.st.stored then false else r.sopen k) = false
  by_cases hm : k ∈ r.st.stored
  · exact if_pos hm
  · cases hso : r.sopen k with
    | false => exact if_neg hm
    | true => exact (h k hk hso).elim (fun hm' => absurd hm' hm) (fun hp' => by rw [hp] at hp'; cases hp')

/-- while the subscribe function runs -/
structure RaceBI (x : Option Nat) (r : MSt RaceSt α α) : Prop where
  held : RaceHeld r
  pending : r.st.pending = x
  booted : r.booted = false

/-- after it has returned: additionally, once the output has ended nothing is held -/
structure RaceRI (r : MSt RaceSt α α) : Prop where
  held : RaceHeld r
  pending : r.st.pending = none
  booted : r.booted = true
  done : r.downOpen = false → ∀ k, r.subs k ≠ 0 → r.sopen k = false

theorem RaceBI.step {x} {r r' : MSt RaceSt α α} (h : RaceBI x r) (hs : RaceStep r r') : RaceBI x r' :=
  ⟨h.held.step hs, hs.pending.trans h.pending, hs.booted.trans h.booted⟩

theorem RaceRI.step {r r' : MSt RaceSt α α} (h : RaceRI r) (hs : RaceStep r r') : RaceRI r' := by
  refine ⟨h.held.step hs, hs.pending.trans h.pending, hs.booted.trans h.booted, ?_⟩
  intro hd' k hk
  cases hso : r'.sopen k with
  | false => rfl
  | true =>
    have hko : r.sopen k = true := hs.shrink k hso
    have hks : r.subs k ≠ 0 := hs.subs ▸ hk
    cases hd : r.downOpen with
    | true =>
      cases h.held k hks hko with
      | inl hmem => exact hso.symm.trans (hs.torn h.booted hd' hd k hmem)
      | inr hp => rw [h.pending] at hp; cases hp
    | false => exact hko.symm.trans (h.done hd k hks)

def raceBody (sub : Ctx) (j : Nat) : List (Phase RaceSt α) := [
    (fun s => if s.won != -1 then ({ s with pending := none }, []) else ({ s with pending := some j }, [.sub j sub])),
    (fun s => if s.pending = some j then
        (if s.won = -1 || s.won = Int.ofNat j then ({ s with stored := s.stored ++ [j], pending := none }, [])
         else ({ s with pending := none }, [.unsub j]))
      else (s, [])) ]

theorem raceM_boot (n : Nat) (sub : Ctx) : (raceM (α := α) n).boot sub = (List.range n).flatMap (raceBody sub) := rfl

/-- the state right after `all[j].SubscribeWithContext` has created source `j`'s subscriber -/
def raceSubscribed (r : MSt RaceSt α α) (j : Nat) (sub : Ctx) : MSt RaceSt α α :=
  { r with
    st := { r.st with pending := some j }
    subs := setAt r.subs j (r.subs j + 1)
    sopen := setAt r.sopen j true
    sctx := setAt r.sctx j sub }

/-- one round of the subscribe loop (operator_combining.go:1040-1086) -/
theorem race_body_BI (n : Nat) (cfg : Sources α) (d : Nat) (sub : Ctx) (j : Nat) (r : MSt RaceSt α α) (h : RaceBI none r) :
    RaceBI none (phases (raceM n) cfg (phasesAt (raceM n) cfg d) (raceBody sub j) r) := by
  simp only [raceBody, phases, List.foldl_cons, List.foldl_nil]
  -- first half: subscribe (or skip)
  have hA : ∃ r1, phase (raceM n) cfg (phasesAt (raceM n) cfg d) r
      (fun s => if s.won != -1 then ({ s with pending := none }, []) else ({ s with pending := some j }, [.sub j sub])) = r1 ∧
      (RaceBI none r1 ∨ RaceBI (some j) r1) := by
    refine ⟨_, rfl, ?_⟩
    unfold phase
    by_cases hw : (r.st.won != -1) = true
    · left
      simp only [hw, if_true, List.foldl_nil]
      exact ⟨fun k h1 h2 => h.held k h1 h2 |>.elim Or.inl (fun hp => by rw [h.pending] at hp; cases hp), rfl, h.booted⟩
    · right
      have hw' : (r.st.won != -1) = false := by simpa using hw
      simp only [hw', Bool.false_eq_true, if_false, List.foldl_cons, List.foldl_nil, act]
      have hsub : RaceBI (some j) (raceSubscribed r j sub) := by
        refine ⟨?_, rfl, h.booted⟩
        intro k h1 h2
        by_cases hk : k = j
        · right; rw [hk]; rfl
        · left
          simp only [raceSubscribed, setAt, hk, if_false] at h1 h2
          cases h.held k h1 h2 with
          | inl hm => exact hm
          | inr hp => rw [h.pending] at hp; cases hp
      split
      · exact hsub.step (RaceStep.script n cfg d j _ (raceSubscribed r j sub))
      · exact hsub
  obtain ⟨r1, hr1, hcase⟩ := hA
  rw [hr1]
  -- second half: store / unsubscribe
  unfold phase
  cases hcase with
  | inl hn =>
    have : (r1.st.pending = some j) = False := by rw [hn.pending]; simp
    simp only [this, if_false, List.foldl_nil]
    exact hn
  | inr hs =>
    simp only [hs.pending, if_true]
    split
    · simp only [List.foldl_nil]
      refine ⟨?_, rfl, hs.booted⟩
      intro k h1 h2
      left
      cases hs.held k h1 h2 with
      | inl hm => simp [hm]
      | inr hp => rw [hs.pending] at hp; cases hp; simp
    · simp only [List.foldl_cons, List.foldl_nil, act]
      refine ⟨?_, rfl, hs.booted⟩
      intro k h1 h2
      left
      simp only [closeSrc_sopen] at h2
      split at h2
      · cases h2
      · rename_i hkj
        cases hs.held k h1 h2 with
        | inl hm => exact hm
        | inr hp => rw [hs.pending] at hp; cases hp; exact absurd rfl hkj

theorem race_boot_RI (n : Nat) (cfg : Sources α) (sub : Ctx) : RaceRI (bootSt (raceM (α := α) n) cfg sub) := by
  have hloop : ∀ (l : List Nat) (r : MSt RaceSt α α), RaceBI none r →
      RaceBI none (phases (raceM n) cfg (phasesAt (raceM n) cfg cfg.n) (l.flatMap (raceBody sub)) r) := by
    intro l
    induction l with
    | nil => exact fun r h => h
    | cons j js ih =>
      intro r h
      rw [List.flatMap_cons, phases_append]
      exact ih _ (race_body_BI n cfg cfg.n sub j r h)
  have hB := hloop (List.range n) { st := (raceM (α := α) n).init } ⟨fun k h1 _ => absurd rfl h1, rfl, rfl⟩
  unfold bootSt
  rw [phasesAt_depth, raceM_boot]
  generalize phases (raceM n) cfg _ _ _ = r1 at hB
  by_cases hd : r1.downOpen = true
  · rw [if_pos hd]
    exact ⟨hB.held, hB.pending, rfl, fun h => absurd (hd.symm.trans h) (by simp)⟩
  · have ht := fun k => RaceHeld.teardown (r := { r1 with booted := true }) hB.held hB.pending n k
    rw [if_neg hd]
    simp only [runTeardown_eq, raceM_teardown] at ht ⊢
    exact ⟨fun k h1 h2 => absurd h2 (by simp [ht k h1]), hB.pending, rfl, fun _ k hk => ht k hk⟩

/-- **the output has ended ⇒ every subscribed source is released** — hot or synchronous sources alike -/
theorem race_done_releases (n : Nat) (cfg : Sources α) (sub : Ctx) (evs : List (MEvent α)) (k : Nat)
    (hd : (feedAll (raceM n) cfg (bootSt (raceM n) cfg sub) evs).downOpen = false)
    (hk : (feedAll (raceM n) cfg (bootSt (raceM n) cfg sub) evs).subs k ≠ 0) :
    (feedAll (raceM n) cfg (bootSt (raceM n) cfg sub) evs).sopen k = false :=
  ((race_boot_RI n cfg sub).step (RaceStep.feedAll n cfg evs _)).done hd k hk

theorem cut_subs {σ β : Type} (m : MMachine σ α β) (r : MSt σ α β) : (r.cut m).subs = r.subs := by
  unfold MSt.cut; split <;> simp

/-- **an external `Unsubscribe` at any moment releases every subscribed source, and it stays released** —
    hot or synchronous sources alike -/
theorem race_cut_releases_any (n : Nat) (cfg : Sources α) (sub : Ctx) (evs evs' : List (MEvent α)) (k : Nat)
    (hk : (feedAll (raceM n) cfg ((feedAll (raceM n) cfg (bootSt (raceM n) cfg sub) evs).cut (raceM n)) evs').subs k ≠ 0) :
    (feedAll (raceM n) cfg ((feedAll (raceM n) cfg (bootSt (raceM n) cfg sub) evs).cut (raceM n)) evs').sopen k = false := by
  have hRI := (race_boot_RI n cfg sub).step (RaceStep.feedAll n cfg evs _)
  generalize feedAll (raceM n) cfg (bootSt (raceM n) cfg sub) evs = f at hRI hk ⊢
  have hcut : ∀ j, (f.cut (raceM n)).subs j = 0 ∨ (f.cut (raceM n)).sopen j = false := by
    intro j
    by_cases hj : f.subs j = 0
    · left; rw [cut_subs]; exact hj
    · right
      unfold MSt.cut
      split
      · exact RaceHeld.teardown (r := { f with downOpen := false }) hRI.held hRI.pending n j hj
      · exact hRI.done (by simp_all) j hj
  obtain ⟨d, hac⟩ := feedAll_allClosed (raceM n) cfg evs' _ hcut
  rw [hac] at hk ⊢
  exact (hcut k).resolve_left hk

/-! ### hot sources: the subscribe loop -/

structure RaceBoot (j : Nat) (r : MSt RaceSt α α) : Prop where
  won : r.st.won = -1
  stored : r.st.stored = List.range j
  pending : r.st.pending = none
  down : r.downOpen = true
  booted : r.booted = false
  out : r.out = []
  sopen : ∀ k, r.sopen k = below j k
  subs : ∀ k, r.subs k = if k < j then 1 else 0

theorem race_boot_loop (m : MMachine RaceSt α α) (cfg : Sources α) (hhot : ∀ k, cfg.sync k = false) (rec) (sub : Ctx)
    (j : Nat) (r : MSt RaceSt α α) (h0 : RaceBoot 0 r) :
    RaceBoot j (phases m cfg rec ((List.range j).flatMap (raceBody sub)) r) := by
  induction j with
  | zero => exact h0
  | succ j ih =>
    rw [List.range_succ, List.flatMap_append, phases_append]
    generalize phases m cfg rec ((List.range j).flatMap (raceBody sub)) r = r1 at ih
    simp only [List.flatMap_cons, List.flatMap_nil, List.append_nil, raceBody, phases, List.foldl_cons, List.foldl_nil, phase,
      ih.won, ih.stored, act, hhot, Bool.false_eq_true, if_false, bne_self_eq_false, if_true, decide_true, Bool.true_or]
    exact ⟨rfl, List.range_succ.symm, rfl, ih.down, ih.booted, ih.out, setAt_below ih.sopen, setAt_once ih.subs⟩

/-- state after `Subscribe` returned and before any notification: nobody has won -/
structure Race0 (n : Nat) (r : MSt RaceSt α α) : Prop where
  won : r.st.won = -1
  stored : r.st.stored = List.range n
  down : r.downOpen = true
  booted : r.booted = true
  sopen : ∀ k, r.sopen k = below n k
  subs : ∀ k, r.subs k ≠ 0 ↔ k < n

theorem race_boot (n : Nat) (cfg : Sources α) (hhot : ∀ k, cfg.sync k = false) (sub : Ctx) :
    Race0 n (bootSt (raceM (α := α) n) cfg sub) ∧ (bootSt (raceM (α := α) n) cfg sub).out = [] := by
  have h := race_boot_loop (raceM (α := α) n) cfg hhot (phasesAt (raceM n) cfg cfg.n) sub n { st := (raceM (α := α) n).init }
    ⟨rfl, rfl, rfl, rfl, rfl, rfl, fun k => by simp [below], fun k => by simp⟩
  unfold bootSt
  rw [phasesAt_depth, raceM_boot]
  generalize phases (raceM n) cfg _ _ _ = r1 at h
  rw [if_pos h.down]
  exact ⟨⟨h.won, h.stored, h.down, rfl, h.sopen, fun k => by rw [h.subs k]; split <;> simp [*]⟩, h.out⟩

/-! ### hot sources: the output mirrors the first source to notify -/

theorem mem_others (l : List Nat) (j w : Nat) :
    j ∈ l.filter (fun i => (Int.ofNat i) != Int.ofNat w) ↔ (j ∈ l ∧ j ≠ w) := by
  simp [List.mem_filter]
  intro _; omega

/-- the winner (present, or new: nobody had won) notifies: forwarded, then `unsubscribeOthers` -/
theorem race_feed_winner (n : Nat) (cfg : Sources α) (r : MSt RaceSt α α) (w : Nat) (x : Notif α)
    (hw : r.st.won = -1 ∨ r.st.won = Int.ofNat w) (hs : r.subs w ≠ 0) (ho : r.sopen w = true) :
    feed (raceM n) cfg r (w, x) =
      (r.st.stored.filter (fun i => (Int.ofNat i) != Int.ofNat w)).foldl MSt.closeSrc
        (MSt.emit (raceM n) { r with st := { r.st with won := Int.ofNat w },
                                     sopen := if x.isTerminal then setAt r.sopen w false else r.sopen } x) := by
  have hs' : (if r.st.won = -1 then { r.st with won := Int.ofNat w } else r.st) = { r.st with won := Int.ofNat w } := by
    cases hw with
    | inl h => simp [h]
    | inr h => rw [if_neg (by rw [h]; simp)]; cases hst : r.st; simp_all
  rw [feed_open _ _ r w x hs ho]
  simp only [raceM, phases, phase, raceReact, List.foldl_cons, List.foldl_nil, hs', if_true, List.cons_append, List.nil_append, act]
  exact foldl_act_unsub _ cfg _ _ _

/-- `w` has won and is still heard; nobody else is -/
structure RaceWon (w : Nat) (r : MSt RaceSt α α) : Prop where
  won : r.st.won = Int.ofNat w
  down : r.downOpen = true
  booted : r.booted = true
  sopen : r.sopen w = true
  subs : r.subs w ≠ 0
  losers : ∀ j, j ≠ w → r.subs j = 0 ∨ r.sopen j = false

/-- a notification of the winner, be it the one that makes it win: a terminal ends the output, after a value
    only the winner is heard (`ih`: what is delivered from such a state) -/
theorem race_winner_step (n : Nat) (cfg : Sources α) (r : MSt RaceSt α α) (w : Nat) (x : Notif α) (es : List (MEvent α))
    (hw : r.st.won = -1 ∨ r.st.won = Int.ofNat w) (hd : r.downOpen = true) (hb : r.booted = true)
    (ho : r.sopen w = true) (hs : r.subs w ≠ 0)
    (hl : ∀ j, j ≠ w → r.subs j = 0 ∨ r.sopen j = false ∨ j ∈ r.st.stored)
    (ih : ∀ r', RaceWon w r' → (feedAll (raceM n) cfg r' es).out = r'.out ++ gate (Spec.ofSource w es)) :
    (feedAll (raceM n) cfg (feed (raceM n) cfg r (w, x)) es).out = r.out ++ gate (x :: Spec.ofSource w es) := by
  rw [race_feed_winner n cfg r w x hw hs ho]
  cases hx : x.isTerminal with
  | true =>
    simp only [MSt.emit, hd, hx, hb, if_true, runTeardown_eq, closeAll_eq]
    rw [(feedAll_frozen _ cfg es _ rfl).2]
    simp [gate, hx]
  | false =>
    simp only [MSt.emit, hd, hx, if_true, Bool.false_eq_true, if_false, closeAll_eq]
    refine Eq.trans (ih _ ⟨rfl, rfl, hb, ?_, hs, fun j hj => ?_⟩) (by simp [gate, hx])
    · simp [ho]
    rcases hl j hj with h | h | h
    · exact .inl h
    · exact .inr (by simp [h])
    · exact .inr (if_pos ((mem_others _ j w).2 ⟨h, hj⟩))

theorem race_won (n : Nat) (cfg : Sources α) (w : Nat) (evs : List (MEvent α)) (r : MSt RaceSt α α) (h : RaceWon w r) :
    (feedAll (raceM n) cfg r evs).out = r.out ++ gate (Spec.ofSource w evs) := by
  induction evs generalizing r with
  | nil => simp [feedAll, Spec.ofSource]
  | cons e es ih =>
    obtain ⟨k, x⟩ := e
    rw [feedAll_cons]
    by_cases hk : k = w
    · subst hk
      rw [ofSource_cons_same]
      exact race_winner_step n cfg r k x es (.inr h.won) h.down h.booted h.sopen h.subs
        (fun j hj => (h.losers j hj).imp_right .inl) ih
    · obtain ⟨d, hf⟩ := feed_unheard _ cfg r (k, x) (h.losers k hk)
      rw [ofSource_cons_other _ _ _ _ hk, hf]
      exact ih _ ⟨h.won, h.down, h.booted, h.sopen, h.subs, h.losers⟩

/-- nobody has notified yet: the arrivals up to the first one from a raced source change nothing -/
theorem race_first (n : Nat) (cfg : Sources α) (evs : List (MEvent α)) (r : MSt RaceSt α α) (h : Race0 n r) :
    (Spec.restrict (below n) evs = [] ∧ feedAll (raceM n) cfg r evs = r) ∨
    ∃ k x es, k < n ∧ Spec.restrict (below n) evs = (k, x) :: Spec.restrict (below n) es ∧
      feedAll (raceM n) cfg r evs = feedAll (raceM n) cfg (feed (raceM n) cfg r (k, x)) es := by
  induction evs with
  | nil => exact .inl ⟨rfl, rfl⟩
  | cons e es ih =>
    by_cases hk : e.1 < n
    · exact .inr ⟨e.1, e.2, es, hk, by simp [Spec.restrict, below, hk], rfl⟩
    · have hres : Spec.restrict (below n) (e :: es) = Spec.restrict (below n) es := by simp [Spec.restrict, below, hk]
      rw [feedAll_cons, feed_unsubscribed _ cfg r e (Classical.byContradiction fun hc => hk ((h.subs e.1).1 hc)), hres]
      exact ih

/-- what is known about the sources after any arrival order -/
structure RaceEnd (n : Nat) (evs : List (MEvent α)) (f : MSt RaceSt α α) : Prop where
  stored : f.st.stored = List.range n
  booted : f.booted = true
  subs : ∀ k, f.subs k ≠ 0 ↔ k < n
  /-- the output has ended ⇒ every source is released -/
  closed : f.downOpen = false → ∀ j, j < n → f.sopen j = false
  /-- somebody has notified ⇒ every other source is released -/
  losers : ∀ w x rest, Spec.restrict (below n) evs = (w, x) :: rest → ∀ j, j < n → j ≠ w → f.sopen j = false

/-- **RaceWith / Race / Amb over hot sources**: for every arrival order the output mirrors the first
    source (among the `n` raced ones) to notify, and the losers are released from that notification on. -/
theorem race_run (n : Nat) (cfg : Sources α) (hhot : ∀ k, cfg.sync k = false) (sub : Ctx) (evs : List (MEvent α)) :
    (feedAll (raceM n) cfg (bootSt (raceM n) cfg sub) evs).out = Spec.race (Spec.restrict (below n) evs) ∧
    RaceEnd n evs (feedAll (raceM n) cfg (bootSt (raceM n) cfg sub) evs) := by
  obtain ⟨h0, hout⟩ := race_boot n cfg hhot sub
  have hs := RaceStep.feedAll n cfg evs (bootSt (raceM n) cfg sub)
  have hsubs : ∀ k, (feedAll (raceM n) cfg (bootSt (raceM n) cfg sub) evs).subs k ≠ 0 ↔ k < n := fun k => by
    rw [hs.subs]; exact h0.subs k
  refine ⟨?_, hs.stored.trans h0.stored, hs.booted.trans h0.booted, hsubs,
    fun hd j hj => race_done_releases n cfg sub evs j hd ((hsubs j).2 hj), ?_⟩ <;>
    rcases race_first n cfg evs _ h0 with ⟨he, hf⟩ | ⟨k, x, es, hk, he, hf⟩ <;> rw [he, hf]
  · rw [hout]; rfl
  · rw [Spec.race, ofSource_cons_same, ofSource_restrict _ k (by simp [below, hk]),
      race_winner_step n cfg _ k x es (.inl h0.won) h0.down h0.booted (by simp [h0.sopen, below, hk]) ((h0.subs k).2 hk)
        (fun j _ => (Nat.lt_or_ge j n).elim (fun hj => .inr (.inr (by simp [h0.stored, hj])))
          (fun hj => .inl (Classical.byContradiction fun hc => Nat.not_lt.2 hj ((h0.subs j).1 hc))))
        (fun r' h' => race_won n cfg k es r' h'), hout]
    rfl
  · intro _ _ _ hr; cases hr
  · intro w y rest hr j hj hjw
    injection hr with hr _
    injection hr with hkw _
    subst hkw
    refine (RaceStep.feedAll n cfg es _).closed ?_
    rw [race_feed_winner n cfg _ k x (.inl h0.won) ((h0.subs k).2 hk) (by simp [h0.sopen, below, hk]), closeAll_eq]
    exact if_pos ((mem_others _ j k).2 ⟨by simp [h0.stored, hj], hjw⟩)

theorem race_spec (n : Nat) (cfg : Sources α) (hhot : ∀ k, cfg.sync k = false) (sub : Ctx) (evs : List (MEvent α)) :
    (feedAll (raceM n) cfg (bootSt (raceM n) cfg sub) evs).out = Spec.race (Spec.restrict (below n) evs) :=
  (race_run n cfg hhot sub evs).1

theorem race_end (n : Nat) (cfg : Sources α) (hhot : ∀ k, cfg.sync k = false) (sub : Ctx) (evs : List (MEvent α)) :
    RaceEnd n evs (feedAll (raceM n) cfg (bootSt (raceM n) cfg sub) evs) :=
  (race_run n cfg hhot sub evs).2

/-- an external `Unsubscribe` at any moment releases every source, and nothing that arrives afterwards changes that -/
theorem race_cut_then (n : Nat) (cfg : Sources α) (hhot : ∀ k, cfg.sync k = false) (sub : Ctx) (evs evs' : List (MEvent α))
    (j : Nat) (hj : j < n) :
    (feedAll (raceM n) cfg ((feedAll (raceM n) cfg (bootSt (raceM n) cfg sub) evs).cut (raceM n)) evs').sopen j = false := by
  refine race_cut_releases_any n cfg sub evs evs' j ?_
  rw [(RaceStep.feedAll n cfg evs' _).subs, cut_subs]
  exact ((race_end n cfg hhot sub evs).subs j).2 hj

end Ro.Multi
