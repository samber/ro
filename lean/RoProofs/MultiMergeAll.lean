/-
  RoProofs.MultiMergeAll — MergeAll / MergeMap* with a hot outer source: inner sources are subscribed when
  the outer value that names them arrives, at any point of the arrival order. For every arrival order
  the output is `Spec.mergeAll` of the events that are heard (`Spec.heard`).
-/
import RoProofs.MultiUntil
namespace Ro.Multi
open Ro

variable {α : Type}

/-- every heard value of the outer source names a source that is not being listened to yet
    (an observable subscribed twice is outside the probe model) -/
def freshNames (proj : Ctx → α → Nat → Ctx × Nat) : (Nat → Bool) → (Nat → Bool) → Nat → List (MEvent α) → Bool
  | _, _, _, [] => true
  | L, cl, i, (k, n) :: es =>
    if !L k || cl k then freshNames proj L cl i es
    else
      let cl' := if n.isTerminal then setAt cl k true else cl
      match k, n with
      | 0, .next c v => !L (proj c v i).2 && freshNames proj (setAt L (proj c v i).2 true) cl' (i + 1) es
      | _, _ => freshNames proj L cl' i es

theorem phases_onDone (m : MMachine MergeSt α α) (cfg : Sources α) (rec) (r : MSt MergeSt α α) (f : MergeSt → MergeSt)
    (hf : ∀ s, (f s).count = s.count) :
    phases m cfg rec [fun s => (f s).onDone] r =
      if r.st.count - 1 = 0 then MSt.emit m { r with st := { f r.st with count := r.st.count - 1 } } (.complete (f r.st).parentCtx)
      else { r with st := { f r.st with count := r.st.count - 1 } } := by
  simp only [phases, phase, List.foldl_cons, List.foldl_nil, MergeSt.onDone, hf]
  split <;> simp [act]

section reacts
variable (proj : Ctx → α → Nat → Ctx × Nat)

theorem ma_react_outer_next (c : Ctx) (v : α) : (mergeAllM proj).react 0 (.next c v) = [
    fun s => ({ s with count := s.count + 1 }, [.sub (proj c v s.i).2 (proj c v s.i).1]),
    fun s => ({ s with comp := (s.comp.add (β := α) (proj c v s.i).2).1, i := s.i + 1 }, (s.comp.add (proj c v s.i).2).2)] := rfl

theorem ma_react_inner_next (k : Nat) (c : Ctx) (v : α) :
    (mergeAllM proj).react (k + 1) (.next c v) = [fun s => (s, [.emit (.next c v)])] := rfl

theorem ma_react_error (k : Nat) (c : Ctx) (e : Err) :
    (mergeAllM proj).react k (.error c e) = [fun s => (s, [.emit (.error c e)])] := by
  cases k <;> rfl

/-- the outer observable's completion leaves its context behind (`parentCtx = ctx`, `:158`); then `onDone` -/
theorem ma_react_complete (k : Nat) (c : Ctx) :
    (mergeAllM proj).react k (.complete c) =
      [fun s => ({ s with parentCtx := if k = 0 then c else s.parentCtx }).onDone] := by
  cases k <;> rfl

end reacts

theorem mergeAll_complete (live : Nat) (p : Ctx) (k : Nat) (c : Ctx) (es : List (MEvent α)) :
    Spec.mergeAll live p ((k, .complete c) :: es) =
      if live ≤ 1 then [.complete (if k = 0 then c else p)] else Spec.mergeAll (live - 1) (if k = 0 then c else p) es := by
  cases k <;> simp [Spec.mergeAll]

structure MAInv (L cl : Nat → Bool) (i live : Nat) (p : Ctx) (r : MSt MergeSt α α) : Prop where
  down : r.downOpen = true
  booted : r.booted = true
  count : r.st.count = Int.ofNat live
  live1 : 1 ≤ live
  idx : r.st.i = i
  pctx : r.st.parentCtx = p
  done : r.st.comp.done = false
  subs : ∀ k, r.subs k ≠ 0 ↔ L k = true
  sopen : ∀ k, L k = true → r.sopen k = !cl k
  clL : ∀ k, cl k = true → L k = true

theorem mergeAll_run (proj : Ctx → α → Nat → Ctx × Nat) (cfg : Sources α) (hhot : ∀ k, cfg.sync k = false)
    (evs : List (MEvent α)) (r : MSt MergeSt α α) (L cl : Nat → Bool) (i live : Nat) (p : Ctx)
    (h : MAInv L cl i live p r) (hf : freshNames proj L cl i evs = true) :
    (feedAll (mergeAllM proj) cfg r evs).out = r.out ++ Spec.mergeAll live p (Spec.heard proj L cl i evs) := by
  induction evs generalizing r L cl i live p with
  | nil => simp [feedAll, Spec.heard, Spec.mergeAll]
  | cons e es ih =>
    obtain ⟨k, n⟩ := e
    rw [feedAll_cons]
    by_cases hk : L k = true ∧ cl k = false
    · obtain ⟨hL, hc⟩ := hk
      rw [feed_open _ cfg r k n ((h.subs k).2 hL) (by rw [h.sopen k hL, hc]; rfl)]
      cases n with
      | next c v =>
        cases k with
        | zero =>
          -- the outer names a new inner source: subscribe it
          obtain ⟨hfr, hf'⟩ : L (proj c v i).2 = false ∧ freshNames proj (setAt L (proj c v i).2 true) cl (i + 1) es = true := by
            simpa [freshNames, hL, hc] using hf
          have hcl : cl (proj c v i).2 = false := by
            cases hcl : cl (proj c v i).2 with
            | false => rfl
            | true => rw [h.clL _ hcl] at hfr; cases hfr
          rw [ma_react_outer_next]
          simp only [phases, phase, act, hhot, Comp.add, h.done, h.idx, List.foldl_cons, List.foldl_nil, Notif.isTerminal_next,
            Bool.false_eq_true, if_false]
          refine Eq.trans (ih _ (setAt L (proj c v i).2 true) cl (i + 1) (live + 1) p
            ⟨h.down, h.booted, by rw [h.count]; rfl, by omega, rfl, h.pctx, rfl, fun j => ?_, fun j => ?_, fun j hj => ?_⟩ hf') ?_
          · simp only [setAt]; split
            · simp
            · exact h.subs j
          · simp only [setAt]; split
            · intro _; simp [*]
            · exact h.sopen j
          · simp only [setAt]; split
            · rfl
            · exact h.clL j hj
          · simp [Spec.heard, hL, hc, Spec.mergeAll]
        | succ k =>
          rw [ma_react_inner_next, phases_emit1]
          simp only [MSt.emit, h.down, Notif.isTerminal_next, if_true, Bool.false_eq_true, if_false]
          refine Eq.trans (ih _ L cl i live p
            ⟨rfl, h.booted, h.count, h.live1, h.idx, h.pctx, h.done, h.subs, h.sopen, h.clL⟩
            (by simpa [freshNames, hL, hc] using hf)) ?_
          simp [Spec.heard, hL, hc, Spec.mergeAll]
      | error c e =>
        -- any error is forwarded and ends the output
        rw [ma_react_error, phases_emit1]
        simp only [MSt.emit, h.down, h.booted, Notif.isTerminal_error, if_true, runTeardown_eq]
        rw [(feedAll_frozen _ cfg es _ rfl).2]
        cases k <;> simp [Spec.heard, hL, hc, Spec.mergeAll]
      | complete c =>
        have hcount : r.st.count - 1 = 0 ↔ live ≤ 1 := by have := h.live1; rw [h.count]; simp; omega
        rw [ma_react_complete, phases_onDone _ _ _ _ (fun s => { s with parentCtx := if k = 0 then c else s.parentCtx }) (fun _ => rfl),
          show Spec.heard proj L cl i ((k, .complete c) :: es) = (k, .complete c) :: Spec.heard proj L (setAt cl k true) i es by
            cases k <;> simp [Spec.heard, hL, hc],
          mergeAll_complete]
        have hf' : freshNames proj L (setAt cl k true) i es = true := by cases k <;> simpa [freshNames, hL, hc] using hf
        by_cases hl : live ≤ 1
        · rw [if_pos (hcount.2 hl), if_pos hl]
          simp only [MSt.emit, h.down, h.booted, Notif.isTerminal_complete, if_true, runTeardown_eq]
          rw [(feedAll_frozen _ cfg es _ rfl).2, h.pctx]
        · rw [if_neg (mt hcount.1 hl), if_neg hl]
          refine Eq.trans (ih _ L (setAt cl k true) i (live - 1) (if k = 0 then c else p)
            ⟨h.down, h.booted, by rw [h.count]; simp; omega, by omega, h.idx, by rw [h.pctx], h.done, h.subs,
              fun j hj => ?_, fun j hj => ?_⟩ hf') rfl
          · simp only [Notif.isTerminal_complete, ↓reduceIte, setAt]; split
            · rfl
            · exact h.sopen j hj
          · simp only [setAt] at hj; split at hj
            · exact ‹j = k› ▸ hL
            · exact h.clL j hj
    · -- nobody listens to `k` (yet, or any more): the notification is lost
      have hu : (!L k || cl k) = true := by
        cases hL : L k <;> simp_all
      obtain ⟨d, hfd⟩ := feed_unheard _ cfg r (k, n)
        (by cases hL : L k with
            | false => exact .inl (Decidable.not_not.1 (mt (h.subs k).1 (by simp [hL])))
            | true => exact .inr (by rw [h.sopen k hL]; simpa [hL] using hu))
      rw [hfd, show Spec.heard proj L cl i ((k, n) :: es) = Spec.heard proj L cl i es by simp [Spec.heard, hu]]
      exact ih _ L cl i live p ⟨h.down, h.booted, h.count, h.live1, h.idx, h.pctx, h.done, h.subs, h.sopen, h.clL⟩
        (by simpa [freshNames, hu] using hf)

theorem mergeAll_boot (proj : Ctx → α → Nat → Ctx × Nat) (cfg : Sources α) (hhot : ∀ k, cfg.sync k = false) (sub : Ctx) :
    MAInv (fun k => k == 0) (fun _ => false) 0 1 Ctx.nil (bootSt (mergeAllM proj) cfg sub) ∧
    (bootSt (mergeAllM proj) cfg sub).out = [] := by
  have hb : (mergeAllM proj).boot sub = subAdd (·.comp) (fun s c => { s with comp := c }) 0 sub := rfl
  unfold bootSt
  rw [phasesAt_depth, hb, phases_subAdd _ cfg _ _ _ 0 sub _ (hhot 0) rfl]
  refine ⟨⟨rfl, rfl, rfl, by omega, rfl, rfl, rfl, ?_, ?_, ?_⟩, rfl⟩
  · intro k; by_cases hk : k = 0 <;> simp [setAt, hk, mergeAllM]
  · intro k hk; simp at hk; simp [setAt, hk]
  · intro k hk; simp at hk

/-- **MergeAll / MergeMap* with a hot outer source and hot inner sources**: for every arrival order in
    which the outer never names a source twice, the output is the definition's output for the events
    that are heard. -/
theorem mergeAll_spec (proj : Ctx → α → Nat → Ctx × Nat) (cfg : Sources α) (hhot : ∀ k, cfg.sync k = false) (sub : Ctx)
    (evs : List (MEvent α)) (hf : freshNames proj (fun k => k == 0) (fun _ => false) 0 evs = true) :
    (feedAll (mergeAllM proj) cfg (bootSt (mergeAllM proj) cfg sub) evs).out =
      Spec.mergeAll 1 Ctx.nil (Spec.heard proj (fun k => k == 0) (fun _ => false) 0 evs) := by
  have hb := mergeAll_boot proj cfg hhot sub
  rw [mergeAll_run proj cfg hhot evs _ _ _ _ _ _ hb.1 hf, hb.2]; simp

end Ro.Multi
