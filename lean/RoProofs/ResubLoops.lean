/-
  RoProofs.ResubLoops — While, DoWhile, RepeatWith, OnErrorResumeNextWith, Concat, Catch (C15).
-/
import RoProofs.Resub
namespace Ro.Resub
open Ro Ro.Resub Ro.Resub.Spec

theorem failsAt_zero_of_error {outs : List Outcome} {e : Nat} (h : (outcomeAt outs 0).fin = .error e) : failsAt outs 0 = true :=
  fails_of_error h
theorem failsAt_zero_of_complete {outs : List Outcome} (h : (outcomeAt outs 0).fin = .complete) : failsAt outs 0 = false :=
  not_fails_of_complete h

theorem valuesOf_take_one (outs : List Outcome) : valuesOf (outs.take 1) = (outcomeAt outs 0).vals.map (·.2) := by
  rw [valuesOf_take_succ]; simp

@[simp] theorem leadingTrue_nil : leadingTrue [] = 0 := rfl
@[simp] theorem leadingTrue_false (cs : List Bool) : leadingTrue (false :: cs) = 0 := rfl
@[simp] theorem leadingTrue_true (cs : List Bool) : leadingTrue (true :: cs) = leadingTrue cs + 1 := by
  simp [leadingTrue, List.takeWhile]

/-! ### While -/

theorem whileLoop_spec (ct : Nat) (conds : List Bool) (outs : List Outcome) (cur : Ctx) (i : Nat) :
    Sequential (i + 1) outs (termAfter outs (whileLoop ct conds outs cur i).attempts) (whileLoop ct conds outs cur i) ∧
      (whileLoop ct conds outs cur i).attempts = firstStop (failsAt outs) (leadingTrue conds) := by
  induction conds generalizing outs cur i with
  | nil => exact ⟨(Sequential.stop rfl rfl).evaluated, rfl⟩
  | cons b cs ih =>
    cases b with
    | false => exact ⟨(Sequential.stop rfl rfl).evaluated, rfl⟩
    | true =>
      unfold whileLoop
      simp only []
      rw [leadingTrue_true]
      cases h : (outcomeAt outs 0).fin with
      | error e =>
        exact ⟨(Sequential.last _ rfl (by exact congrArg some (termAfter_one_error h).symm)).evaluated,
          (firstStop_succ_of_stop _ (failsAt_zero_of_error h)).symm⟩
      | complete =>
        obtain ⟨h1, h2⟩ := ih outs.tail (condCtx ct cur i) (i + 1)
        exact ⟨(termAfter_tail outs _ (.inl h) ▸ Sequential.after _ h1).evaluated,
          by rw [firstStop_succ_of_go _ (failsAt_zero_of_complete h), failsAt_tail, ← h2]; rfl⟩

/-! ### DoWhile -/

theorem doWhileLoop_spec (ct : Nat) (conds : List Bool) (outs : List Outcome) (cur : Ctx) (i : Nat) :
    Sequential (i + 1) outs (termAfter outs (doWhileLoop ct conds outs cur i).attempts) (doWhileLoop ct conds outs cur i) ∧
      (doWhileLoop ct conds outs cur i).attempts = firstStop (failsAt outs) (leadingTrue conds + 1) := by
  -- the attempt fails
  have fails : ∀ (outs : List Outcome) (cur : Ctx) (i : Nat) (e : Nat), (outcomeAt outs 0).fin = .error e →
      Sequential (i + 1) outs (termAfter outs 1)
        (.after ((outcomeAt outs 0).nexts cur ++ [.error ((outcomeAt outs 0).finCtx cur) (.user e)]) (i + 1) (.stop [])) :=
    fun outs cur i e h => .last _ rfl (by exact congrArg some (termAfter_one_error h).symm)
  -- it completes and the condition answers no
  have no : ∀ (outs : List Outcome) (cur c : Ctx) (i : Nat), (outcomeAt outs 0).fin = .complete →
      Sequential (i + 1) outs (termAfter outs 1) (.after ((outcomeAt outs 0).nexts cur) (i + 1) (.stop [.complete c])) :=
    fun outs cur c i h => termAfter_tail outs 0 (.inl h) ▸ .after _ (.stop rfl rfl)
  induction conds generalizing outs cur i with
  | nil =>
    unfold doWhileLoop
    simp only []
    cases h : (outcomeAt outs 0).fin with
    | error e => exact ⟨fails outs cur i e h, by simp [firstStop]⟩
    | complete => exact ⟨(no outs cur _ i h).evaluated, by simp [firstStop]⟩
  | cons b cs ih =>
    unfold doWhileLoop
    simp only []
    cases h : (outcomeAt outs 0).fin with
    | error e => exact ⟨fails outs cur i e h, (firstStop_succ_of_stop _ (failsAt_zero_of_error h)).symm⟩
    | complete =>
      cases b with
      | false => exact ⟨(no outs cur _ i h).evaluated, by simp [firstStop]⟩
      | true =>
        obtain ⟨h1, h2⟩ := ih outs.tail (condCtx ct ((outcomeAt outs 0).finCtx cur) i) (i + 1)
        exact ⟨(termAfter_tail outs _ (.inl h) ▸ Sequential.after _ h1).evaluated,
          by rw [leadingTrue_true, firstStop_succ_of_go _ (failsAt_zero_of_complete h), failsAt_tail, ← h2]; rfl⟩

/-! ### RepeatWith -/

theorem pushB_next (b : Option Nat) (c : Ctx) (v : Int) : pushB b (.next c v) = b.map (· - 1) := by
  cases b with
  | none => rfl
  | some k => cases k <;> simp [pushB]

theorem feedB_nexts (b : Option Nat) (o : Outcome) (sub : Ctx) : feedB b (o.nexts sub) = b.map (· - o.vals.length) := by
  unfold Outcome.nexts feedB
  induction o.vals generalizing b with
  | nil => cases b <;> simp
  | cons p ps ih =>
    simp only [List.map_cons, List.foldl_cons, pushB_next, ih, List.length_cons]
    cases b with
    | none => rfl
    | some k => simp; omega

theorem feedB_append (b : Option Nat) (l₁ l₂ : List (Notif Int)) : feedB b (l₁ ++ l₂) = feedB (feedB b l₁) l₂ := by
  simp [feedB]

theorem pushB_error (b : Option Nat) (c : Ctx) (e : Err) : pushB b (.error c e) = some 0 := by
  unfold pushB; split
  · rename_i h; simpa using h
  · rfl

/-- `destination.IsClosed()` after an attempt of RepeatWith ⇔ the attempt stops the loop -/
theorem closedB_repeatRaw (b : Option Nat) (outs : List Outcome) (sub : Ctx) :
    closedB (feedB b (repeatRaw (outcomeAt outs 0) sub)) = repeatStops b outs 0 := by
  unfold repeatRaw repeatStops
  rw [valuesOf_take_one]
  cases h : (outcomeAt outs 0).fin with
  | complete =>
    simp only [feedB_nexts, failsAt_zero_of_complete h, Bool.false_or, List.length_map]
    cases b with
    | none => rfl
    | some k =>
      by_cases hk : k ≤ (outcomeAt outs 0).vals.length
      · have : k - (outcomeAt outs 0).vals.length = 0 := by omega
        simp [closedB, hk, this]
      · have : k - (outcomeAt outs 0).vals.length ≠ 0 := by omega
        simp [closedB, hk, this]
  | error e =>
    simp [feedB, pushB_error, closedB, failsAt_zero_of_error h]

theorem repeatStops_shift (b : Option Nat) (outs : List Outcome) :
    (fun j => repeatStops b outs (j + 1)) = repeatStops (b.map (· - (outcomeAt outs 0).vals.length)) outs.tail := by
  funext j
  unfold repeatStops
  rw [valuesOf_take_succ, show failsAt outs (j + 1) = failsAt outs.tail j from congrFun (failsAt_tail outs) j]
  cases b with
  | none => rfl
  | some k =>
    simp only [Option.map_some, List.length_append, List.length_map]
    congr 1
    by_cases h : k ≤ (outcomeAt outs 0).vals.length + (valuesOf (List.take (j + 1) outs.tail)).length
    · have h' : k - (outcomeAt outs 0).vals.length ≤ (valuesOf (List.take (j + 1) outs.tail)).length := by omega
      simp [h, h']
    · have h' : ¬ k - (outcomeAt outs 0).vals.length ≤ (valuesOf (List.take (j + 1) outs.tail)).length := by omega
      simp [h, h']

theorem firstStop_of_fails {p : Nat → Bool} (b : Nat) (h : p 0 = true) : firstStop p (b + 1) = 1 := firstStop_succ_of_stop b h

/-- the attempts of RepeatWith, for every count and every point at which the downstream goes away -/
theorem repeatLoop_spec (sub : Ctx) (n : Nat) (outs : List Outcome) (i : Nat) (b : Option Nat) (last : Ctx) :
    Sequential (i + 1) outs (termAfter outs (repeatLoop sub n outs i b last).attempts) (repeatLoop sub n outs i b last) ∧
      (repeatLoop sub n outs i b last).attempts = firstStop (repeatStops b outs) n := by
  induction n generalizing outs i b last with
  | zero => exact ⟨.stop rfl rfl, rfl⟩
  | succ n ih =>
    unfold repeatLoop
    simp only []
    have hstop := closedB_repeatRaw b outs sub
    cases h : (outcomeAt outs 0).fin with
    | error e =>
      -- the error has closed the destination
      have hc : closedB (feedB b (repeatRaw (outcomeAt outs 0) sub)) = true := by
        rw [hstop]; simp [repeatStops, failsAt_zero_of_error h]
      rw [if_pos hc]
      simp only [repeatRaw, h]
      exact ⟨.last _ rfl (by exact congrArg some (termAfter_one_error h).symm), (firstStop_succ_of_stop _ (hstop ▸ hc)).symm⟩
    | complete =>
      have hraw : repeatRaw (outcomeAt outs 0) sub = (outcomeAt outs 0).nexts sub := by simp only [repeatRaw, h]
      rw [hraw] at hstop ⊢
      cases hc : closedB (feedB b ((outcomeAt outs 0).nexts sub))
      · obtain ⟨h1, h2⟩ := ih outs.tail (i + 1) (feedB b ((outcomeAt outs 0).nexts sub)) ((outcomeAt outs 0).finCtx sub)
        refine ⟨termAfter_tail outs _ (.inl h) ▸ .after _ h1, ?_⟩
        rw [firstStop_succ_of_go _ (hstop ▸ hc), repeatStops_shift, ← feedB_nexts, ← h2]
        rfl
      · exact ⟨termAfter_tail outs 0 (.inl h) ▸ .after _ (.stop rfl rfl), (firstStop_succ_of_stop _ (hstop ▸ hc)).symm⟩

/-! ### OnErrorResumeNextWith -/

/-- the terminal when no source is left: the recorded error, or completion -/
def errTerm : Option Nat → Term
  | some e => .error (.user e)
  | none => .complete

/-- every source of the list is subscribed, whatever the outcomes; the last one decides the terminal -/
theorem resumeLoop_spec (sub : Ctx) (n : Nat) (outs : List Outcome) (i : Nat) (last : Ctx) (err : Option Nat) :
    Sequential (i + 1) outs (if n = 0 then errTerm err else termAfter outs n) (resumeLoop sub n outs i last err) ∧
      (resumeLoop sub n outs i last err).attempts = n := by
  induction n generalizing outs i last err with
  | zero => exact ⟨by unfold resumeLoop; cases err <;> exact .stop rfl rfl, rfl⟩
  | succ n ih =>
    unfold resumeLoop
    simp only []
    obtain ⟨h1, h2⟩ := ih outs.tail (i + 1) ((outcomeAt outs 0).finCtx sub)
      (match (outcomeAt outs 0).fin with | .complete => none | .error e => some e)
    refine ⟨?_, congrArg (· + 1) h2⟩
    rw [if_neg (Nat.succ_ne_zero n)]
    cases n with
    | succ m => exact termAfter_tail outs _ (.inr (Nat.succ_pos m)) ▸ .after _ h1
    | zero =>
      refine .after _ ?_
      cases h : (outcomeAt outs 0).fin <;> rw [h] at h1
      · exact termAfter_tail outs 0 (.inl h) ▸ h1
      · exact termAfter_one_error h ▸ h1

/-! ### Concat -/

/-- one source after the other until one fails (fix 808ed47) -/
theorem concatLoop_spec (sub : Ctx) (n : Nat) (outs : List Outcome) (i : Nat) :
    Sequential (i + 1) outs (termAfter outs (concatLoop sub n outs i).attempts) (concatLoop sub n outs i) ∧
      (concatLoop sub n outs i).attempts = firstStop (failsAt outs) n := by
  induction n generalizing outs i with
  | zero => exact ⟨.stop rfl rfl, rfl⟩
  | succ n ih =>
    unfold concatLoop
    simp only []
    cases h : (outcomeAt outs 0).fin with
    | error e =>
      exact ⟨.last _ rfl (by exact congrArg some (termAfter_one_error h).symm), (firstStop_succ_of_stop _ (failsAt_zero_of_error h)).symm⟩
    | complete =>
      obtain ⟨h1, h2⟩ := ih outs.tail (i + 1)
      exact ⟨termAfter_tail outs _ (.inl h) ▸ .after _ h1,
        by rw [firstStop_succ_of_go _ (failsAt_zero_of_complete h), failsAt_tail, ← h2]; rfl⟩

end Ro.Resub
