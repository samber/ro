/-
  RoProofs.MultiMicro — TakeUntil under true concurrency (micro-step model RoModel/Multi/Micro.lean, code
  after fix 3e5361a: the signal's callback completes the destination first and raises the flag afterwards).

  `takeUntilMicro_arrival`: for EVERY pair of scripts and EVERY schedule of atomic actions there is an
  arrival order `evs` — the source's and the signal's notifications, each in its own order (a prefix of
  the script up to its terminal) — such that the output under the schedule is the output the definition
  (minus the signal's error, the known finding) assigns to `evs`, which is also what the logical machine
  delivers when the notifications arrive in that order.
-/
import RoProofs.MultiUntil
import RoModel.Multi.Micro
namespace Ro.Multi.Micro
open Ro Ro.Multi

variable {α : Type}

/-! ### calls are only appended; after a terminal call nothing changes the output -/

theorem step_calls (s : St α) (tid : Nat) : ∃ l, (step s tid).calls = s.calls ++ l := by
  obtain ⟨ready, src, sig, mid, calls⟩ := s
  -- every branch of `step` leaves the calls alone or appends one
  cases tid with
  | zero =>
    rcases src with _ | ⟨_ | _ | _, r⟩ <;> cases ready <;>
      first | exact ⟨[], (List.append_nil _).symm⟩ | exact ⟨_, rfl⟩
  | succ k =>
    rcases sig with _ | ⟨_ | _ | _, r⟩ <;> cases mid <;>
      first | exact ⟨[], (List.append_nil _).symm⟩ | exact ⟨_, rfl⟩

theorem run_calls (sched : List Nat) (s : St α) : ∃ l, (run s sched).calls = s.calls ++ l := by
  induction sched generalizing s with
  | nil => exact ⟨[], by simp [run]⟩
  | cons t ts ih =>
    obtain ⟨l1, h1⟩ := step_calls s t
    obtain ⟨l2, h2⟩ := ih (step s t)
    exact ⟨l1 ++ l2, by simp only [run, List.foldl_cons] at h2 ⊢; rw [h2, h1, List.append_assoc]⟩

theorem run_frozen (sched : List Nat) (s : St α) (h : hasTerm s.calls = true) :
    gate (run s sched).calls = gate s.calls := by
  obtain ⟨l, hl⟩ := run_calls sched s
  rw [hl, gate_append_of_term _ _ h]

/-! ### the arrival order is compatible with each thread's own order

`ev s t` is what arrives at step `t`; `arrival` collects these along the run. What arrives from a thread at a step,
followed by what that thread has still to deliver afterwards, is what it had to deliver before. -/

/-- what arrives at the operator at one step of a schedule -/
def ev (s : St α) : Nat → Option (MEvent α)
  | 0 => s.src.head?.map (0, ·)
  | _ + 1 => if s.mid then none else s.sig.head?.map (1, ·)

theorem arrival_cons (s : St α) (t : Nat) (ts : List Nat) :
    arrival s (t :: ts) = (ev s t).toList ++ arrival (step s t) ts := by
  obtain ⟨ready, src, sig, mid, calls⟩ := s
  cases t with
  | zero => cases src <;> rfl
  | succ k => cases sig <;> cases mid <;> rfl

/-- what the signal thread has still to deliver: the value it is in the middle of has arrived already -/
def sigRest (s : St α) : List (Notif α) := if s.mid then s.sig.drop 1 else s.sig

theorem step_src (s : St α) (t : Nat) : Spec.ofSource 0 (ev s t).toList ++ (step s t).src = s.src := by
  obtain ⟨ready, src, sig, mid, calls⟩ := s
  cases t with
  | zero => rcases src with _ | ⟨_ | _ | _, r⟩ <;> cases ready <;> rfl
  | succ k => rcases sig with _ | ⟨_ | _ | _, r⟩ <;> cases mid <;> rfl

theorem step_sig (s : St α) (t : Nat) : Spec.ofSource 1 (ev s t).toList ++ sigRest (step s t) = sigRest s := by
  obtain ⟨ready, src, sig, mid, calls⟩ := s
  cases t with
  | zero => rcases src with _ | ⟨_ | _ | _, r⟩ <;> cases ready <;> cases mid <;> rfl
  | succ k => rcases sig with _ | ⟨_ | _ | _, r⟩ <;> cases mid <;> rfl

theorem ofSource_append (k : Nat) (a b : List (MEvent α)) :
    Spec.ofSource k (a ++ b) = Spec.ofSource k a ++ Spec.ofSource k b := by
  simp [Spec.ofSource]

theorem arrival_prefix (k : Nat) (rest : St α → List (Notif α))
    (hstep : ∀ s t, Spec.ofSource k (ev s t).toList ++ rest (step s t) = rest s) (sched : List Nat) (s : St α) :
    Spec.ofSource k (arrival s sched) <+: rest s := by
  induction sched generalizing s with
  | nil => exact List.nil_prefix
  | cons t ts ih =>
    rw [arrival_cons, ofSource_append, ← hstep s t]
    exact (List.prefix_append_right_inj _).2 (ih _)

theorem arrival_two (sched : List Nat) (s : St α) : ∀ e ∈ arrival s sched, two e.1 = true := by
  induction sched generalizing s with
  | nil => simp [arrival]
  | cons t ts ih =>
    intro e he
    rw [arrival_cons, List.mem_append] at he
    refine he.elim (fun h => ?_) (ih _ e)
    cases t <;> simp only [ev] at h
    · simp at h; obtain ⟨a, _, rfl⟩ := h; rfl
    · split at h
      · simp at h
      · simp at h; obtain ⟨a, _, rfl⟩ := h; rfl

/-! ### the schedule's output is the definition's output for the arrival order it amounts to -/

theorem micro_main (sched : List Nat) (s : St α) (hr : s.ready = false) (hm : s.mid = false)
    (hc : hasTerm s.calls = false) :
    gate (run s sched).calls = s.calls ++ Spec.takeUntil false (arrival s sched) := by
  induction sched generalizing s with
  | nil => simp [run, arrival, Spec.takeUntil, gate_of_noTerm _ hc]
  | cons t ts ih =>
    obtain ⟨ready, src, sig, mid, calls⟩ := s
    cases hr; cases hm
    rw [arrival_cons]
    show gate (run (step _ t) ts).calls = _
    -- a step that calls the destination with a terminal: nothing after it shows
    have hend : ∀ (s' : St α) (x : Notif α), s'.calls = calls ++ [x] → x.isTerminal = true →
        gate (run s' ts).calls = calls ++ [x] := fun s' x h1 h2 => by
      rw [run_frozen ts s' (by simp [h1, h2]), h1, gate_append_of_noTerm _ _ hc]; simp [gate, h2]
    cases t with
    | zero =>
      rcases src with _ | ⟨_ | _ | _, r⟩
      · exact ih _ rfl rfl hc
      · exact (ih ⟨false, r, sig, false, calls ++ [_]⟩ rfl rfl (by simp [hc])).trans (List.append_assoc ..)
      · exact hend _ _ rfl rfl
      · exact hend _ _ rfl rfl
    | succ k =>
      rcases sig with _ | ⟨_ | _ | _, r⟩
      · exact ih _ rfl rfl hc
      · exact hend _ _ rfl rfl
      · exact ih ⟨false, src, r, false, calls⟩ rfl rfl hc
      · exact ih ⟨false, src, r, false, calls⟩ rfl rfl hc

/-! ### a compatible arrival order is heard as it is -/

theorem gate_of_prefix_gate (s l : List (Notif α)) (h : l <+: gate s) : gate l = l := by
  obtain ⟨t, ht⟩ := h
  cases t with
  | nil => rw [List.append_nil] at ht; rw [ht, gate_idem]
  | cons x t => exact gate_of_noTerm l (noTerm_of_prefix_gate ht)

theorem gateEventsFrom_fixed (evs : List (MEvent α)) (cl : Nat → Bool)
    (hg : ∀ k, gate (Spec.ofSource k evs) = Spec.ofSource k evs)
    (hcl : ∀ k, cl k = true → Spec.ofSource k evs = []) :
    Spec.gateEventsFrom cl evs = evs := by
  induction evs generalizing cl with
  | nil => rfl
  | cons e es ih =>
    obtain ⟨j, x⟩ := e
    have hj : cl j = false := by
      cases h : cl j with
      | false => rfl
      | true => have := hcl j h; simp [Spec.ofSource] at this
    have hgj : (if x.isTerminal then [] else gate (Spec.ofSource j es)) = Spec.ofSource j es := by
      have := hg j
      rw [ofSource_cons_same, gate_cons] at this
      exact (List.cons.inj this).2
    simp only [Spec.gateEventsFrom, hj, Bool.false_eq_true, if_false]
    congr 1
    apply ih
    · intro k
      by_cases hk : k = j
      · subst hk
        rw [← hgj]
        split
        · rfl
        · exact gate_idem _
      · have := hg k
        rw [ofSource_cons_other k j x es (fun h => hk h.symm)] at this
        exact this
    · intro k hk
      by_cases hkj : k = j
      · subst hkj
        cases hx : x.isTerminal <;> simp only [hx, if_true, if_false, Bool.false_eq_true] at hk hgj
        · rw [hj] at hk; cases hk
        · exact hgj.symm
      · have hck : cl k = true := by
          split at hk
          · rw [setAt_other _ _ hkj] at hk; exact hk
          · exact hk
        have := hcl k hck
        rw [ofSource_cons_other k j x es (fun h => hkj h.symm)] at this
        exact this

theorem restrict_all (p : Nat → Bool) (evs : List (MEvent α)) (h : ∀ e ∈ evs, p e.1 = true) :
    Spec.restrict p evs = evs := by
  unfold Spec.restrict
  exact List.filter_eq_self.2 h

/-- **TakeUntil under true concurrency (repaired code)**: every schedule of atomic actions delivers the
    definition's output for SOME arrival order compatible with each source's own order. -/
theorem takeUntilMicro_arrival (source signal : List (Notif α)) (sched : List Nat)
    (cfg : Sources α) (hhot : ∀ k, cfg.sync k = false) (sub : Ctx) :
    ∃ evs : List (MEvent α),
      (∀ e ∈ evs, e.1 < 2) ∧
      Spec.ofSource 0 evs <+: gate source ∧ Spec.ofSource 1 evs <+: gate signal ∧
      takeUntilMicro source signal sched = Spec.takeUntil false evs ∧
      takeUntilMicro source signal sched = (feedAll takeUntilM cfg (bootSt takeUntilM cfg sub) evs).out := by
  let s0 : St α := { src := gate source, sig := gate signal }
  refine ⟨arrival s0 sched, ?_, arrival_prefix 0 (·.src) step_src sched s0, arrival_prefix 1 sigRest step_sig sched s0, ?_, ?_⟩
  · intro e he
    have := arrival_two sched s0 e he
    simpa [two] using this
  · have := micro_main sched s0 rfl rfl rfl
    simpa [takeUntilMicro, s0] using this
  · have hm := micro_main sched s0 rfl rfl rfl
    rw [Ro.Multi.takeUntil_impl cfg hhot sub]
    have hheard : heard2 (arrival s0 sched) = arrival s0 sched := by
      unfold heard2 Spec.gateEvents
      rw [restrict_all two _ (arrival_two sched s0)]
      apply gateEventsFrom_fixed
      · intro k
        by_cases h0 : k = 0
        · subst h0; exact gate_of_prefix_gate source _ (arrival_prefix 0 (·.src) step_src sched s0)
        · by_cases h1 : k = 1
          · subst h1; exact gate_of_prefix_gate signal _ (arrival_prefix 1 sigRest step_sig sched s0)
          · have : Spec.ofSource k (arrival s0 sched) = [] := by
              unfold Spec.ofSource
              rw [List.filter_eq_nil_iff.2]; rfl
              intro e he
              have := arrival_two sched s0 e he
              simp [two] at this ⊢
              omega
            rw [this]; rfl
      · intro k hk; simp at hk
    rw [hheard]
    simpa [takeUntilMicro, s0] using hm

end Ro.Multi.Micro
