/-
  RoProofs.TimedTimeout — Timeout raises its error only after a full quiet period, measured from the
  end of the last forwarded `Next` (the subscription at first), and never after a forwarded terminal —
  for every interleaving of source calls, timer expiries and (possibly much later) callback runs.
-/
import RoProofs.TimedBasic
namespace Ro.Timed

/-- list-level versions of `endBefore` / `startOf` -/
def endB (sub : Time) (A : List Ev) : Nat → Time
  | 0 => sub
  | j + 1 => match A[j]? with
    | some e => e.t1
    | none => 0

def startB (A : List Ev) (j : Nat) : Time :=
  match A[j]? with
  | some e => e.t0
  | none => 0

/-- a full quiet period before attempt `j` -/
def Quiet (d : Nat) (sub : Time) (A : List Ev) (j : Nat) : Prop := endB sub A j + d ≤ startB A j

theorem endB_append (sub : Time) (A B : List Ev) (j : Nat) (h : j ≤ A.length) : endB sub (A ++ B) j = endB sub A j := by
  cases j with
  | zero => rfl
  | succ j => simp only [endB]; rw [List.getElem?_append_left (by omega)]

theorem startB_append (A B : List Ev) (j : Nat) (h : j < A.length) : startB (A ++ B) j = startB A j := by
  simp only [startB]; rw [List.getElem?_append_left h]

theorem quiet_append {d : Nat} {sub : Time} {A : List Ev} (B : List Ev) {j : Nat} (hj : j < A.length)
    (h : Quiet d sub A j) : Quiet d sub (A ++ B) j := by
  unfold Quiet at *
  rw [endB_append sub A B j (by omega), startB_append A B j hj]; exact h

theorem startB_last (A : List Ev) (e : Ev) : startB (A ++ [e]) A.length = e.t0 := by
  simp [startB]

theorem endB_last (sub : Time) (A : List Ev) (e : Ev) : endB sub (A ++ [e]) (A.length + 1) = e.t1 := by
  simp [endB]

theorem getElem?_append_cases {α : Type} (A : List α) (x : α) (k : Nat) (y : α)
    (h : (A ++ [x])[k]? = some y) : (k < A.length ∧ A[k]? = some y) ∨ (k = A.length ∧ y = x) := by
  rcases Nat.lt_trichotomy k A.length with hlt | heq | hgt
  · left; rw [List.getElem?_append_left hlt] at h; exact ⟨hlt, h⟩
  · right; subst heq; simp at h; exact ⟨rfl, h.symm⟩
  · rw [List.getElem?_eq_none (by simp; omega)] at h; cases h

/-- what went downstream (`A`) against what the source sent (`E`): forwarded notifications are the
    source's, in order; a timeout error is preceded by a full quiet period -/
structure ToOut (d : Nat) (sub : Time) (A E : List Ev) : Prop where
  fwd : ∀ (k : Nat) (dl : Ev), A[k]? = some dl → dl.n ≠ TN.error errTimeout →
    ∃ e : Ev, E[k]? = some e ∧ dl.n = e.n ∧ e.t0 ≤ dl.t0
  tmo : ∀ (k : Nat) (dl : Ev), A[k]? = some dl → dl.n = TN.error errTimeout → ∃ j, j < k + 1 ∧ Quiet d sub A j

theorem ToOut.emit {d : Nat} {sub : Time} {A E : List Ev} (h : ToOut d sub A E) (e : Ev) :
    ToOut d sub A (E ++ [e]) :=
  ⟨fun k dl hk hn =>
    let ⟨e', he', h'⟩ := h.fwd k dl hk hn
    ⟨e', prefix_getElem? (List.prefix_append _ _) he', h'⟩, h.tmo⟩

theorem ToOut.push {d : Nat} {sub : Time} {A E : List Ev} (h : ToOut d sub A E) (x : Ev)
    (hf : x.n ≠ TN.error errTimeout → ∃ e : Ev, E[A.length]? = some e ∧ x.n = e.n ∧ e.t0 ≤ x.t0)
    (hq : x.n = TN.error errTimeout → ∃ j, j < A.length + 1 ∧ Quiet d sub (A ++ [x]) j) :
    ToOut d sub (A ++ [x]) E := by
  refine ⟨fun k dl hk hn => ?_, fun k dl hk hn => ?_⟩ <;>
    rcases getElem?_append_cases _ _ k dl hk with ⟨hlt, hk'⟩ | ⟨rfl, rfl⟩
  · exact h.fwd k dl hk' hn
  · exact hf hn
  · obtain ⟨j, hj, hq⟩ := h.tmo k dl hk' hn
    exact ⟨j, hj, quiet_append _ (by omega) hq⟩
  · exact hq hn

/-- while no terminal has gone downstream: every source call so far was forwarded, and the clock
    and the timer are past the end of the last forwarded `Next`; a started callback has seen a full
    quiet period, already in the attempts or still running since the last of them -/
structure ToLive (d : Nat) (sub : Time) (s : ToSt) : Prop where
  nonterm : ∀ e ∈ s.attempts, e.n.isTerminal = false
  opn : s.attempts.length = s.emits.length
  armedOK : ∀ a, s.armed = some a → endB sub s.attempts s.attempts.length ≤ a
  nowOK : endB sub s.attempts s.attempts.length ≤ s.now
  infl : 0 < s.inflight →
    (∃ j, j < s.attempts.length ∧ Quiet d sub s.attempts j) ∨ endB sub s.attempts s.attempts.length + d ≤ s.now

structure ToInv (d : Nat) (sub : Time) (s : ToSt) : Prop where
  out : ToOut d sub s.attempts s.emits
  gram : TermLast s.attempts
  live : s.closed = false → ToLive d sub s

theorem toInv_init (d : Nat) (sub : Time) : ToInv d sub (toInit sub) :=
  ⟨⟨by simp [toInit], by simp [toInit]⟩, by simp [toInit, TermLast], fun _ =>
    ⟨by simp [toInit], rfl, by simp [toInit, endB], by simp [toInit, endB], by simp [toInit]⟩⟩

theorem termLast_push {A : List Ev} (h : ∀ e ∈ A, e.n.isTerminal = false) (x : Ev) : TermLast (A ++ [x]) := by
  intro k e hk ht
  rcases getElem?_append_cases _ _ k e hk with ⟨_, hk'⟩ | ⟨rfl, _⟩
  · rw [h e (List.mem_of_getElem? hk')] at ht; cases ht
  · simp

/-- a full quiet period for the attempt made now, from what a started callback has seen -/
theorem ToLive.quiet_push {d : Nat} {sub : Time} {s : ToSt} (hl : ToLive d sub s) (hpos : 0 < s.inflight)
    (x : Ev) (hx : s.now ≤ x.t0) : ∃ j, j < s.attempts.length + 1 ∧ Quiet d sub (s.attempts ++ [x]) j := by
  rcases hl.infl hpos with ⟨j, hj, hq⟩ | hq
  · exact ⟨j, by omega, quiet_append _ hj hq⟩
  · refine ⟨s.attempts.length, by omega, ?_⟩
    unfold Quiet
    rw [endB_append sub _ _ _ (Nat.le_refl _), startB_last]
    omega

theorem toInv_step {d : Nat} {sub : Time} {s s' : ToSt} {ev : ToEv}
    (hinv : ToInv d sub s) (hstep : toStep d s ev = some s') : ToInv d sub s' := by
  cases ev with
  | next v t0 t1 tr =>
    simp only [toStep] at hstep
    split at hstep
    next hc =>
      obtain ⟨h0, h1, h2⟩ := hc
      cases hstep
      cases hcl : s.closed with
      | true => exact ⟨hinv.out.emit _, hinv.gram, nofun⟩
      | false =>
        have hl := hinv.live hcl
        simp only [Bool.false_eq_true, if_false]
        refine ⟨(hinv.out.emit _).push _ (fun _ => ⟨⟨t0, tr, .next v⟩, by simp [hl.opn], rfl, Nat.le_refl _⟩)
          (fun h => by cases h), termLast_push hl.nonterm _, fun _ => ⟨?_, by simp [hl.opn], ?_, ?_, ?_⟩⟩
        · intro e he
          rcases List.mem_append.1 he with he | he
          · exact hl.nonterm e he
          · cases List.mem_singleton.1 he; rfl
        · intro a ha
          cases ha
          rw [List.length_append, List.length_singleton, endB_last]; exact h2
        · rw [List.length_append, List.length_singleton, endB_last]; exact h2
        · intro hpos
          obtain ⟨j, hj, hq⟩ := hl.quiet_push hpos ⟨t0, t1, .next v⟩ h0
          exact .inl ⟨j, by simpa using hj, hq⟩
    next => cases hstep
  | term n t =>
    simp only [toStep] at hstep
    split at hstep
    next hc =>
      obtain ⟨h0, hterm, hne⟩ := hc
      cases hstep
      cases hcl : s.closed with
      | true => exact ⟨hinv.out.emit _, hinv.gram, nofun⟩
      | false =>
        have hl := hinv.live hcl
        simp only [Bool.false_eq_true, if_false]
        exact ⟨(hinv.out.emit _).push _ (fun _ => ⟨_, by simp [hl.opn], rfl, Nat.le_refl _⟩)
          (fun h => absurd h hne), termLast_push hl.nonterm _, nofun⟩
    next => cases hstep
  | fire t =>
    simp only [toStep] at hstep
    split at hstep
    next a ha =>
      split at hstep
      next hc =>
        obtain ⟨h0, hf⟩ := hc
        cases hstep
        refine ⟨hinv.out, hinv.gram, fun hcl => ?_⟩
        have hl := hinv.live hcl
        have := hl.nowOK
        have := hl.armedOK a ha
        exact ⟨hl.nonterm, hl.opn, by simp, by simp only; omega, fun _ => .inr (by simp only; omega)⟩
      next => cases hstep
    next => cases hstep
  | raise t =>
    simp only [toStep] at hstep
    split at hstep
    next hc =>
      obtain ⟨h0, hpos⟩ := hc
      cases hstep
      cases hcl : s.closed with
      | true => exact ⟨hinv.out, hinv.gram, nofun⟩
      | false =>
        have hl := hinv.live hcl
        simp only [Bool.false_eq_true, if_false]
        exact ⟨hinv.out.push _ (fun h => absurd rfl h) (fun _ => hl.quiet_push hpos _ h0),
          termLast_push hl.nonterm _, nofun⟩
    next => cases hstep

theorem toInv_run {d : Nat} {sub : Time} : ∀ (evs : List ToEv) (s s' : ToSt),
    ToInv d sub s → toRunFrom d s evs = some s' → ToInv d sub s'
  | [], s, s', hinv, h => by cases h; exact hinv
  | e :: es, s, s', hinv, h => by
    simp only [toRunFrom] at h
    split at h
    next s1 hs1 => exact toInv_run es s1 s' (toInv_step hinv hs1) h
    next => cases h

theorem endB_prefix {sub : Time} {P A : List Ev} (h : P <+: A) {j : Nat} (hj : j ≤ P.length) : endB sub P j = endB sub A j := by
  obtain ⟨t, rfl⟩ := h
  exact (endB_append sub P t j hj).symm

theorem startB_prefix {P A : List Ev} (h : P <+: A) {j : Nat} (hj : j < P.length) : startB P j = startB A j := by
  obtain ⟨t, rfl⟩ := h
  exact (startB_append P t j hj).symm

theorem endBefore_eq_endB (tr : TimedTrace) (j : Nat) : endBefore tr j = endB tr.sub tr.dels j := by
  cases j <;> rfl

/-- **Timeout soundness**: every run of the model — every interleaving, timers as late as the
    environment likes but never early — satisfies the clause of C16: forwarded notifications are the
    source's, in order; a timeout error is preceded by a full quiet period (measured from the END of
    the previous forwarded `Next`, or from the subscription); nothing follows a terminal. -/
theorem timeout_model_clause (r : ToRun) (tr : TimedTrace) (htr : toTrace r = some tr) :
    Clause { op := .timeout, d := r.d } tr := by
  unfold toTrace at htr
  simp only [Option.map_eq_some_iff] at htr
  obtain ⟨s, hs, rfl⟩ := htr
  have hinv := toInv_run r.evs _ s (toInv_init r.d r.sub) hs
  have hpre := cutAt_prefix r.unsub s.attempts
  refine ⟨(hinv.gram.prefix hpre).grammarOK, silentOK_cut _ r.unsub _ rfl rfl, opOK_of_getElem? _ _ fun k dl hk => ?_⟩
  have hlt : k < (cutAt r.unsub s.attempts).length := (List.getElem?_eq_some_iff.1 hk).1
  have hA : s.attempts[k]? = some dl := prefix_getElem? hpre hk
  show TimeoutAt r.d _ k dl
  unfold TimeoutAt
  split
  next hto =>
    obtain ⟨j, hj, hq⟩ := hinv.out.tmo k dl hA hto
    refine ⟨j, hj, ?_⟩
    rw [endBefore_eq_endB]
    show endB r.sub (cutAt r.unsub s.attempts) j + r.d ≤ startB (cutAt r.unsub s.attempts) j
    rw [endB_prefix hpre (by omega), startB_prefix hpre (by omega)]
    exact hq
  next hnto =>
    obtain ⟨e, he, hn, ht⟩ := hinv.out.fwd k dl hA hnto
    show match s.emits[k]? with | some e => dl.n = e.n ∧ e.t0 ≤ dl.t0 | none => False
    rw [he]; exact ⟨hn, ht⟩

/-- never after a forwarded terminal: once the source's terminal went downstream, a timeout callback
    that had already started changes nothing -/
theorem timeout_never_after_terminal (r : ToRun) (tr : TimedTrace) (htr : toTrace r = some tr) :
    ∀ (k : Nat) (h : k < tr.dels.length), tr.dels[k].n.isTerminal = true → k + 1 = tr.dels.length :=
  (timeout_model_clause r tr htr).1

-- non-vacuity. d = 5: value forwarded over [1,2], timer re-armed at 2, expires at 7, callback starts;
-- a value arrives at 8 (Stop comes too late) and is forwarded; the callback raises at 9.
example : (toTrace { d := 5, sub := 0, evs := [.next 1 1 2 2, .fire 7, .next 2 8 8 8, .raise 9], unsub := none }).map (·.dels)
    = some [⟨1, 2, .next 1⟩, ⟨8, 8, .next 2⟩, Ev.at 9 (.error errTimeout)] := by decide
-- the same run: quiet period is the one between the end of delivery 0 (2) and the start of delivery 1 (8)
example : ∃ tr, toTrace { d := 5, sub := 0, evs := [.next 1 1 2 2, .fire 7, .next 2 8 8 8, .raise 9], unsub := none } = some tr
    ∧ Clause { op := .timeout, d := 5 } tr := ⟨_, rfl, by decide⟩
-- an expiry before the quiet period is over is not a possible run
example : toTrace { d := 5, sub := 0, evs := [.next 1 1 2 2, .fire 6], unsub := none } = none := by decide
-- what re-arming BEFORE forwarding would produce (slow consumer over [1,9], error right after) is rejected
example : ¬ Clause { op := .timeout, d := 5 }
    { sub := 0, emits := [⟨1, 9, .next 1⟩], dels := [⟨1, 9, .next 1⟩, Ev.at 9 (.error errTimeout)], cut := .none } := by decide

end Ro.Timed
