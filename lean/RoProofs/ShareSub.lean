/-
  RoProofs.ShareSub — the `sub` event of RoModel.Share preserves `Inv`: joining a live generation,
  meeting a latched one, and creating a generation (R1, R2, R3 with a synchronous prefix, including
  a terminal in the prefix that resets the generation before `r3tail` adds the proxy to its
  `sourceSubscription`, which is done by then).
-/
import RoProofs.ShareInv
namespace Ro.Share
attribute [local simp] St.modGen_eq St.modSub_eq St.drop ite_else_same

/-! ### what the connector hands to a new subscriber -/

theorem deliver_nil (i : Nat) (u : St) : (u.modSub i fun d => { d with trace := d.trace ++ [] }) = u := by
  simp only [St.modSub, List.append_nil]
  show ({ u with subs := _ } : St) = u
  have : (fun k => if k = i then u.subs k else u.subs k) = u.subs := by funext k; split <;> rfl
  rw [this]

/-- delivering values to one open subscriber: only its trace grows -/
theorem foldl_dNext_self (i : Nat) (vs : List Int) (u : St) (h0 : (u.subs i).status = 0) :
    vs.foldl (fun s v => dNext i v s) u = u.modSub i fun d => { d with trace := d.trace ++ vs.map Ev.next } := by
  induction vs generalizing u with
  | nil => exact (deliver_nil i u).symm
  | cons v vs ih =>
    have h1 : dNext i v u = u.modSub i fun d => { d with trace := d.trace ++ [Ev.next v] } := by
      simp [dNext, h0]
    rw [List.foldl_cons, h1, ih _ (by simp [h0])]
    simp

/-- what the connector of generation `g` hands to the open subscriber `i` before registering it -/
theorem subjLast_replay (conn : Conn) (g i : Nat) (u : St) (h0 : (u.subs i).status = 0) :
    subjLast conn g i (subjReplay conn g i u) =
      u.modSub i fun d => { d with trace := d.trace ++ Spec.joined conn (u.gens g).subj } := by
  cases conn with
  | publish => exact (deliver_nil i u).symm
  | behavior init => simp [subjLast, subjReplay, dNext, h0, Spec.joined]
  | replay n => exact foldl_dNext_self i _ u h0
  | replayAll => exact foldl_dNext_self i _ u h0

/-- the open connector subject of generation `g` serves the new, still open subscriber `i`: it hands
    out `Spec.joined`, stores the observer and registers the deletion of its entry -/
theorem subjSubscribe_open (cfg : Cfg) {g i : Nat} {u : St} (h0 : (u.subs i).status = 0) (hd : (u.subs i).done = false)
    (ho : (u.gens g).subj.status = .open) :
    subjSubscribe cfg g i u =
      { u with subs := fun k => if k = i then { (u.subs i) with trace := (u.subs i).trace ++ Spec.joined cfg.conn (u.gens g).subj, delFin := some g } else u.subs k,
               gens := fun k => if k = g then { (u.gens g) with subj := { (u.gens g).subj with obs := (u.gens g).subj.obs ++ [i] } } else u.gens k } := by
  have hR := subjReplay_sim cfg.conn g i u
  unfold subjSubscribe
  rw [hR.gStatus, ho]
  simp only []
  rw [subjLast_replay cfg.conn g i u h0]
  simp [subjRegister, hd]

/-! ### a new subscriber joins the current generation -/

/-- the state after a subscriber joined the live generation `g` and was handed `tr` -/
def joinState (tr : List Ev) (g : Nat) (s : St) : St :=
  { s with refCount := s.refCount + 1, nsubs := s.nsubs + 1,
           subs := fun k => if k = s.nsubs then { status := 0, trace := tr, done := false, delFin := some g, tearFin := some g } else s.subs k,
           gens := fun k => if k = g then { (s.gens g) with subj := { (s.gens g).subj with obs := (s.gens g).subj.obs ++ [s.nsubs] } } else s.gens k }

theorem inv_joinState (tr : List Ev) {P : Pend} {s : St} {g : Nat} (hi : Inv P s) (hsub : s.subject = some g) (ha : GenActive P s g) :
    Inv P (joinState tr g s) ∧ GenActive P (joinState tr g s) g := by
  have hsi : (joinState tr g s).subs s.nsubs = { status := 0, trace := tr, done := false, delFin := some g, tearFin := some g } :=
    if_pos rfl
  have hother : ∀ k, k ≠ s.nsubs → (joinState tr g s).subs k = s.subs k := fun k hk => if_neg hk
  have hgother : ∀ k, k ≠ g → (joinState tr g s).gens k = s.gens k := fun k hk => if_neg hk
  have hlt : ∀ k, k < (joinState tr g s).nsubs → k ≠ s.nsubs → k < s.nsubs :=
    fun k hk hki => Nat.lt_of_le_of_ne (Nat.le_of_lt_succ hk) hki
  have hos : openSubs (joinState tr g s) = openSubs s ++ [s.nsubs] :=
    openSubs_new (s := s) (s' := joinState tr g s) rfl (by rw [hsi]) (fun k hk => by rw [hother k (Nat.ne_of_lt hk)])
  have hact : GenActive P (joinState tr g s) g := by
    refine ha.of_obs (o := (s.gens g).subj.obs ++ [s.nsubs]) (if_pos rfl) rfl rfl (by rw [hos, ha.obs]) (Nat.le_succ _)
      (fun A _ hA => hother A (Nat.ne_of_lt hA)) (fun k hk hks hne => ?_)
    by_cases hki : k = s.nsubs
    · subst hki; rw [hsi]; exact ⟨rfl, rfl, rfl, rfl⟩
    · rw [hother k hki] at hks ⊢
      exact ha.subs k (hlt k hk hki) hks hne
  refine ⟨Inv.of_cur hsub hi.shared (hi.cur g hsub).1 (Or.inl hact) ?_ (fun k hk hkg => ?_) ?_ hi.ugb
    (fun A hA => (hi.uab A hA).1.trans hsub), hact⟩
  · intro k hk hks
    by_cases hki : k = s.nsubs
    · subst hki; rw [hsi] at hks; exact absurd rfl hks
    · rw [hother k hki] at hks ⊢
      exact hi.closed k (hlt k hk hki) hks
  · rw [hgother k hkg]
    exact hi.rest hsub hk hkg
  · rw [hos]
    have := hi.count
    simp [joinState]
    omega

theorem needsNew_iff {P : Pend} {s : St} (hi : Inv P s) : needsNew s = true ↔ s.subject = none := by
  unfold needsNew
  rw [hi.shared]
  cases s.subject <;> simp

theorem r1_join (cfg : Cfg) {s : St} (hnn : needsNew s = false) :
    r1 cfg (newSub s) = { (newSub s) with refCount := s.refCount + 1 } := by
  have hnn' : needsNew (newSub s) = false := hnn
  unfold r1
  rw [if_neg (by simp [hnn'])]
  rfl

theorem subscribe_join_active (cfg : Cfg) {s : St} {g : Nat} (hsub : s.subject = some g) (hss : s.sourceSubscription = some g)
    (ho : (s.gens g).subj.status = .open) :
    subscribe cfg s = joinState (Spec.joined cfg.conn (s.gens g).subj) g s := by
  have hnn : needsNew s = false := by simp [needsNew, hsub, hss]
  simp only [subscribe, hnn, hsub, Option.getD_some, r1_join cfg hnn, Bool.false_eq_true, if_false]
  rw [subjSubscribe_open cfg (by simp [newSub]) (by simp [newSub]) (by exact ho)]
  simp [addTeardown, newSub, joinState]

/-! ### a new subscriber meets a latched (terminated, not reset) generation -/

/-- the state after a subscriber was handed `tr`, stored terminal included, and closed at once -/
def lateState (c : Nat) (tr : List Ev) (s : St) : St :=
  { s with nsubs := s.nsubs + 1,
           subs := fun k => if k = s.nsubs then { status := c, trace := tr, done := true, delFin := none, tearFin := none } else s.subs k }

theorem inv_lateState {P : Pend} {s : St} {g : Nat} {c : Nat} (tr : List Ev) (hc : c ≠ 0) (hi : Inv P s) (hsub : s.subject = some g) (hl : GenLatched P s g) :
    Inv P (lateState c tr s) ∧ GenLatched P (lateState c tr s) g := by
  have hsi : (lateState c tr s).subs s.nsubs = { status := c, trace := tr, done := true, delFin := none, tearFin := none } :=
    if_pos rfl
  have hother : ∀ k, k ≠ s.nsubs → (lateState c tr s).subs k = s.subs k := fun k hk => if_neg hk
  have hos : openSubs (lateState c tr s) = openSubs s :=
    openSubs_new_closed (s := s) (s' := lateState c tr s) rfl (by rw [hsi]; exact hc)
      (fun k hk => by rw [hother k (Nat.ne_of_lt hk)])
  have hlat : GenLatched P (lateState c tr s) g :=
    { pStatus := hl.pStatus, pDone := hl.pDone, pFin := hl.pFin, upSub := hl.upSub, ssDone := hl.ssDone,
      closed := hl.closed, obs := hl.obs, flag := hl.flag, noOpen := by rw [hos]; exact hl.noOpen,
      fin := hl.fin, unf := hl.unf }
  refine ⟨Inv.of_cur hsub hi.shared (hi.cur g hsub).1 (Or.inr hlat) ?_ (fun k hk hkg => hi.rest hsub hk hkg)
    (by rw [hos]; exact hi.count) hi.ugb (fun A hA => (hi.uab A hA).1.trans hsub), hlat⟩
  intro k hk hks
  by_cases hki : k = s.nsubs
  · subst hki; rw [hsi]; exact ⟨hc, rfl, rfl, rfl⟩
  · rw [hother k hki] at hks ⊢
    exact hi.closed k (Nat.lt_of_le_of_ne (Nat.le_of_lt_succ hk) hki) hks

theorem subjReplay_eq (conn : Conn) (g i : Nat) (u : St) (h0 : (u.subs i).status = 0) :
    subjReplay conn g i u = u.modSub i fun d => { d with trace := d.trace ++
      (match conn with | .replay _ | .replayAll => (u.gens g).subj.buf.map Ev.next | _ => []) } := by
  cases conn with
  | publish => exact (deliver_nil i u).symm
  | behavior init => exact (deliver_nil i u).symm
  | replay n => exact foldl_dNext_self i _ u h0
  | replayAll => exact foldl_dNext_self i _ u h0

theorem zeroReset_flag {fl : Flags} {g : Nat} {s : St} (h : s.flagE = true ∨ s.flagC = true) : zeroReset fl g s = s := by
  unfold zeroReset
  rcases h with h | h <;> simp [h]

/-- a subscriber that is served a stored terminal inside the subject's `Subscribe`, and whose
    Share teardown therefore runs as soon as it is `Add`ed; no reset because a flag is latched -/
theorem late_effect (fl : Flags) (i g : Nat) (t : Ev) (u : St)
    (h0 : (u.subs i).status = 0) (hd : (u.subs i).done = false) (hdf : (u.subs i).delFin = none)
    (htf : (u.subs i).tearFin = none) (hflag : u.flagE = true ∨ u.flagC = true) :
    addTeardown fl i g (dTerm fl i t u) =
      { u with subs := fun k => if k = i then { status := t.code, trace := (u.subs i).trace ++ [t], done := true, delFin := none, tearFin := none } else u.subs k,
               refCount := u.refCount - 1 } := by
  have hc := t.code_ne_zero
  have hD : dTerm fl i t u = { u with subs := fun k => if k = i then { status := t.code, trace := (u.subs i).trace ++ [t], done := true, delFin := none, tearFin := none } else u.subs k } := by
    simp [dTerm, dDeliver, h0, dSubnUnsub, hd, hdf, htf, runDel, runTear]
  rw [hD]
  simp only [addTeardown, if_pos]
  simp [teardownT, casClose, hc, decRef]
  rw [zeroReset_flag (by exact hflag)]

theorem subscribe_join_latched (cfg : Cfg) {s : St} {g : Nat} (hsub : s.subject = some g) (hss : s.sourceSubscription = some g)
    (hf : s.flagE = true ∨ s.flagC = true) (hcl : (s.gens g).subj.status ≠ .open) :
    ∃ t, (s.gens g).subj.status.terminal = [t] ∧
      subscribe cfg s = lateState t.code (Spec.late cfg.conn (s.gens g).subj) s := by
  have hnn : needsNew s = false := by simp [needsNew, hsub, hss]
  have key : ∀ t : Ev, (s.gens g).subj.status.terminal = [t] →
      addTeardown cfg.flags s.nsubs g (dTerm cfg.flags s.nsubs t (subjReplay cfg.conn g s.nsubs (r1 cfg (newSub s)))) =
        lateState t.code (Spec.late cfg.conn (s.gens g).subj) s := by
    intro t hterm
    rw [r1_join cfg hnn, subjReplay_eq _ _ _ _ (by simp [newSub]),
      late_effect _ _ _ _ _ (by simp [newSub]) (by simp [newSub]) (by simp [newSub]) (by simp [newSub]) (by exact hf)]
    simp [newSub, lateState, Spec.late, hterm]
    funext k; split <;> simp_all
    cases cfg.conn <;> rfl
  have hR := subjReplay_sim cfg.conn g s.nsubs (r1 cfg (newSub s))
  have hst : ((subjReplay cfg.conn g s.nsubs (r1 cfg (newSub s))).gens g).subj.status = (s.gens g).subj.status := by
    rw [hR.gStatus, r1_join cfg hnn]; rfl
  simp only [subscribe, hnn, hsub, Option.getD_some, Bool.false_eq_true, if_false, subjSubscribe, hst]
  cases h : (s.gens g).subj.status with
  | «open» => exact absurd h hcl
  | errored e => exact ⟨.error e, rfl, key _ (by rw [h]; rfl)⟩
  | completed => exact ⟨.complete, rfl, key _ (by rw [h]; rfl)⟩

/-! ### the first subscriber of a generation: R3 with a synchronous prefix -/

/-- the older generations while generation `g` is being created: all reset, except possibly the
    pending one of an enclosing `Subscribe` (`P`), which has ended but is not torn down yet -/
structure FOuter (P : Pend) (g : Nat) (u : St) : Prop where
  stale : ∀ k, k < g → P.ug ≠ some k → GenStale (u.gens k)
  ended : ∀ k, k < g → P.ug = some k → GenEnded (u.gens k)
  pua : P.ua = none
  pug : ∀ k, P.ug = some k → k < g

theorem FOuter.sim {P : Pend} {g : Nat} {u u' : St} (h : Sim u u') (c : FOuter P g u) : FOuter P g u' :=
  ⟨fun k hk hu => (c.stale k hk hu).sim h, fun k hk hu => (c.ended k hk hu).sim h, c.pua, c.pug⟩

theorem FOuter.frame {P : Pend} {g : Nat} {u u' : St} (c : FOuter P g u) (h : ∀ k, k < g → u'.gens k = u.gens k) : FOuter P g u' :=
  ⟨fun k hk hu => by rw [h k hk]; exact c.stale k hk hu, fun k hk hu => by rw [h k hk]; exact c.ended k hk hu, c.pua, c.pug⟩

/-- common to the three phases of R3 for generation `g` created by subscriber `i` -/
structure FCommon (P : Pend) (g i : Nat) (u : St) : Prop where
  shared : u.sourceSubscription = u.subject
  ngens : u.ngens = g + 1
  nsubs : u.nsubs = i + 1
  stale : FOuter P g u
  closed : ∀ k, k < i → SubClosed (u.subs k)
  count : u.refCount = (1 + P.c : Nat)
  upSub : (u.gens g).upSub = true
  upTorn : (u.gens g).upTorn = false
  pFin : (u.gens g).pFin = false
  ssFins : (u.gens g).ssFins = []
  tearFin : (u.subs i).tearFin = none

/-- the prefix has not terminated: proxy open, the creator registered on the fresh subject -/
structure FLive (P : Pend) (g i : Nat) (u : St) : Prop extends FCommon P g i u where
  subject : u.subject = some g
  flagE : u.flagE = false
  flagC : u.flagC = false
  pStatus : (u.gens g).pStatus = 0
  pDone : (u.gens g).pDone = false
  ssDone : (u.gens g).ssDone = false
  isOpen : (u.gens g).subj.status = Status.open
  obs : (u.gens g).subj.obs = [i]
  status : (u.subs i).status = 0
  done : (u.subs i).done = false
  delFin : (u.subs i).delFin = some g

/-- the prefix terminated and the configuration reset on it: the shared pair is already nil -/
structure FReset (P : Pend) (g i : Nat) (u : St) : Prop extends FCommon P g i u where
  subject : u.subject = none
  flagE : u.flagE = false
  flagC : u.flagC = false
  pStatus : (u.gens g).pStatus ≠ 0
  pDone : (u.gens g).pDone = true
  ssDone : (u.gens g).ssDone = true
  obs : (u.gens g).subj.obs = []
  sub : SubClosed (u.subs i)

/-- the prefix terminated and the configuration does not reset on it -/
structure FLatch (P : Pend) (g i : Nat) (u : St) : Prop extends FCommon P g i u where
  subject : u.subject = some g
  flag : u.flagE = true ∨ u.flagC = true
  pStatus : (u.gens g).pStatus ≠ 0
  pDone : (u.gens g).pDone = true
  ssDone : (u.gens g).ssDone = false
  closedSubj : (u.gens g).subj.status ≠ Status.open
  obs : (u.gens g).subj.obs = []
  sub : SubClosed (u.subs i)

theorem FCommon.sim {P : Pend} {g i : Nat} {u u' : St} (h : Sim u u') (c : FCommon P g i u) : FCommon P g i u' :=
  ⟨h.sourceSubscription.trans (c.shared.trans h.subject.symm), h.ngens.trans c.ngens, h.nsubs.trans c.nsubs, c.stale.sim h,
   fun k hk => (c.closed k hk).sim h, h.refCount.trans c.count, (h.upSub g).trans c.upSub, (h.upTorn g).trans c.upTorn,
   (h.pFin g).trans c.pFin, (h.ssFins g).trans c.ssFins, (h.tearFin i).trans c.tearFin⟩

theorem FLive.sim {P : Pend} {g i : Nat} {u u' : St} (h : Sim u u') (c : FLive P g i u) : FLive P g i u' :=
  ⟨c.toFCommon.sim h, h.subject.trans c.subject, h.flagE.trans c.flagE, h.flagC.trans c.flagC, (h.pStatus g).trans c.pStatus,
   (h.pDone g).trans c.pDone, (h.ssDone g).trans c.ssDone, (h.gStatus g).trans c.isOpen, (h.gObs g).trans c.obs,
   (h.status i).trans c.status, (h.done i).trans c.done, (h.delFin i).trans c.delFin⟩

theorem FReset.sim {P : Pend} {g i : Nat} {u u' : St} (h : Sim u u') (c : FReset P g i u) : FReset P g i u' :=
  ⟨c.toFCommon.sim h, h.subject.trans c.subject, h.flagE.trans c.flagE, h.flagC.trans c.flagC, by rw [h.pStatus]; exact c.pStatus,
   (h.pDone g).trans c.pDone, (h.ssDone g).trans c.ssDone, (h.gObs g).trans c.obs, c.sub.sim h⟩

theorem FLatch.sim {P : Pend} {g i : Nat} {u u' : St} (h : Sim u u') (c : FLatch P g i u) : FLatch P g i u' :=
  ⟨c.toFCommon.sim h, h.subject.trans c.subject, by rw [h.flagE, h.flagC]; exact c.flag, by rw [h.pStatus]; exact c.pStatus,
   (h.pDone g).trans c.pDone, (h.ssDone g).trans c.ssDone, by rw [h.gStatus]; exact c.closedSubj, (h.gObs g).trans c.obs, c.sub.sim h⟩

/-- effect of a terminal that the source plays inside R3, after the proxy's decision: the creator `i`
    (the only observer of the fresh subject) is closed, the subject terminated, the proxy done -/
def syncTermState (t : Ev) (i g : Nat) (u : St) : St :=
  { u with subs := fun k => if k = i then { status := t.code, trace := (u.subs i).trace ++ [t], done := true, delFin := none, tearFin := none } else u.subs k,
           gens := fun k => if k = g then { (u.gens g) with pDone := true, subj := { (u.gens g).subj with status := Status.ofTerminal t, obs := [] } } else u.gens k }

theorem syncTerm (fl : Flags) (t : Ev) {g i : Nat} {u : St} (ho : (u.gens g).subj.status = .open) (hobs : (u.gens g).subj.obs = [i])
    (hu : SubOpenU g (u.subs i)) (hpd : (u.gens g).pDone = false) (hpf : (u.gens g).pFin = false) :
    pSubnUnsub g (subjTerm fl g t u) = syncTermState t i g u := by
  have hobs' : ((u.modGen g fun x => { x with subj := { x.subj with status := Status.ofTerminal t } }).gens g).subj.obs = [i] := by
    simp [hobs]
  unfold subjTerm
  rw [ho]
  simp only [bcastTerm, hobs', List.foldl_cons, List.foldl_nil]
  rw [dTerm_openU fl t (g := g) (by simpa using hu)]
  simp [subjClear, pSubnUnsub, closeStateU, closeState, hpd, hpf, syncTermState, hobs]

/-- a terminal inside the prefix: the proxy closes, resets or latches, the subject closes the creator -/
theorem flive_pTerm_phase (cfg : Cfg) {P : Pend} {g i : Nat} {u : St} (t : Ev) (ht : t.isTerminal = true) (h : FLive P g i u) :
    (cfg.flags.resetsOn t = true ∧ FReset P g i (pTerm cfg g t u)) ∨ (cfg.flags.resetsOn t = false ∧ FLatch P g i (pTerm cfg g t u)) := by
  have hc := t.code_ne_zero
  -- whatever the proxy decided (state `D`; `r`: it reset), the subject then closes the creator
  obtain ⟨D, r, hD, hrr, h1, (h2 : D.ngens = u.ngens), (h3 : D.nsubs = u.nsubs), (h4 : D.refCount = u.refCount),
      (h5 : D.subs = u.subs), h6', h7', h8, h9⟩ :=
    pDecide_closed cfg.flags (g := g) t ht (Or.inr h.ssFins) h.ssDone h.subject (h.shared.trans h.subject)
  have h7 : D.gens g = { (u.gens g) with pStatus := t.code, ssDone := r } := by
    rw [h7']; cases r <;> simp [h.ssFins]
  have e : pTerm cfg g t u = syncTermState t i g D := by
    unfold pTerm
    rw [if_pos h.pStatus, hD]
    exact syncTerm cfg.flags t (by rw [h7]; exact h.isOpen) (by rw [h7]; exact h.obs)
      (by rw [h5]; exact ⟨h.status, h.done, h.delFin, h.tearFin⟩) (by rw [h7]; exact h.pDone) (by rw [h7]; exact h.pFin)
  have hG : (syncTermState t i g D).gens g =
      { (u.gens g) with pStatus := t.code, ssDone := r, pDone := true,
                        subj := { (u.gens g).subj with status := Status.ofTerminal t, obs := [] } } := by
    simp [syncTermState, h7]
  have hsub : SubClosed ((syncTermState t i g D).subs i) := by constructor <;> simp [syncTermState, hc]
  have c : FCommon P g i (syncTermState t i g D) := by
    refine ⟨h1, h2.trans h.ngens, h3.trans h.nsubs, ?_, ?_, h4.trans h.count, ?_, ?_, ?_, ?_, ?_⟩
    · exact h.stale.frame fun k hk => (if_neg (Nat.ne_of_lt hk)).trans (h6' k (Nat.ne_of_lt hk))
    · intro k hk
      rw [show (syncTermState t i g D).subs k = D.subs k from if_neg (Nat.ne_of_lt hk), h5]
      exact h.closed k hk
    · rw [hG]; exact h.upSub
    · rw [hG]; exact h.upTorn
    · rw [hG]; exact h.pFin
    · rw [hG]; exact h.ssFins
    · simp [syncTermState]
  rw [e, ← hrr]
  cases r
  · exact Or.inr ⟨rfl, c, h8, h9, by rw [hG]; exact hc, by rw [hG], by rw [hG], by rw [hG]; exact Status.ofTerminal_ne_open t,
      by rw [hG], hsub⟩
  · exact Or.inl ⟨rfl, c, h8, h9.1.trans h.flagE, h9.2.trans h.flagC, by rw [hG]; exact hc, by rw [hG], by rw [hG], by rw [hG], hsub⟩

/-- once the proxy has ended the rest of the prefix only feeds the drop hook -/
theorem playPre_closed_sim (cfg : Cfg) (g : Nat) (pre : List Ev) {u : St} (h1 : (u.gens g).pStatus ≠ 0) (h2 : (u.gens g).pDone = true) :
    Sim u (playPre cfg g pre u) :=
  foldl_inv (I := Sim u) _ pre (fun _ x _ h =>
    h.trans (pEmit_closed_sim cfg g x (by rw [h.pStatus]; exact h1) (by rw [h.pDone]; exact h2))) (Sim.refl u)

/-- after the prefix: still live, or already reset, or latched -/
theorem playPre_live (cfg : Cfg) {P : Pend} {g i : Nat} (pre : List Ev) {u : St} (h : FLive P g i u) :
    FLive P g i (playPre cfg g pre u) ∨ FReset P g i (playPre cfg g pre u) ∨ FLatch P g i (playPre cfg g pre u) := by
  induction pre generalizing u with
  | nil => exact Or.inl h
  | cons x xs ih =>
    show _ ∨ FReset P g i (playPre cfg g xs (pEmit cfg g x u)) ∨ FLatch P g i (playPre cfg g xs (pEmit cfg g x u))
    have hterm : ∀ t : Ev, t.isTerminal = true → FReset P g i (playPre cfg g xs (pTerm cfg g t u)) ∨
        FLatch P g i (playPre cfg g xs (pTerm cfg g t u)) := by
      intro t ht
      rcases flive_pTerm_phase cfg t ht h with ⟨_, hr⟩ | ⟨_, hl⟩
      · exact Or.inl (hr.sim (playPre_closed_sim cfg g xs hr.pStatus hr.pDone))
      · exact Or.inr (hl.sim (playPre_closed_sim cfg g xs hl.pStatus hl.pDone))
    cases x with
    | next v => exact ih (h.sim (pNext_sim cfg g v u))
    | error e => exact Or.inr (hterm (.error e) rfl)
    | complete => exact Or.inr (hterm .complete rfl)

theorem openSubs_single {s : St} {i : Nat} (hn : s.nsubs = i + 1) (hcl : ∀ k, k < i → (s.subs k).status ≠ 0)
    (hi : (s.subs i).status = 0) : openSubs s = [i] := by
  unfold openSubs
  rw [hn, List.range_succ, List.filter_append]
  have : List.filter (fun i => decide ((s.subs i).status = 0)) (List.range i) = [] := by
    rw [List.filter_eq_nil_iff]
    intro a ha
    simp [hcl a (List.mem_range.mp ha)]
  rw [this]
  simp [hi]

theorem openSubs_none {s : St} {i : Nat} (hn : s.nsubs = i + 1) (hcl : ∀ k, k < i → (s.subs k).status ≠ 0)
    (hi : (s.subs i).status ≠ 0) : openSubs s = [] := by
  apply openSubs_eq_nil.mpr
  intro k hk
  by_cases hki : k = i
  · subst hki; exact hi
  · exact hcl k (by omega)

/-! ### after the prefix: the three ways R3 ends -/

def liveDone (i g : Nat) (u : St) : St :=
  { u with subs := fun k => if k = i then { (u.subs i) with tearFin := some g } else u.subs k,
           gens := fun k => if k = g then { (u.gens g) with pFin := true, ssFins := [g] } else u.gens k }

def latchDone (g : Nat) (u : St) : St :=
  { u with refCount := u.refCount - 1,
           gens := fun k => if k = g then { (u.gens g) with upTorn := true, ssFins := [g] } else u.gens k }

/-- the prefix ended on a terminal the configuration resets on: the local `currentSourceSubscription`
    is already done, so the proxy's `Unsubscribe` is run at once (a no-op: the proxy has ended) and
    Share's teardown is registered as usual — it runs at once and gives the reference back -/
def resetDone (g : Nat) (u : St) : St :=
  { (u.modGen g fun x => { x with upTorn := true }) with refCount := u.refCount - 1 }

theorem resetDone_other {g k : Nat} (u : St) (hk : k ≠ g) : (resetDone g u).gens k = u.gens k :=
  if_neg hk

/-- the teardown that was missing for an ended generation to count as reset -/
theorem resetDone_stale {g : Nat} {u : St} (h : GenEnded (u.gens g)) : GenStale ((resetDone g u).gens g) := by
  constructor <;> simp [resetDone, h.pStatus, h.pDone, h.pFin, h.upSub, h.ssFins, h.ssDone, h.obs]

theorem r3tail_live (fl : Flags) {i g : Nat} {u : St} (h1 : (u.gens g).pDone = false) (h2 : (u.gens g).ssDone = false)
    (h3 : (u.gens g).ssFins = []) (h4 : (u.subs i).done = false) :
    r3tail fl i g (upAddTeardown g u) = liveDone i g u := by
  simp [r3tail, ssAdd, upAddTeardown, addTeardown, liveDone, h1, h2, h3, h4]

theorem r3tail_latch (fl : Flags) {i g : Nat} {u : St} (h1 : (u.gens g).pDone = true) (h2 : (u.gens g).ssDone = false)
    (h3 : (u.gens g).ssFins = []) (hc : SubClosed (u.subs i)) (hf : u.flagE = true ∨ u.flagC = true) :
    r3tail fl i g (upAddTeardown g u) = latchDone g u := by
  have h4 := hc.done
  simp [r3tail, ssAdd, upAddTeardown, addTeardown, teardownT, casClose, decRef, latchDone, h1, h2, h3, h4, hc.status]
  rw [zeroReset_flag (by exact hf)]

theorem r3tail_reset (fl : Flags) {i g : Nat} {u : St} (h1 : (u.gens g).pDone = true) (h2 : (u.gens g).ssDone = true)
    (h3 : (u.gens g).pStatus ≠ 0) (hc : SubClosed (u.subs i)) (hs : u.subject ≠ some g) (hss : u.sourceSubscription ≠ some g) :
    r3tail fl i g (upAddTeardown g u) = resetDone g u := by
  have e1 : upAddTeardown g u = u.modGen g fun x => { x with upTorn := true } := by simp [upAddTeardown, h1]
  rw [e1]
  simp [r3tail, ssAdd, pUnsubscribe, addTeardown, teardownT, casClose, decRef, h2, h3, hc.done, hc.status, resetDone]
  unfold zeroReset
  split
  · apply reset_stale
    · simp
    · exact hs
    · exact hss
  · rfl

/-- the new generation `g` is not the pending one of an enclosing `Subscribe` -/
theorem FOuter.notPending {P : Pend} {g : Nat} {u : St} (c : FOuter P g u) : P.ug ≠ some g :=
  fun h => Nat.lt_irrefl g (c.pug g h)

theorem FOuter.rest {P : Pend} {g k : Nat} {u : St} (c : FOuter P g u) (hk : k < g) :
    (P.ug ≠ some k → GenStale (u.gens k)) ∧ (P.ug = some k → GenEnded (u.gens k) ∧ P.ua = none) :=
  ⟨c.stale k hk, fun hu => ⟨c.ended k hk hu, c.pua⟩⟩

theorem FLive.openSubs {P : Pend} {g i : Nat} {u : St} (h : FLive P g i u) : openSubs u = [i] :=
  openSubs_single h.nsubs (fun k hk => (h.closed k hk).status) h.status

/-- seen from inside R3 the creator is the pending open subscriber of its live, unfinished generation -/
theorem FLive.active {P : Pend} {g i : Nat} {u : St} (h : FLive P g i u) : GenActive ⟨some g, some i⟩ u g where
  pStatus := h.pStatus
  pDone := h.pDone
  upSub := h.upSub
  upTorn := h.upTorn
  ssDone := h.ssDone
  isOpen := h.isOpen
  flagE := h.flagE
  flagC := h.flagC
  obs := by rw [h.openSubs]; exact h.obs
  fin := fun hne => absurd rfl hne
  unf := fun _ => ⟨h.pFin, h.ssFins, i, rfl, by rw [h.nsubs]; omega, ⟨h.status, h.done, h.delFin, h.tearFin⟩⟩
  subs := fun k hk hks hne => by
    have hki : k ≠ i := fun hh => hne (by rw [hh])
    exact absurd hks (h.closed k (by rw [h.nsubs] at hk; omega)).status

theorem FLive.subsClosed {P : Pend} {g i : Nat} {u : St} (h : FLive P g i u) (k : Nat) (hk : k < u.nsubs)
    (hks : (u.subs k).status ≠ 0) : SubClosed (u.subs k) :=
  h.closed k (by have : k ≠ i := fun hh => hks (hh ▸ h.status)
                 rw [h.nsubs] at hk; omega)

/-- R3 ends on the live generation `g`: the upstream teardown, the proxy on the `sourceSubscription`
    and Share's teardown are registered, and the creator `i` stops being pending -/
theorem inv_liveDone {P : Pend} {i g : Nat} {u : St} (ha : GenActive ⟨some g, some i⟩ u g) (hsubj : u.subject = some g)
    (shared : u.sourceSubscription = u.subject) (hg : g < u.ngens)
    (closed : ∀ k, k < u.nsubs → (u.subs k).status ≠ 0 → SubClosed (u.subs k))
    (rest : ∀ k, k < u.ngens → k ≠ g → (P.ug ≠ some k → GenStale (u.gens k)) ∧ (P.ug = some k → GenEnded (u.gens k) ∧ P.ua = none))
    (count : u.refCount = ((openSubs u).length + P.c : Nat)) (ugb : ∀ k, P.ug = some k → k < u.ngens)
    (hnp : P.ug ≠ some g) (pua : P.ua = none) :
    Inv P (liveDone i g u) ∧ GenActive P (liveDone i g u) g := by
  obtain ⟨hpf, hsf, A, hA, hltA, hu⟩ := ha.unf rfl
  cases hA
  generalize hF : liveDone i g u = F
  simp only [liveDone] at hF
  have hsubs : ∀ k, k ≠ i → F.subs k = u.subs k := by intro k hk; rw [← hF]; simp [hk]
  have hgens : ∀ k, k ≠ g → F.gens k = u.gens k := by intro k hk; rw [← hF]; simp [hk]
  have hst : ∀ k, (F.subs k).status = (u.subs k).status := fun k => by
    by_cases hk : k = i
    · subst hk; rw [← hF]; simp
    · rw [hsubs k hk]
  have hos : openSubs F = openSubs u := openSubs_congr (by rw [← hF]) (fun k _ => by rw [hst])
  have hFn : F.nsubs = u.nsubs := by rw [← hF]
  have hFg : F.ngens = u.ngens := by rw [← hF]
  have hgg : F.gens g = { (u.gens g) with pFin := true, ssFins := [g] } := by rw [← hF]; simp
  have hact : GenActive P F g := by
    refine ⟨by rw [hgg]; exact ha.pStatus, by rw [hgg]; exact ha.pDone, by rw [hgg]; exact ha.upSub, by rw [hgg]; exact ha.upTorn,
      by rw [hgg]; exact ha.ssDone, by rw [hgg]; exact ha.isOpen, by rw [← hF]; exact ha.flagE, by rw [← hF]; exact ha.flagC,
      by rw [hgg, hos]; exact ha.obs, fun _ => by rw [hgg]; exact ⟨rfl, rfl⟩, fun he => absurd he hnp, fun k hk hks _ => ?_⟩
    by_cases hki : k = i
    · subst hki
      rw [← hF]
      constructor <;> simp [hu.status, hu.done, hu.delFin]
    · rw [hsubs k hki]
      rw [hst] at hks
      exact ha.subs k (hFn ▸ hk) hks (fun hh => hki (Option.some.inj hh).symm)
  refine ⟨Inv.of_cur (by rw [← hF]; exact hsubj) (by rw [← hF]; exact shared) (hFg ▸ hg) (Or.inl hact) ?_ (fun k hk hkg => ?_) ?_
    (hFg ▸ ugb) (fun A hA => by rw [pua] at hA; cases hA), hact⟩
  · intro k hk hks
    have hki : k ≠ i := fun hh => hks (by rw [hh, hst]; exact hu.status)
    rw [hsubs k hki]
    rw [hst] at hks
    exact closed k (hFn ▸ hk) hks
  · rw [hgens k hkg]
    exact rest k (hFg ▸ hk) hkg
  · rw [hos, ← count, ← hF]

/-- R3 ends on the latched generation `g`: the proxy has ended, so the upstream teardown runs as soon
    as it is registered, and the creator (closed by the terminal) gives its reference back -/
theorem inv_latchDone {P : Pend} {g : Nat} {u : St} (hl : GenLatched ⟨some g, none⟩ u g) (hsubj : u.subject = some g)
    (shared : u.sourceSubscription = u.subject) (hg : g < u.ngens)
    (closed : ∀ k, k < u.nsubs → (u.subs k).status ≠ 0 → SubClosed (u.subs k))
    (rest : ∀ k, k < u.ngens → k ≠ g → (P.ug ≠ some k → GenStale (u.gens k)) ∧ (P.ug = some k → GenEnded (u.gens k) ∧ P.ua = none))
    (count : u.refCount = ((openSubs u).length + P.c + 1 : Nat)) (ugb : ∀ k, P.ug = some k → k < u.ngens)
    (hnp : P.ug ≠ some g) (pua : P.ua = none) :
    Inv P (latchDone g u) ∧ GenLatched P (latchDone g u) g := by
  generalize hF : latchDone g u = F
  simp only [latchDone] at hF
  have hsubs : F.subs = u.subs := by rw [← hF]
  have hgens : ∀ k, k ≠ g → F.gens k = u.gens k := by intro k hk; rw [← hF]; simp [hk]
  have hos : openSubs F = openSubs u := openSubs_congr (by rw [← hF]) (fun k _ => by rw [hsubs])
  have hFn : F.nsubs = u.nsubs := by rw [← hF]
  have hFg : F.ngens = u.ngens := by rw [← hF]
  have hlat : GenLatched P F g := by
    constructor
    case noOpen => rw [hos]; exact hl.noOpen
    case flag => rw [← hF]; exact hl.flag
    case fin => intro _; rw [← hF]; simp
    case unf => intro he; exact absurd he hnp
    all_goals (rw [← hF]; simp [hl.pStatus, hl.pDone, hl.pFin, hl.upSub, hl.ssDone, hl.closed, hl.obs])
  refine ⟨Inv.of_cur (by rw [← hF]; exact hsubj) (by rw [← hF]; exact shared) (hFg ▸ hg) (Or.inr hlat) ?_ (fun k hk hkg => ?_) ?_
    (hFg ▸ ugb) (fun A hA => by rw [pua] at hA; cases hA), hlat⟩
  · rw [hsubs, hFn]; exact closed
  · rw [hgens k hkg]
    exact rest k (hFg ▸ hk) hkg
  · rw [hos]
    have h1 : F.refCount = u.refCount - 1 := by rw [← hF]
    rw [h1, count]; simp

theorem finish_live (fl : Flags) {P : Pend} {g i : Nat} {u : St} (h : FLive P g i u) :
    r3tail fl i g (upAddTeardown g u) = liveDone i g u ∧ Inv P (r3tail fl i g (upAddTeardown g u)) ∧ GenActive P (r3tail fl i g (upAddTeardown g u)) g ∧
      (r3tail fl i g (upAddTeardown g u)).subject = some g := by
  have e := r3tail_live fl h.pDone h.ssDone h.ssFins h.done
  rw [e]
  obtain ⟨h1, h2⟩ := inv_liveDone h.active h.subject h.shared (by rw [h.ngens]; omega) h.subsClosed
    (fun k hk hkg => h.stale.rest (by rw [h.ngens] at hk; omega)) (by rw [h.openSubs, h.count]; rfl)
    (fun k hk => by rw [h.ngens]; exact Nat.lt_succ_of_lt (h.stale.pug k hk)) h.stale.notPending h.stale.pua
  exact ⟨rfl, h1, h2, h.subject⟩

/-- when the creator has been closed, everybody is -/
theorem FCommon.subsClosed {P : Pend} {g i : Nat} {u : St} (c : FCommon P g i u) (hs : SubClosed (u.subs i)) (k : Nat)
    (hk : k < u.nsubs) (_ : (u.subs k).status ≠ 0) : SubClosed (u.subs k) := by
  by_cases hki : k = i
  · subst hki; exact hs
  · exact c.closed k (by rw [c.nsubs] at hk; omega)

theorem FCommon.openSubs_nil {P : Pend} {g i : Nat} {u : St} (c : FCommon P g i u) (hs : SubClosed (u.subs i)) : openSubs u = [] :=
  openSubs_none c.nsubs (fun k hk => (c.closed k hk).status) hs.status

theorem FLatch.latched {P : Pend} {g i : Nat} {u : St} (h : FLatch P g i u) : GenLatched ⟨some g, none⟩ u g :=
  { pStatus := h.pStatus, pDone := h.pDone, pFin := h.pFin, upSub := h.upSub, ssDone := h.ssDone,
    closed := h.closedSubj, obs := h.obs, flag := h.flag, noOpen := h.toFCommon.openSubs_nil h.sub,
    fin := fun hne => absurd rfl hne, unf := fun _ => ⟨h.upTorn, h.ssFins, rfl⟩ }

theorem finish_latch (fl : Flags) {P : Pend} {g i : Nat} {u : St} (h : FLatch P g i u) :
    r3tail fl i g (upAddTeardown g u) = latchDone g u ∧ Inv P (r3tail fl i g (upAddTeardown g u)) ∧ GenLatched P (r3tail fl i g (upAddTeardown g u)) g ∧
      (r3tail fl i g (upAddTeardown g u)).subject = some g := by
  have e := r3tail_latch fl h.pDone h.ssDone h.ssFins h.sub h.flag
  rw [e]
  obtain ⟨h1, h2⟩ := inv_latchDone h.latched h.subject h.shared (by rw [h.ngens]; omega) (h.toFCommon.subsClosed h.sub)
    (fun k hk hkg => h.stale.rest (by rw [h.ngens] at hk; omega)) (by rw [h.toFCommon.openSubs_nil h.sub, h.count]; simp; omega)
    (fun k hk => by rw [h.ngens]; exact Nat.lt_succ_of_lt (h.stale.pug k hk)) h.stale.notPending h.stale.pua
  exact ⟨rfl, h1, h2, h.subject⟩

theorem FReset.ended {P : Pend} {g i : Nat} {u : St} (h : FReset P g i u) : GenEnded (u.gens g) :=
  ⟨h.pStatus, h.pDone, h.pFin, h.upSub, h.upTorn, h.ssFins, h.ssDone, h.obs⟩

theorem finish_reset (fl : Flags) {P : Pend} {g i : Nat} {u : St} (h : FReset P g i u) :
    r3tail fl i g (upAddTeardown g u) = resetDone g u ∧ Inv P (r3tail fl i g (upAddTeardown g u)) ∧
      (r3tail fl i g (upAddTeardown g u)).subject = none := by
  have e := r3tail_reset fl h.pDone h.ssDone h.pStatus h.sub (by rw [h.subject]; simp) (by rw [h.shared, h.subject]; simp)
  rw [e]
  refine ⟨rfl, ?_, h.subject⟩
  refine Inv.of_none h.subject (h.shared.trans h.subject) h.flagE h.flagC (h.toFCommon.openSubs_nil h.sub) (h.toFCommon.subsClosed h.sub) (fun k hk => ?_)
    (by show u.refCount - 1 = _; rw [h.count]; simp; omega)
    (fun k hk => by show k < u.ngens; rw [h.ngens]; exact Nat.lt_succ_of_lt (h.stale.pug k hk)) h.stale.pua
  by_cases hkg : k = g
  · subst hkg
    exact ⟨fun _ => resetDone_stale h.ended, fun hu => absurd hu h.stale.notPending⟩
  · have hk' : k < g := by
      have : k < u.ngens := hk
      rw [h.ngens] at this; omega
    rw [resetDone_other u hkg]
    exact ⟨(h.stale.rest hk').1, fun hu => ((h.stale.rest hk').2 hu).1⟩

/-! ### the creator of a generation enters R3 -/

theorem subjNew_open (conn : Conn) : (Subj.new conn).status = Status.open := by cases conn <;> rfl
theorem subjNew_obs (conn : Conn) : (Subj.new conn).obs = [] := by cases conn <;> rfl

/-- the state in which the creator of generation `s.ngens` enters R3's `source.Subscribe`: R1 and R2
    are done (the fresh connector has served and registered it), the latches are cleared -/
def freshState (conn : Conn) (s : St) : St :=
  { s with refCount := s.refCount + 1, nsubs := s.nsubs + 1, ngens := s.ngens + 1,
           subject := some s.ngens, sourceSubscription := some s.ngens, flagE := false, flagC := false,
           subs := fun k => if k = s.nsubs then { trace := Spec.joined conn (Subj.new conn), delFin := some s.ngens } else s.subs k,
           gens := fun k => if k = s.ngens then { subj := { (Subj.new conn) with obs := [s.nsubs] }, upSub := true, creator := s.nsubs } else s.gens k }

theorem flive_freshState (conn : Conn) {P : Pend} {s : St} (hi : Inv P s) (hsub : s.subject = none) :
    FLive P s.ngens s.nsubs (freshState conn s) := by
  obtain ⟨_, _, hno⟩ := hi.idle hsub
  have hcount := hi.count
  rw [hno] at hcount
  have hua : P.ua = none := by
    cases h : P.ua with
    | none => rfl
    | some A => exact absurd hsub (hi.uab A h).2
  have hgo : ∀ k, k < s.ngens → (freshState conn s).gens k = s.gens k := fun k hk => if_neg (Nat.ne_of_lt hk)
  have hout : FOuter P s.ngens (freshState conn s) := by
    refine ⟨?_, ?_, hua, hi.ugb⟩
    · intro k hk hu
      rw [hgo k hk]
      exact hi.stale k hk (by rw [hsub]; simp) hu
    · intro k hk hu
      rw [hgo k hk]
      exact (hi.ended k hk (by rw [hsub]; simp) hu).1
  refine ⟨⟨rfl, rfl, rfl, hout, ?_, ?_, ?_, ?_, ?_, ?_, ?_⟩, rfl, rfl, rfl, ?_, ?_, ?_, ?_, ?_, ?_, ?_, ?_⟩
  · intro k hk
    rw [show (freshState conn s).subs k = s.subs k from if_neg (Nat.ne_of_lt hk)]
    exact hi.closed k hk (openSubs_eq_nil.mp hno k hk)
  · simp [freshState, hcount]; omega
  all_goals simp [freshState, subjNew_open]

theorem subscribeK_fresh (cfg : Cfg) (k : St → St) {s : St} (hnn : needsNew s = true) :
    ∃ n, subscribeK cfg k s =
      r3tail cfg.flags s.nsubs s.ngens (upAddTeardown s.ngens (k (playPre cfg s.ngens (cfg.pre n) (freshState cfg.conn s)))) := by
  have hnn' : needsNew (newSub s) = true := hnn
  have e1 : r1 cfg (newSub s) =
      { (newSub s) with refCount := s.refCount + 1,
                        gens := (fun k => if k = s.ngens then { subj := Subj.new cfg.conn, creator := s.nsubs } else s.gens k),
                        ngens := s.ngens + 1, subject := some s.ngens, sourceSubscription := some s.ngens } := by
    unfold r1
    rw [if_pos hnn']
    rfl
  have e3 : (({ (subjSubscribe cfg s.ngens s.nsubs (r1 cfg (newSub s))) with flagE := false, flagC := false } : St).modGen s.ngens
      fun x => { x with upSub := true }) = freshState cfg.conn s := by
    rw [subjSubscribe_open cfg (by rw [e1]; simp [newSub]) (by rw [e1]; simp [newSub]) (by rw [e1]; simp [subjNew_open]), e1]
    simp [newSub, freshState, subjNew_obs]
  apply Exists.intro
  unfold subscribeK r3K srcSubscribeK
  rw [if_pos hnn, e3]

/-- how a `sub` event ends, with the invariant: joined the live generation, was served a latched
    terminal, or created a generation whose prefix left it live / reset / latched -/
theorem subscribe_cases (cfg : Cfg) {P : Pend} {s : St} (hi : Inv P s) :
    Inv P (subscribe cfg s) := by
  cases hsub : s.subject with
  | none =>
    obtain ⟨n, he⟩ := subscribeK_fresh cfg id ((needsNew_iff hi).mpr hsub)
    rw [← subscribeK_id, he]
    rcases playPre_live cfg (cfg.pre n) (flive_freshState cfg.conn hi hsub) with h | h | h
    · exact (finish_live cfg.flags h).2.1
    · exact (finish_reset cfg.flags h).2.1
    · exact (finish_latch cfg.flags h).2.1
  | some g =>
    have hss : s.sourceSubscription = some g := by rw [hi.shared]; exact hsub
    rcases (hi.cur g hsub).2 with ha | hl
    · rw [subscribe_join_active cfg hsub hss ha.isOpen]
      exact (inv_joinState _ hi hsub ha).1
    · obtain ⟨t, _, he⟩ := subscribe_join_latched cfg hsub hss hl.flag hl.closed
      rw [he]
      exact (inv_lateState _ t.code_ne_zero hi hsub hl).1

/-- a plain event keeps the invariant; a source terminal may close the pending creator -/
theorem inv_step' (cfg : Cfg) {P : Pend} {s : St} (hi : Inv P s) (e : Event) (hself : ∀ A, P.ua = some A → e ≠ .unsub A) :
    Inv P (step cfg s e) ∨ (Inv P.drop (step cfg s e) ∧ openSubs (step cfg s e) = []) := by
  cases e with
  | sub => exact Or.inl (subscribe_cases cfg hi)
  | unsub i =>
    simp only [step]
    split
    next hlt => exact Or.inl (inv_dUnsubscribe cfg.flags hi i hlt (fun h => hself i h rfl))
    next => exact Or.inl hi
  | src x => exact inv_push cfg x hi

theorem inv_step (cfg : Cfg) {s : St} (hi : Inv Pend.idle s) (e : Event) : Inv Pend.idle (step cfg s e) := by
  rcases inv_step' cfg hi e (fun A hA => by simp at hA) with h | ⟨h, _⟩
  · exact h
  · simpa using h

/-- every reachable state satisfies the invariant -/
theorem inv_run (cfg : Cfg) (evs : List Event) : Inv Pend.idle (run cfg evs) :=
  foldl_inv (I := Inv Pend.idle) (step cfg) evs (fun _ e _ hi => inv_step cfg hi e) Inv.init

end Ro.Share
