/-
  RoProofs.CutIn — proofs about RoModel.CutIn, behind RoProps/C06op.lean and RoProps/C03op.lean:
  §1 a simulation between the plain hot run and the run cut during the k-th delivery: the same state
     before the cut, the first k deliveries and both sides closed after it;
  §2 Collect is a function of the gated trace only;
  §3 the finalizer loop, by mutual induction over trees of subscriptions: which teardowns run, what
     escapes, and that assigning panics to teardowns changes neither the order nor the shape.
-/
import RoModel.CutIn
import RoProofs.Release
namespace Ro
variable {σ α β : Type}

/-! ## §1 cut-in -/

/-- the first `k` deliveries are settled once there are `k` of them -/
theorem take_of_prefix {l l' : List β} {k : Nat} (h : l <+: l') (hk : k ≤ l.length) :
    k ≤ l'.length ∧ l'.take k = l.take k := by
  obtain ⟨t, rfl⟩ := h
  exact ⟨by simp; omega, List.take_append_of_le_length hk⟩

/-- the plain run `r` and the cut-in run `r'` while a reaction is in progress: either fewer than
    `k` notifications have been delivered and the two runs are the same state, or the cut has
    happened: the downstream subscriber of `r'` is closed and holds the first `k` deliveries -/
def SimP (k : Nat) (r r' : RunSt σ α β) : Prop :=
  (r.out.length < k ∧ r' = r) ∨ (k ≤ r.out.length ∧ r'.downOpen = false ∧ r'.out = r.out.take k)

/-- … and between two inputs: after the cut the upstream side of `r'` is released too -/
def SimF (k : Nat) (r r' : RunSt σ α β) : Prop :=
  (r.out.length < k ∧ r' = r) ∨
  (k ≤ r.out.length ∧ r'.downOpen = false ∧ r'.upOpen = false ∧ r'.out = r.out.take k)

theorem SimP.push {k : Nat} {r r' : RunSt σ α β} (h : SimP k r r') (n : Notif β) :
    SimP k (r.push n) (r'.pushCutIn k n) := by
  rcases h with ⟨hlt, rfl⟩ | ⟨hle, hd, ho⟩
  · unfold RunSt.push RunSt.pushCutIn
    split
    · -- the delivery that may be the k-th
      by_cases hc : r'.out.length + 1 = k
      · exact .inr ⟨by simp; omega, by simp [hc], (List.take_of_length_le (by simp; omega)).symm⟩
      · exact .inl ⟨by simp; omega, by simp [hc]⟩
    · exact .inl ⟨hlt, rfl⟩
  · have ⟨hle', ht⟩ := take_of_prefix (push_out_prefix r n) hle
    exact .inr ⟨hle', by simp [RunSt.pushCutIn, hd], by simp [RunSt.pushCutIn, hd, ho, ht]⟩

theorem SimP.pushAll {k : Nat} {r r' : RunSt σ α β} (h : SimP k r r') (ns : List (Notif β)) :
    SimP k (r.pushAll ns) (r'.pushAllCutIn k ns) :=
  List.foldl_rel h fun n _ _ _ h => h.push n

theorem SimF.feed {k : Nat} {r r' : RunSt σ α β} (m : Machine σ α β) (h : SimF k r r') (x : Notif α) :
    SimF k (r.feed m .hot x) (r'.feedCutIn m k x) := by
  rcases h with ⟨hlt, rfl⟩ | ⟨hle, hd, hu, ho⟩
  · unfold RunSt.feed RunSt.feedCutIn
    split
    · have hp : SimP k ({ r' with st := (m.step r'.st x).1 } : RunSt σ α β) { r' with st := (m.step r'.st x).1 } :=
        .inl ⟨hlt, rfl⟩
      rcases hp.pushAll (m.step r'.st x).2 with ⟨hlt', heq⟩ | ⟨hle', hd', ho'⟩
      · exact .inl ⟨hlt', by rw [heq]⟩
      · exact .inr ⟨hle', hd', by simp [RunSt.settle, hd'], ho'⟩
    · exact .inl ⟨hlt, rfl⟩
  · have ⟨hle', ht⟩ := take_of_prefix (feed_out_prefix m .hot r x) hle
    exact .inr ⟨hle', by simp [RunSt.feedCutIn, hu, hd], by simp [RunSt.feedCutIn, hu], by
      simp [RunSt.feedCutIn, hu, ho, ht]⟩

theorem SimF.fold {k : Nat} (m : Machine σ α β) (raw : List (Notif α)) {r r' : RunSt σ α β} (h : SimF k r r') :
    SimF k (raw.foldl (RunSt.feed m .hot) r) (raw.foldl (RunSt.feedCutIn m k) r') :=
  List.foldl_rel h fun x _ _ _ h => h.feed m x

theorem start_simP (m : Machine σ α β) (sub : Ctx) {k : Nat} (hk : 0 < k) :
    SimP k (m.start sub) (m.startCutIn sub k) :=
  SimP.pushAll (.inl ⟨hk, rfl⟩) _

theorem SimP.afterSubscribe {k : Nat} {r r' : RunSt σ α β} (h : SimP k r r') :
    SimF k (r.afterSubscribe .hot) (r'.afterSubscribe .hot) := by
  have h1 : (r.afterSubscribe .hot).out = r.out := by unfold RunSt.afterSubscribe; split <;> rfl
  rcases h with ⟨hlt, rfl⟩ | ⟨hle, hd, ho⟩
  · exact .inl ⟨h1 ▸ hlt, rfl⟩
  · exact .inr ⟨h1 ▸ hle, by simp [RunSt.afterSubscribe, hd], by simp [RunSt.afterSubscribe, hd],
      by rw [h1]; simp [RunSt.afterSubscribe, hd, ho]⟩

/-- the simulation holds between the two complete runs -/
theorem runOpCutIn_sim (m : Machine σ α β) (sub : Ctx) (raw : List (Notif α)) {k : Nat} (hk : 0 < k)
    (hs : m.subscribes = true) : SimF k (runOp m .hot sub raw) (runOpCutIn m sub raw k) := by
  unfold runOp runOpCutIn
  simp only [hs, if_true]
  exact SimF.fold m raw (start_simP m sub hk).afterSubscribe

/-- As soon as `k` notifications have been delivered, the downstream subscriber is closed and the
    source has been unsubscribed. -/
theorem runOpCutIn_released (m : Machine σ α β) (sub : Ctx) (raw : List (Notif α)) {k : Nat} (hk : 0 < k)
    (hs : m.subscribes = true) (h : k ≤ (runOp m .hot sub raw).out.length) :
    (runOpCutIn m sub raw k).downOpen = false ∧ (runOpCutIn m sub raw k).upOpen = false := by
  rcases runOpCutIn_sim m sub raw hk hs with ⟨hlt, _⟩ | ⟨_, hd, hu, _⟩
  · omega
  · exact ⟨hd, hu⟩

/-! ## §2 Collect -/

def Ending.ctx : Ending → Option Ctx
  | .never => none
  | .error c _ => some c
  | .complete c => some c

def Ending.err : Ending → Option Err
  | .error _ e => some e
  | _ => none

/-- **Specification of Collect** over a delivered trace: defined when the trace ends; then the
    values in order, the terminal's context, the error if the terminal is an error. -/
def Spec.collect (tr : List (Notif β)) : Option (CollectSt β) :=
  match ending tr with
  | .never => none
  | e => some { values := (values tr).map (·.2), lastCtx := e.ctx, err := e.err }

theorem ending_never_iff (l : List (Notif β)) : ending l = .never ↔ hasTerm l = false := by
  induction l with
  | nil => simp [ending]
  | cons x xs ih => cases x <;> simp [ending, ih]

/-- the observer's locals after a gated trace, from any starting locals -/
theorem fold_on_gate (s : CollectSt β) (l : List (Notif β)) :
    (gate l).foldl CollectSt.on s =
      { values := s.values ++ (values l).map (·.2),
        lastCtx := (ending l).ctx.or s.lastCtx,
        err := (ending l).err.or s.err } := by
  induction l generalizing s with
  | nil => simp [gate, values, ending, Ending.ctx, Ending.err]
  | cons x xs ih => cases x <;> simp [gate, values, ending, CollectSt.on, Ending.ctx, Ending.err, ih]

/-- the run invariant: the downstream subscriber is open exactly while no terminal was delivered -/
def OutInv (r : RunSt σ α β) : Prop := r.downOpen = !hasTerm r.out

theorem OutInv.push {r : RunSt σ α β} (h : OutInv r) (n : Notif β) : OutInv (r.push n) := by
  unfold OutInv RunSt.push at *
  cases hd : r.downOpen <;> simp_all

theorem OutInv.pushAll {r : RunSt σ α β} (h : OutInv r) (ns : List (Notif β)) : OutInv (r.pushAll ns) :=
  List.foldlRecOn (motive := OutInv) ns _ h fun _ h n _ => h.push n

theorem OutInv.feed {r : RunSt σ α β} (m : Machine σ α β) (mode) (h : OutInv r) (x : Notif α) :
    OutInv (r.feed m mode x) := by
  unfold RunSt.feed; split
  · exact OutInv.pushAll (r := { r with st := (m.step r.st x).1 }) h _
  · exact h

theorem runOp_outInv (m : Machine σ α β) (mode : SrcMode) (sub : Ctx) (raw : List (Notif α)) :
    OutInv (runOp m mode sub raw) := by
  have h0 : OutInv (m.start sub) := OutInv.pushAll (r := { st := (m.onSubscribe m.init sub).1 }) rfl _
  unfold runOp
  split
  · refine List.foldlRecOn (motive := OutInv) raw _ ?_ fun _ h x _ => h.feed m mode x
    unfold RunSt.afterSubscribe; split <;> exact h0
  · exact h0

/-- Collect on a run whose delivered trace is a gated list `gate X` is the specification on `X` -/
theorem collect_of_gate (r : RunSt σ α β) (X : List (Notif β)) (hi : OutInv r) (ho : r.out = gate X) :
    collect r = Spec.collect X := by
  unfold collect Spec.collect
  rw [hi, ho, hasTerm_gate, collectFold, fold_on_gate]
  cases he : ending X
  · simp [(ending_never_iff X).1 he]
  all_goals
    have : hasTerm X = true := by
      cases ht : hasTerm X
      · exact absurd ((ending_never_iff X).2 ht) (by simp [he])
      · rfl
    simp [this]

/-! ## §3 finalizers -/

theorem leavesL_append (a b : List TErr) : TErr.leavesL (a ++ b) = TErr.leavesL a ++ TErr.leavesL b := by
  induction a with
  | nil => simp [TErr.leavesL]
  | cons x xs ih => simp [TErr.leavesL, ih, List.append_assoc]

mutual
/-- every teardown of the tree runs, depth first, whatever panics -/
theorem Fin.run_log : ∀ f : Fin, f.closureFree = true → (Fin.run f).1 = Fin.ids f
  | .leaf _ _, _ => rfl
  | .sub fs, h => Fin.loop_log fs h
  | .closure _, h => nomatch h
  | .deferred body rel, h => by simp [Fin.run, Fin.ids, Fin.run_log body h]
theorem Fin.loop_log : ∀ fs : List Fin, Fin.closureFreeL fs = true → (Fin.loop fs).1 = Fin.idsL fs
  | [], _ => rfl
  | f :: fs, h => by
    simp only [Fin.closureFreeL, Bool.and_eq_true] at h
    simp [Fin.loop, Fin.idsL, Fin.run_log f h.1, Fin.loop_log fs h.2]
end

mutual
/-- the root causes of what escapes are the values the panicking teardowns panicked with -/
theorem Fin.run_leaves : ∀ f : Fin, f.closureFree = true → ((Fin.run f).2.map TErr.leaves).getD [] = Fin.panics f
  | .leaf _ p, _ => by cases p <;> simp [Fin.run, Fin.panics, TErr.leaves]
  | .sub fs, h => by
    have := Fin.loop_leaves fs h
    simp only [Fin.run, Fin.panics]
    cases h : (Fin.loop fs).2 <;> rw [h] at this <;> simpa [TErr.leavesL, TErr.leaves] using this
  | .closure _, h => nomatch h
  | .deferred body _, h => Fin.run_leaves body h
theorem Fin.loop_leaves : ∀ fs : List Fin, Fin.closureFreeL fs = true → TErr.leavesL (Fin.loop fs).2 = Fin.panicsL fs
  | [], _ => rfl
  | f :: fs, h => by
    simp only [Fin.closureFreeL, Bool.and_eq_true] at h
    have h1 := Fin.run_leaves f h.1
    simp only [Fin.loop, Fin.panicsL, leavesL_append, Fin.loop_leaves fs h.2, ← h1]
    cases (Fin.run f).2 <;> simp [TErr.leavesL, TErr.leaves]
end

mutual
/-- nothing escapes when nothing panics (closures included) -/
theorem Fin.run_none : ∀ f : Fin, Fin.panics f = [] → (Fin.run f).2 = none
  | .leaf _ p, h => by cases p <;> simp_all [Fin.run, Fin.panics]
  | .sub fs, h => by simp [Fin.run, Fin.loop_nil fs h]
  | .closure fs, h => Fin.seq_none fs h
  | .deferred body _, h => Fin.run_none body h
theorem Fin.loop_nil : ∀ fs : List Fin, Fin.panicsL fs = [] → (Fin.loop fs).2 = []
  | [], _ => rfl
  | f :: fs, h => by
    simp only [Fin.panicsL, List.append_eq_nil_iff] at h
    simp [Fin.loop, Fin.run_none f h.1, Fin.loop_nil fs h.2]
theorem Fin.seq_none : ∀ fs : List Fin, Fin.panicsL fs = [] → (Fin.seq fs).2 = none
  | [] => fun _ => rfl
  | f :: fs => by
    intro h
    simp only [Fin.panicsL, List.append_eq_nil_iff] at h
    simp [Fin.seq, Fin.run_none f h.1, Fin.seq_none fs h.2]
end

mutual
/-- … and then every teardown runs, closures or not -/
theorem Fin.run_log_quiet : ∀ f : Fin, Fin.panics f = [] → (Fin.run f).1 = Fin.ids f
  | .leaf _ _, _ => rfl
  | .sub fs, h => Fin.loop_log_quiet fs h
  | .closure fs, h => Fin.seq_log_quiet fs h
  | .deferred body _, h => by simp [Fin.run, Fin.ids, Fin.run_log_quiet body h]
theorem Fin.loop_log_quiet : ∀ fs : List Fin, Fin.panicsL fs = [] → (Fin.loop fs).1 = Fin.idsL fs
  | [] => fun _ => rfl
  | f :: fs => by
    intro h
    simp only [Fin.panicsL, List.append_eq_nil_iff] at h
    simp [Fin.loop, Fin.idsL, Fin.run_log_quiet f h.1, Fin.loop_log_quiet fs h.2]
theorem Fin.seq_log_quiet : ∀ fs : List Fin, Fin.panicsL fs = [] → (Fin.seq fs).1 = Fin.idsL fs
  | [] => fun _ => rfl
  | f :: fs => by
    intro h
    simp only [Fin.panicsL, List.append_eq_nil_iff] at h
    simp [Fin.seq, Fin.idsL, Fin.run_none f h.1, Fin.run_log_quiet f h.1, Fin.seq_log_quiet fs h.2]
end

/-- every collected error is an unsubscription error -/
theorem Fin.loop_all_un (fs : List Fin) :
    (Fin.loop fs).2.all (fun e => match e with | .un _ => true | _ => false) = true := by
  induction fs with
  | nil => rfl
  | cons f fs ih =>
    simp only [Fin.loop, List.all_append, ih, Bool.and_true]
    cases (Fin.run f).2 <;> simp

/-- the normal form compared with the implementation: the teardowns that ran, in order, and the
    root causes of the raised value -/
def normalize (r : List Nat × Option TErr) : List Nat × Option (List Err) := (r.1, r.2.map TErr.leaves)

mutual
theorem Fin.assign_ids (pan : Nat → Option Err) : ∀ f : Fin, Fin.ids (Fin.assign pan f) = Fin.ids f
  | .leaf _ _ => rfl
  | .sub fs => Fin.assignL_ids pan fs
  | .closure fs => Fin.assignL_ids pan fs
  | .deferred body rel => congrArg (· ++ rel) (Fin.assign_ids pan body)
theorem Fin.assignL_ids (pan : Nat → Option Err) : ∀ fs : List Fin, Fin.idsL (Fin.assignL pan fs) = Fin.idsL fs
  | [] => rfl
  | f :: fs => by simp [Fin.assignL, Fin.idsL, Fin.assign_ids pan f, Fin.assignL_ids pan fs]
end

mutual
theorem Fin.assign_panics (pan : Nat → Option Err) : ∀ f : Fin, Fin.panics (Fin.assign pan f) = (Fin.uids f).filterMap pan
  | .leaf id _ => by cases h : pan id <;> simp [Fin.assign, Fin.panics, Fin.uids, h]
  | .sub fs => Fin.assignL_panics pan fs
  | .closure fs => Fin.assignL_panics pan fs
  | .deferred body _ => Fin.assign_panics pan body
theorem Fin.assignL_panics (pan : Nat → Option Err) : ∀ fs : List Fin, Fin.panicsL (Fin.assignL pan fs) = (Fin.uidsL fs).filterMap pan
  | [] => rfl
  | f :: fs => by simp [Fin.assignL, Fin.panicsL, Fin.uidsL, Fin.assign_panics pan f, Fin.assignL_panics pan fs, List.filterMap_append]
end

mutual
theorem Fin.assign_closureFree (pan : Nat → Option Err) : ∀ f : Fin, (Fin.assign pan f).closureFree = f.closureFree
  | .leaf _ _ => rfl
  | .sub fs => Fin.assignL_closureFree pan fs
  | .closure _ => rfl
  | .deferred body _ => Fin.assign_closureFree pan body
theorem Fin.assignL_closureFree (pan : Nat → Option Err) : ∀ fs : List Fin, Fin.closureFreeL (Fin.assignL pan fs) = Fin.closureFreeL fs
  | [] => rfl
  | f :: fs => by simp [Fin.assignL, Fin.closureFreeL, Fin.assign_closureFree pan f, Fin.assignL_closureFree pan fs]
end

/-- What the `closureFree` hypothesis excludes (before fix 694a874: `detachOn`,
    `ThrowOnContextCancel`; today no modelled set-up): a teardown written as
    `func() { sub.Unsubscribe(); release() }` skips `release` (here: 90) when a teardown below `sub`
    (here: 1) panics. -/
theorem closure_skips_witness :
    (unsubscribe [.closure [.sub [.sub [.leaf 1 (some (.user 5))]], .leaf 90 none]]).1 = [1] ∧
    (unsubscribe [.sub [.sub [.sub [.leaf 1 (some (.user 5))]], .leaf 90 none]]).1 = [1, 90] := by
  constructor <;> rfl

end Ro
