/-
  RoProofs.TimedBasic — the downstream gate on timed attempts: prefix, grammar, silence, and the
  shape every model theorem has (`clause_down`): the deliveries are the gated attempts cut at the
  teardown, so G1 is free, G2 is a count, and the operator's clause is read off the attempts.
-/
import RoModel.Spec.Timed
namespace Ro.Timed

theorem gateT_prefix : ∀ l : List Ev, gateT l <+: l
  | [] => List.prefix_refl _
  | e :: es => by
    unfold gateT
    split
    · exact ⟨es, rfl⟩
    · exact List.cons_prefix_cons.2 ⟨rfl, gateT_prefix es⟩

theorem cutAt_prefix (u : Option Time) (l : List Ev) : cutAt u l <+: l := by
  cases u with
  | none => exact List.prefix_refl _
  | some u => exact List.takeWhile_prefix _

theorem down_prefix (u : Option Time) (l : List Ev) : down u l <+: l :=
  (cutAt_prefix u _).trans (gateT_prefix l)

theorem prefix_getElem? {α : Type} {p l : List α} (h : p <+: l) {k : Nat} {x : α}
    (hx : p[k]? = some x) : l[k]? = some x := by
  obtain ⟨hk, rfl⟩ := List.getElem?_eq_some_iff.1 hx
  exact List.prefix_iff_getElem?.1 h k hk

theorem down_getElem? {u : Option Time} {l : List Ev} {k : Nat} {x : Ev}
    (h : (down u l)[k]? = some x) : l[k]? = some x := prefix_getElem? (down_prefix u l) h

/-- G1 on a list: only the last element can be a terminal -/
def TermLast (l : List Ev) : Prop :=
  ∀ k e, l[k]? = some e → e.n.isTerminal = true → k + 1 = l.length

theorem gateT_termLast : ∀ l : List Ev, TermLast (gateT l)
  | [], _, _, h, _ => by simp [gateT] at h
  | e :: es, k, x, h, ht => by
    by_cases hterm : e.n.isTerminal = true
    · simp only [gateT, hterm, if_true] at h ⊢
      have := (List.getElem?_eq_some_iff.1 h).1
      simp at this ⊢; omega
    · simp only [gateT, hterm] at h ⊢
      cases k with
      | zero => cases h; exact absurd ht hterm
      | succ k => simpa using gateT_termLast es k x h ht

theorem TermLast.prefix {p l : List Ev} (hl : TermLast l) (hp : p <+: l) : TermLast p := by
  intro k e hk ht
  have := hl k e (prefix_getElem? hp hk) ht
  have := hp.length_le
  have := (List.getElem?_eq_some_iff.1 hk).1
  omega

theorem TermLast.grammarOK {tr : TimedTrace} (h : TermLast tr.dels) : GrammarOK tr :=
  fun k hk ht => h k _ (List.getElem?_eq_getElem hk) ht

theorem mem_cutAt_some {u : Time} {l : List Ev} {e : Ev} (h : e ∈ cutAt (some u) l) : e.t0 ≤ u := by
  simpa using List.all_eq_true.1 List.all_takeWhile e h

/-- G2: in a model run nothing is delivered after the instant the teardown took effect -/
theorem silentOK_cut (tr : TimedTrace) (u : Option Time) (l : List Ev) (hd : tr.dels = cutAt u l)
    (hc : tr.cut = cutOf u) : SilentOK tr := by
  unfold SilentOK
  cases u with
  | none => simp [hc, cutOf]
  | some u =>
    have : tr.dels.filter (fun e => decide (u < e.t0)) = [] := by
      rw [List.filter_eq_nil_iff, hd]
      intro e he
      have := mem_cutAt_some he
      simp; omega
    simp [hc, cutOf, this]

theorem silentOK_down (tr : TimedTrace) (u : Option Time) (l : List Ev) (hd : tr.dels = down u l)
    (hc : tr.cut = cutOf u) : SilentOK tr := silentOK_cut tr u (gateT l) hd hc

theorem lateCount_append (c : Time) (a b : List Ev) : lateCount c (a ++ b) = lateCount c a + lateCount c b := by
  simp [lateCount]

theorem lateCount_le_length (c : Time) (l : List Ev) : lateCount c l ≤ l.length := List.length_filter_le _ _

theorem lateCount_mapIdx (c : Time) (l : List Time) (f : Nat → Time → Ev) (hf : ∀ k t, (f k t).t0 = t) :
    lateCount c (l.mapIdx f) = (l.filter (fun t => decide (c < t))).length := by
  induction l generalizing f with
  | nil => rfl
  | cons t l ih =>
    rw [List.mapIdx_cons]
    simp only [lateCount, List.filter_cons, hf 0 t] at ih ⊢
    split <;> simp [ih _ fun k t => hf (k + 1) t]

/-- G2 after a cancellation: the count of deliveries that begin after it -/
theorem silentOK_cancel (tr : TimedTrace) (c0 c1 : Time) (hc : tr.cut = .cancel c0 c1)
    (hn : lateCount c1 tr.dels ≤ cancelSlack + 2) : SilentOK tr := by
  unfold SilentOK; rw [hc]; simp only; omega

theorem silentOK_none (tr : TimedTrace) (hc : tr.cut = .none) : SilentOK tr := by
  unfold SilentOK; rw [hc]; trivial

theorem stopAttempt_length (stop : Option (Time × Time)) : (stopAttempt stop).length ≤ 1 := by
  cases stop <;> simp [stopAttempt]

/-- runs that end by cancellation or by teardown: the attempts are those of the loop, `l`, of which
    at most `cancelSlack` begin after the cancellation, and at most one more, `t` (the completion) -/
theorem silentOK_stopCut (tr : TimedTrace) (stop : Option (Time × Time)) (u : Option Time) (l t : List Ev)
    (hd : tr.dels = down u (l ++ t)) (hc : tr.cut = stopCut stop u) (ht : t.length ≤ 1)
    (hfair : ∀ c x, stop = some (c, x) → lateCount c l ≤ cancelSlack) : SilentOK tr := by
  cases stop with
  | none => exact silentOK_down tr u _ hd (by simpa [stopCut] using hc)
  | some cx =>
    refine silentOK_cancel tr cx.1 cx.1 (by simpa [stopCut] using hc) ?_
    have h1 := hfair cx.1 cx.2 rfl
    have h2 : lateCount cx.1 tr.dels ≤ lateCount cx.1 (l ++ t) := by
      rw [hd]; exact ((down_prefix u _).sublist.filter _).length_le
    have h3 := lateCount_le_length cx.1 t
    rw [lateCount_append] at h2
    omega

theorem cancelledBy_stopCut (tr : TimedTrace) (c x : Time) (u : Option Time)
    (hc : tr.cut = stopCut (some (c, x)) u) (hcx : c ≤ x) : CancelledBy tr x := by
  unfold CancelledBy; rw [hc]; simpa [stopCut] using hcx

theorem stopAttempt_getElem? {stop : Option (Time × Time)} {j : Nat} {dl : Ev}
    (h : (stopAttempt stop)[j]? = some dl) : ∃ c x, stop = some (c, x) ∧ dl = Ev.at x .complete := by
  match stop, j with
  | some (c, x), 0 => exact ⟨c, x, rfl, by simpa [stopAttempt, eq_comm] using h⟩
  | some _, j + 1 => simp [stopAttempt] at h
  | none, _ => simp [stopAttempt] at h

/-- the clause per delivery, through `[k]?` -/
theorem opOK_of_getElem? (cfg : Cfg) (tr : TimedTrace)
    (h : ∀ k dl, tr.dels[k]? = some dl → OpAt cfg tr k dl) : OpOK cfg tr :=
  fun k hk => h k _ (List.getElem?_eq_getElem hk)

theorem Clause.at {cfg : Cfg} {tr : TimedTrace} (h : Clause cfg tr) {k : Nat} {dl : Ev}
    (hk : tr.dels[k]? = some dl) : OpAt cfg tr k dl := by
  obtain ⟨hlt, rfl⟩ := List.getElem?_eq_some_iff.1 hk
  exact h.2.2 k hlt

theorem accepts_iff (cfg : Cfg) (tr : TimedTrace) : accepts cfg tr = true ↔ Clause cfg tr := decide_eq_true_iff

theorem accepts_at {cfg : Cfg} {tr : TimedTrace} (h : accepts cfg tr = true) {k : Nat} {dl : Ev}
    (hk : tr.dels[k]? = some dl) : OpAt cfg tr k dl := ((accepts_iff cfg tr).1 h).at hk

/-- a run whose deliveries are the attempts `l` sent through the gate and cut at the teardown -/
theorem clause_down {cfg : Cfg} {tr : TimedTrace} (u : Option Time) (l : List Ev) (hd : tr.dels = down u l)
    (hs : SilentOK tr) (hop : ∀ k dl, l[k]? = some dl → OpAt cfg tr k dl) : Clause cfg tr := by
  refine ⟨TermLast.grammarOK ?_, hs, opOK_of_getElem? _ _ fun k dl hk => hop k dl ?_⟩
  · rw [hd]; exact (gateT_termLast l).prefix (cutAt_prefix u _)
  · rw [hd] at hk; exact down_getElem? hk

end Ro.Timed
