/-
  RoProofs.ConnectableProofs — the connectable observable (RoModel.Connectable): invariant of the
  links, at most one live upstream subscription, Connect is idempotent while connected, disconnect
  stops delivery, nothing flows before the first Connect.
-/
import RoModel.Connectable
import RoProofs.ShareBasic
namespace Ro.Connectable
open Ro.Share

theorem CSt.modSubj_eq (s : CSt) (j : Nat) (f : Subj → Subj) :
    s.modSubj j f = { s with subjects := fun k => if k = j then f (s.subjects j) else s.subjects k } := by
  simp only [CSt.modSubj]; congr 1; funext k; split <;> simp_all

theorem CSt.modLink_eq (s : CSt) (c : Nat) (f : Link → Link) :
    s.modLink c f = { s with links := fun k => if k = c then f (s.links c) else s.links k } := by
  simp only [CSt.modLink]; congr 1; funext k; split <;> simp_all

theorem CSt.modSub_eq (s : CSt) (i : Nat) (f : CSub → CSub) :
    s.modSub i f = { s with subs := fun k => if k = i then f (s.subs i) else s.subs k } := by
  simp only [CSt.modSub]; congr 1; funext k; split <;> simp_all

attribute [local simp] CSt.modSubj_eq CSt.modLink_eq CSt.modSub_eq CSt.drop ite_else_same

/-! ### what the subjects and the downstream subscribers never touch -/

structure LK (s s' : CSt) : Prop where
  links : s'.links = s.links
  nlinks : s'.nlinks = s.nlinks
  subscription : s'.subscription = s.subscription
  lastRet : s'.lastRet = s.lastRet
  subject : s'.subject = s.subject
  nsubjects : s'.nsubjects = s.nsubjects
  same : s'.same = s.same

theorem LK.refl (s : CSt) : LK s s := ⟨rfl, rfl, rfl, rfl, rfl, rfl, rfl⟩
theorem LK.trans {a b c : CSt} (h1 : LK a b) (h2 : LK b c) : LK a c :=
  ⟨h2.links.trans h1.links, h2.nlinks.trans h1.nlinks, h2.subscription.trans h1.subscription, h2.lastRet.trans h1.lastRet,
   h2.subject.trans h1.subject, h2.nsubjects.trans h1.nsubjects, h2.same.trans h1.same⟩

theorem foldl_lk {α : Type} (f : CSt → α → CSt) (hf : ∀ s a, LK s (f s a)) (l : List α) (s : CSt) : LK s (l.foldl f s) :=
  foldl_rel LK.refl LK.trans f hf l s

theorem dNext_lk (i : Nat) (v : Int) (s : CSt) : LK s (dNext i v s) := by
  unfold dNext; split <;> exact ⟨rfl, rfl, rfl, rfl, rfl, rfl, rfl⟩

theorem dSubnUnsub_lk (i : Nat) (s : CSt) : LK s (dSubnUnsub i s) := by
  unfold dSubnUnsub; split
  · exact LK.refl s
  · unfold runDel; split <;> exact ⟨rfl, rfl, rfl, rfl, rfl, rfl, rfl⟩

theorem dTerm_lk (i : Nat) (t : Ev) (s : CSt) : LK s (dTerm i t s) := by
  have h1 : LK s (dDeliver i t s) := by unfold dDeliver; split <;> exact ⟨rfl, rfl, rfl, rfl, rfl, rfl, rfl⟩
  exact h1.trans (dSubnUnsub_lk i _)

theorem dUnsubscribe_lk (i : Nat) (s : CSt) : LK s (dUnsubscribe i s) := by
  unfold dUnsubscribe; split
  · have h1 : LK s (s.modSub i fun d => { d with status := 2 }) := ⟨rfl, rfl, rfl, rfl, rfl, rfl, rfl⟩
    exact h1.trans (dSubnUnsub_lk i _)
  · exact LK.refl s

theorem subjNext_lk (conn : Conn) (j : Nat) (v : Int) (s : CSt) : LK s (subjNext conn j v s) := by
  unfold subjNext; split
  · have h1 : LK s (subjStore conn j v s) := by cases conn <;> exact ⟨rfl, rfl, rfl, rfl, rfl, rfl, rfl⟩
    have h2 : ∀ u, LK u (bcastNext j v u) := fun u => foldl_lk _ (fun s i => dNext_lk i v s) _ u
    have h3 : ∀ u, LK u (subjBuffer conn j v u) := by
      intro u; cases conn
      · exact LK.refl u
      · exact LK.refl u
      · unfold subjBuffer; simp only []; split <;> exact ⟨rfl, rfl, rfl, rfl, rfl, rfl, rfl⟩
      · exact ⟨rfl, rfl, rfl, rfl, rfl, rfl, rfl⟩
    exact (h1.trans (h2 _)).trans (h3 _)
  · exact ⟨rfl, rfl, rfl, rfl, rfl, rfl, rfl⟩

theorem subjTerm_lk (j : Nat) (t : Ev) (s : CSt) : LK s (subjTerm j t s) := by
  unfold subjTerm; split
  · have h1 : LK s (s.modSubj j fun x => { x with status := Status.ofTerminal t }) := ⟨rfl, rfl, rfl, rfl, rfl, rfl, rfl⟩
    have h2 : ∀ u, LK u (bcastTerm j t u) := fun u => foldl_lk _ (fun s i => dTerm_lk i t s) _ u
    have h3 : ∀ u, LK u (subjClear j u) := fun u => ⟨rfl, rfl, rfl, rfl, rfl, rfl, rfl⟩
    exact (h1.trans (h2 _)).trans (h3 _)
  · exact ⟨rfl, rfl, rfl, rfl, rfl, rfl, rfl⟩

theorem subjSubscribe_lk (conn : Conn) (j i : Nat) (s : CSt) : LK s (subjSubscribe conn j i s) := by
  have hR : LK s (subjReplay conn j i s) := by
    cases conn <;> first | exact LK.refl s | exact foldl_lk _ (fun s v => dNext_lk i v s) _ s
  have hL : ∀ u, LK u (subjLast conn j i u) := by
    intro u; cases conn <;> first | exact LK.refl u | exact dNext_lk i _ u
  have hG : ∀ u, LK u (subjRegister j i u) := by
    intro u; unfold subjRegister; split <;> exact ⟨rfl, rfl, rfl, rfl, rfl, rfl, rfl⟩
  unfold subjSubscribe
  split
  · exact hR.trans (dTerm_lk i _ _)
  · exact hR.trans (dTerm_lk i _ _)
  · exact (hR.trans (hL _)).trans (hG _)

/-- the link of the current connection, upstream live -/
structure LinkOpen (l : Link) : Prop where
  status : l.status = 0
  done : l.done = false
  tdFin : l.tdFin = true
  resetFin : l.resetFin = true
  upTorn : l.upTorn = false

/-- a link whose upstream subscription has been released (disconnect or source terminal) -/
structure LinkClosed (l : Link) : Prop where
  status : l.status ≠ 0
  done : l.done = true
  tdFin : l.tdFin = false
  resetFin : l.resetFin = false
  upTorn : l.upTorn = true

structure CInv (s : CSt) : Prop where
  ret : s.lastRet = s.subscription
  links : ∀ c, c < s.nlinks → LinkClosed (s.links c) ∨ (s.subscription = some c ∧ LinkOpen (s.links c))
  bound : ∀ c, s.subscription = some c → c < s.nlinks

theorem CInv.init (cfg : CCfg) : CInv (CSt.init cfg) := by
  constructor
  · rfl
  · intro c hc; simp [CSt.init] at hc
  · intro c hc; simp [CSt.init] at hc

theorem CInv.lk {s s' : CSt} (hi : CInv s) (h : LK s s') : CInv s' := by
  constructor
  · rw [h.lastRet, h.subscription]; exact hi.ret
  · intro c hc
    rw [h.links, h.subscription]
    exact hi.links c (by rw [← h.nlinks]; exact hc)
  · intro c hc
    rw [h.nlinks]
    exact hi.bound c (by rw [← h.subscription]; exact hc)

theorem CInv.close {s s' : CSt} (hi : CInv s) {c : Nat} (hcl : LinkClosed (s'.links c))
    (hoth : ∀ k, k ≠ c → s'.links k = s.links k) (e2 : s'.nlinks = s.nlinks)
    (e3 : s'.subscription = s.subscription) (e4 : s'.lastRet = s.lastRet) : CInv s' where
  ret := by rw [e4, e3]; exact hi.ret
  links := fun k hk => by
    by_cases hkc : k = c
    · subst hkc; exact Or.inl hcl
    · rw [hoth k hkc, e3]; exact hi.links k (e2 ▸ hk)
  bound := fun k hk => by rw [e2]; exact hi.bound k (e3 ▸ hk)

theorem resetSubject_links (cfg : CCfg) (s : CSt) :
    (resetSubject cfg s).links = s.links ∧ (resetSubject cfg s).nlinks = s.nlinks ∧
    (resetSubject cfg s).subscription = s.subscription ∧ (resetSubject cfg s).lastRet = s.lastRet := by
  unfold resetSubject; split <;> exact ⟨rfl, rfl, rfl, rfl⟩

/-- the first call of the link's `Subscription.Unsubscribe`: both finalizers are unregistered, and
    the probe's teardown has run if it was registered -/
theorem lSubnUnsub_links (cfg : CCfg) (c : Nat) {s : CSt} (h : (s.links c).done = false) :
    (lSubnUnsub cfg c s).links = (fun k => if k = c then { (s.links c) with done := true, tdFin := false, resetFin := false, upTorn := (s.links c).tdFin || (s.links c).upTorn } else s.links k) ∧
    (lSubnUnsub cfg c s).nlinks = s.nlinks ∧ (lSubnUnsub cfg c s).subscription = s.subscription ∧
    (lSubnUnsub cfg c s).lastRet = s.lastRet := by
  simp only [lSubnUnsub, h, lRunReset]
  have hr := resetSubject_links cfg (lRunTd c (s.links c).tdFin (s.modLink c fun x => { x with done := true, tdFin := false, resetFin := false }))
  cases (s.links c).resetFin <;> cases htd : (s.links c).tdFin <;> simp [lRunTd, htd] at hr ⊢ <;> exact hr

theorem lSubnUnsub_done (cfg : CCfg) (c : Nat) {s : CSt} (h : (s.links c).done = true) : lSubnUnsub cfg c s = s := by
  simp [lSubnUnsub, h]

/-- a notification at link `c` touches no link, unless it is a terminal reaching the open link:
    that closes it (status `n`) and ends its subscription -/
theorem lEmit_links (cfg : CCfg) (c : Nat) (x : Ev) {s : CSt}
    (hm : ((s.links c).status = 0 ∧ (s.links c).done = false) ∨ ((s.links c).status ≠ 0 ∧ (s.links c).done = true)) :
    LK s (lEmit cfg c x s) ∨ ∃ n, n ≠ 0 ∧ (s.links c).status = 0 ∧
      (lEmit cfg c x s).links = (fun k => if k = c then { (s.links c) with status := n, done := true, tdFin := false, resetFin := false, upTorn := (s.links c).tdFin || (s.links c).upTorn } else s.links k) ∧
      (lEmit cfg c x s).nlinks = s.nlinks ∧ (lEmit cfg c x s).subscription = s.subscription ∧
      (lEmit cfg c x s).lastRet = s.lastRet := by
  have hx : (∃ v, lEmit cfg c x s = lNext cfg c v s) ∨ ∃ t, lEmit cfg c x s = lTerm cfg c t s := by
    cases x <;> first | exact Or.inl ⟨_, rfl⟩ | exact Or.inr ⟨_, rfl⟩
  rcases hx with ⟨v, e⟩ | ⟨t, e⟩ <;> rw [e]
  · left
    unfold lNext; split
    · exact subjNext_lk _ _ _ s
    · exact ⟨rfl, rfl, rfl, rfl, rfl, rfl, rfl⟩
  rcases hm with ⟨h0, hd⟩ | ⟨h0, hd⟩
  · right
    simp only [lTerm, if_pos h0]
    have hlk := subjTerm_lk (s.links c).target t (s.modLink c fun x => { x with status := t.code })
    generalize subjTerm (s.links c).target t (s.modLink c fun x => { x with status := t.code }) = u at hlk
    obtain ⟨e1, e2, e3, e4⟩ := lSubnUnsub_links cfg c (s := u) (by rw [hlk.links]; simp [hd])
    exact ⟨t.code, t.code_ne_zero, h0, by rw [e1, hlk.links]; funext k; by_cases hk : k = c <;> simp [hk],
      e2.trans hlk.nlinks, e3.trans hlk.subscription, e4.trans hlk.lastRet⟩
  · left
    simp only [lTerm, if_neg h0]
    rw [lSubnUnsub_done cfg c (by exact hd)]
    exact ⟨rfl, rfl, rfl, rfl, rfl, rfl, rfl⟩

/-- a notification reaches link `c` -/
theorem cinv_lEmit (cfg : CCfg) {s : CSt} (hi : CInv s) (c : Nat) (hc : c < s.nlinks) (x : Ev) :
    CInv (lEmit cfg c x s) ∧ (lEmit cfg c x s).nlinks = s.nlinks := by
  have hm : ((s.links c).status = 0 ∧ (s.links c).done = false) ∨ ((s.links c).status ≠ 0 ∧ (s.links c).done = true) := by
    rcases hi.links c hc with hcl | ⟨_, hop⟩
    · exact Or.inr ⟨hcl.status, hcl.done⟩
    · exact Or.inl ⟨hop.status, hop.done⟩
  rcases lEmit_links cfg c x hm with hlk | ⟨n, hn, h0, e1, e2, e3, e4⟩
  · exact ⟨hi.lk hlk, hlk.nlinks⟩
  · rcases hi.links c hc with hcl | ⟨_, hop⟩
    · exact absurd h0 hcl.status
    · exact ⟨hi.close (c := c) (by rw [e1]; constructor <;> simp [hn, hop.tdFin]) (fun k hk => by rw [e1]; simp [hk]) e2 e3 e4, e2⟩

theorem cinv_push (cfg : CCfg) (x : Ev) {s : CSt} (hi : CInv s) : CInv (push cfg x s) := by
  unfold push
  refine (foldl_inv (I := fun u => CInv u ∧ u.nlinks = s.nlinks) _ (List.range s.nlinks) (fun u a hmem ⟨hu, hn⟩ => ?_) ⟨hi, rfl⟩).1
  split
  · obtain ⟨h1, h2⟩ := cinv_lEmit cfg hu a (by rw [hn]; exact List.mem_range.mp hmem) x
    exact ⟨h1, h2.trans hn⟩
  · exact ⟨hu, hn⟩

/-- while the prefix of a new link `c` plays: every older link is closed; the new one is either
    untouched or already ended (not yet torn: its teardown is not registered) -/
structure PInv (c : Nat) (u : CSt) : Prop where
  nlinks : u.nlinks = c + 1
  old : ∀ k, k < c → LinkClosed (u.links k)
  tdFin : (u.links c).tdFin = false
  resetFin : (u.links c).resetFin = false
  upTorn : (u.links c).upTorn = false
  mode : ((u.links c).status = 0 ∧ (u.links c).done = false) ∨ ((u.links c).status ≠ 0 ∧ (u.links c).done = true)

theorem PInv.lk {c : Nat} {u u' : CSt} (h : PInv c u) (hl : LK u u') : PInv c u' := by
  constructor
  · rw [hl.nlinks]; exact h.nlinks
  · intro k hk; rw [hl.links]; exact h.old k hk
  · rw [hl.links]; exact h.tdFin
  · rw [hl.links]; exact h.resetFin
  · rw [hl.links]; exact h.upTorn
  · rw [hl.links]; exact h.mode

theorem pinv_lEmit (cfg : CCfg) {c : Nat} {u : CSt} (h : PInv c u) (x : Ev) : PInv c (lEmit cfg c x u) := by
  rcases lEmit_links cfg c x h.mode with hlk | ⟨n, hn, _, e1, e2, _, _⟩
  · exact h.lk hlk
  · constructor
    · rw [e2]; exact h.nlinks
    · intro k hk
      rw [e1]; simp only [if_neg (Nat.ne_of_lt hk)]; exact h.old k hk
    · rw [e1]; simp
    · rw [e1]; simp
    · rw [e1]; simp [h.tdFin, h.upTorn]
    · right; rw [e1]; simp [hn]

theorem pinv_playPre (cfg : CCfg) {c : Nat} (pre : List Ev) {u : CSt} (h : PInv c u) : PInv c (playPre cfg c pre u) :=
  foldl_inv (I := PInv c) _ pre (fun _ x _ h => pinv_lEmit cfg h x) h

theorem cinv_connectNew (cfg : CCfg) {s : CSt} (hi : CInv s) (hn : needsConnect s = true) :
    (connectNew cfg s).subscription = some s.nlinks ∧ (connectNew cfg s).nlinks = s.nlinks + 1 ∧
    (∀ c, c < s.nlinks + 1 → LinkClosed ((connectNew cfg s).links c) ∨ (c = s.nlinks ∧ LinkOpen ((connectNew cfg s).links c))) := by
  have hold : ∀ k, k < s.nlinks → LinkClosed (s.links k) := by
    intro k hk
    rcases hi.links k hk with hcl | ⟨hsub, hop⟩
    · exact hcl
    · simp [needsConnect, hsub, hop.status] at hn
  have h0 : PInv s.nlinks (newLink s) := by
    constructor
    · rfl
    · intro k hk
      rw [show (newLink s).links k = s.links k from if_neg (Nat.ne_of_lt hk)]
      exact hold k hk
    all_goals simp [newLink]
  have hp := pinv_playPre cfg (cfg.pre s.nlinks) h0
  unfold connectNew
  generalize playPre cfg s.nlinks (cfg.pre s.nlinks) (newLink s) = u at hp ⊢
  have hrest : ∀ l c, c < s.nlinks + 1 → c ≠ s.nlinks → LinkClosed (if c = s.nlinks then l else u.links c) := by
    intro l c hc hcn
    rw [if_neg hcn]
    exact hp.old c (by omega)
  rcases hp.mode with ⟨h0', hd⟩ | ⟨h0', hd⟩
  · -- still connected after the prefix
    have e : linkAddReset cfg s.nlinks { (linkAddTeardown s.nlinks u) with subscription := some s.nlinks } =
        { (u.modLink s.nlinks fun x => { x with tdFin := true, resetFin := true }) with subscription := some s.nlinks } := by
      simp [linkAddReset, linkAddTeardown, hd]
    rw [e]
    refine ⟨rfl, hp.nlinks, ?_⟩
    intro c hc
    by_cases hcn : c = s.nlinks
    · subst hcn
      right
      refine ⟨rfl, ?_⟩
      constructor <;> simp [h0', hd, hp.upTorn]
    · exact Or.inl (hrest _ c hc hcn)
  · -- the source ended synchronously: torn at once, and `resetSubject` runs at once
    obtain ⟨r1, r2, r3, _⟩ := resetSubject_links cfg { (u.modLink s.nlinks fun x => { x with upTorn := true }) with subscription := some s.nlinks }
    have e : linkAddReset cfg s.nlinks { (linkAddTeardown s.nlinks u) with subscription := some s.nlinks } =
        resetSubject cfg { (u.modLink s.nlinks fun x => { x with upTorn := true }) with subscription := some s.nlinks } := by
      simp [linkAddReset, linkAddTeardown, hd]
    rw [e]
    refine ⟨r3, r2.trans hp.nlinks, ?_⟩
    intro c hc
    left
    rw [r1]
    by_cases hcn : c = s.nlinks
    · subst hcn
      constructor <;> simp [h0', hd, hp.tdFin, hp.resetFin]
    · exact hrest _ c hc hcn

theorem noteRet_fields (s : CSt) :
    (noteRet s).links = s.links ∧ (noteRet s).nlinks = s.nlinks ∧ (noteRet s).subscription = s.subscription ∧
    (noteRet s).lastRet = s.subscription := ⟨rfl, rfl, rfl, rfl⟩

theorem cinv_connect (cfg : CCfg) {s : CSt} (hi : CInv s) : CInv (connect cfg s) := by
  unfold connect
  obtain ⟨n1, n2, n3, n4⟩ := noteRet_fields (if needsConnect s = true then connectNew cfg s else s)
  constructor
  · rw [n4, n3]
  · intro c hc
    rw [n1, n3]
    rw [n2] at hc
    split
    next hn =>
      rw [if_pos hn] at hc
      obtain ⟨e1, e2, e3⟩ := cinv_connectNew cfg hi hn
      rw [e2] at hc
      rcases e3 c hc with h | ⟨h1, h2⟩
      · exact Or.inl h
      · exact Or.inr ⟨by rw [e1, h1], h2⟩
    next hn =>
      rw [if_neg hn] at hc
      exact hi.links c hc
  · intro c hc
    rw [n2]
    rw [n3] at hc
    split
    next hn =>
      rw [if_pos hn] at hc
      obtain ⟨e1, e2, _⟩ := cinv_connectNew cfg hi hn
      rw [e1] at hc
      rw [e2, ← Option.some.inj hc]
      omega
    next hn =>
      rw [if_neg hn] at hc
      exact hi.bound c hc

theorem cinv_lUnsubscribe (cfg : CCfg) {s : CSt} (hi : CInv s) (c : Nat) (hc : c < s.nlinks) :
    CInv (lUnsubscribe cfg c s) ∧ (lUnsubscribe cfg c s).nlinks = s.nlinks ∧ ((lUnsubscribe cfg c s).links c).upTorn = true ∧
      (∀ k, k ≠ c → (lUnsubscribe cfg c s).links k = s.links k) := by
  rcases hi.links c hc with hcl | ⟨hsub, hop⟩
  · simp [lUnsubscribe, hcl.status]
    exact ⟨hi, hcl.upTorn⟩
  · simp only [lUnsubscribe, if_pos hop.status]
    obtain ⟨e1, e2, e3, e4⟩ := lSubnUnsub_links cfg c (s := s.modLink c fun x => { x with status := 2 }) (by simp [hop.done])
    have hoth : ∀ k, k ≠ c → (lSubnUnsub cfg c (s.modLink c fun x => { x with status := 2 })).links k = s.links k :=
      fun k hk => by rw [e1]; simp [hk]
    have hcl : LinkClosed ((lSubnUnsub cfg c (s.modLink c fun x => { x with status := 2 })).links c) := by
      rw [e1]; constructor <;> simp [hop.tdFin]
    exact ⟨hi.close hcl hoth e2 e3 e4, e2, hcl.upTorn, hoth⟩

theorem cinv_step (cfg : CCfg) {s : CSt} (hi : CInv s) (e : CEvent) : CInv (step cfg s e) := by
  cases e with
  | sub =>
    have h1 : LK s (newSub s) := ⟨rfl, rfl, rfl, rfl, rfl, rfl, rfl⟩
    exact hi.lk (h1.trans (subjSubscribe_lk cfg.conn s.subject s.nsubs _))
  | unsub i =>
    simp only [step]
    split
    · exact hi.lk (dUnsubscribe_lk i s)
    · exact hi
  | src x => exact cinv_push cfg x hi
  | connect => exact cinv_connect cfg hi
  | disconnect =>
    simp only [step]
    split
    next c hc => exact (cinv_lUnsubscribe cfg hi c (hi.bound c (by rw [← hi.ret]; exact hc))).1
    next => exact hi

theorem cinv_run (cfg : CCfg) (evs : List CEvent) : CInv (run cfg evs) :=
  foldl_inv (I := CInv) (step cfg) evs (fun _ e _ hi => cinv_step cfg hi e) (CInv.init cfg)

theorem upLive_imp {s : CSt} (hi : CInv s) (c : Nat) (hc : c < s.nlinks) (h : s.upLive c = true) : s.subscription = some c := by
  rcases hi.links c hc with hcl | ⟨hsub, _⟩
  · simp [CSt.upLive, hcl.upTorn] at h
  · exact hsub

/-- at most one live upstream subscription -/
theorem live_le_one_of_cinv {s : CSt} (hi : CInv s) : s.live ≤ 1 := by
  unfold CSt.live
  apply filter_range_le_one s.upLive (s.subscription.getD 0)
  intro k hk hl
  rw [upLive_imp hi k hk hl]; rfl

/-- **Connect while connected** neither subscribes the source again nor changes the connection; it
    returns the existing subscription -/
theorem connect_idempotent (cfg : CCfg) {s : CSt} {c : Nat} (hi : CInv s) (hsub : s.subscription = some c)
    (hconn : (s.links c).status = 0) :
    (step cfg s .connect).total = s.total ∧ (step cfg s .connect).live = s.live ∧
    (step cfg s .connect).subscription = some c ∧ (step cfg s .connect).lastRet = some c ∧
    (step cfg s .connect).same = s.same ++ [true] ∧ (step cfg s .connect).subs = s.subs := by
  have hn : needsConnect s = false := by simp [needsConnect, hsub, hconn]
  have e : step cfg s .connect = noteRet s := by
    show connect cfg s = _
    unfold connect
    rw [hn]; rfl
  rw [e]
  refine ⟨rfl, rfl, hsub, hsub, ?_, rfl⟩
  simp [noteRet, hi.ret, hsub]

theorem push_noop (cfg : CCfg) (x : Ev) (s : CSt) (n : Nat) (h : ∀ c, c < n → s.upLive c = false) :
    (List.range n).foldl (fun s c => if s.upLive c then lEmit cfg c x s else s) s = s := by
  induction n with
  | zero => rfl
  | succ n ih =>
    rw [List.range_succ, List.foldl_append, ih (fun c hc => h c (Nat.lt_succ_of_lt hc))]
    simp [h n (Nat.lt_succ_self n)]

/-- with no live upstream subscription the source's notifications reach nobody -/
theorem src_noop_of_not_live (cfg : CCfg) {s : CSt} (h : s.live = 0) (x : Ev) : step cfg s (.src x) = s := by
  show push cfg x s = s
  apply push_noop
  intro c hc
  unfold CSt.live at h
  have := List.eq_nil_of_length_eq_zero h
  rw [List.filter_eq_nil_iff] at this
  have := this c (List.mem_range.mpr hc)
  simpa using this

/-- **disconnecting stops delivery**: after the connection's subscription is unsubscribed no
    upstream subscription is live, and whatever the source does changes nothing -/
theorem disconnect_stops (cfg : CCfg) {s : CSt} (hi : CInv s) :
    (step cfg s .disconnect).live = 0 ∧ ∀ x, step cfg (step cfg s .disconnect) (.src x) = step cfg s .disconnect := by
  -- a link other than the returned connection is torn already
  have hold : ∀ k, k < s.nlinks → s.lastRet ≠ some k → (s.links k).upTorn = true := by
    intro k hk hne
    rcases hi.links k hk with hcl | ⟨hsub, _⟩
    · exact hcl.upTorn
    · exact absurd (hi.ret.trans hsub) hne
  have hlive : (step cfg s .disconnect).live = 0 := by
    unfold CSt.live
    rw [filter_range_eq_nil]; · rfl
    simp only [step, CSt.upLive]
    cases hret : s.lastRet with
    | none => intro k hk; simp [hold k hk (by simp [hret])]
    | some c =>
      obtain ⟨_, hn, hut, hoth⟩ := cinv_lUnsubscribe cfg hi c (hi.bound c (by rw [← hi.ret]; exact hret))
      intro k hk
      by_cases hkc : k = c
      · subst hkc; simp [hut]
      · simp only [hoth k hkc, hold k (hn ▸ hk) (by rw [hret]; exact fun h => hkc (Option.some.inj h).symm), Bool.not_true]
  exact ⟨hlive, fun x => src_noop_of_not_live cfg hlive x⟩

/-! ### nothing before the first Connect -/

/-- no Connect yet: no link, the first subject still in place and untouched by any source value -/
structure NC (cfg : CCfg) (s : CSt) : Prop where
  nlinks : s.nlinks = 0
  lastRet : s.lastRet = none
  subject : s.subject = 0
  isOpen : (s.subjects 0).status = Status.open
  last : (s.subjects 0).last = (Subj.new cfg.conn).last
  buf : (s.subjects 0).buf = []
  traces : ∀ i, i < s.nsubs → (s.subs i).trace = Spec.joined cfg.conn (Subj.new cfg.conn)

theorem NC.init (cfg : CCfg) : NC cfg (CSt.init cfg) := by
  constructor <;> simp [CSt.init]
  · cases cfg.conn <;> rfl
  · cases cfg.conn <;> rfl

/-- a subscriber arriving before any Connect is registered on the first, untouched subject -/
theorem nc_sub_eq (cfg : CCfg) {s : CSt} (h : NC cfg s) :
    step cfg s .sub =
      { s with nsubs := s.nsubs + 1,
               subs := fun k => if k = s.nsubs then { trace := Spec.joined cfg.conn (Subj.new cfg.conn), delFin := some 0 } else s.subs k,
               subjects := fun k => if k = 0 then { (s.subjects 0) with obs := (s.subjects 0).obs ++ [s.nsubs] } else s.subjects k } := by
  have hlast := h.last
  show subjSubscribe cfg.conn s.subject s.nsubs (newSub s) = _
  rw [h.subject]
  cases hc : cfg.conn <;> rw [hc] at hlast <;>
    simp [subjSubscribe, subjReplay, h.isOpen, subjLast, subjRegister, dNext, newSub, h.buf, h.subject, Spec.joined, hlast, Subj.new]

theorem nc_sub (cfg : CCfg) {s : CSt} (h : NC cfg s) : NC cfg (step cfg s .sub) := by
  rw [nc_sub_eq cfg h]
  refine ⟨h.nlinks, h.lastRet, h.subject, h.isOpen, h.last, h.buf, fun i hi => ?_⟩
  show (if i = s.nsubs then _ else s.subs i : CSub).trace = _
  split
  · rfl
  next hin => exact h.traces i (Nat.lt_of_le_of_ne (Nat.le_of_lt_succ hi) hin)

theorem modSub_trace (s : CSt) (i : Nat) (f : CSub → CSub) (hf : ∀ d, (f d).trace = d.trace) (k : Nat) :
    ((s.modSub i f).subs k).trace = (s.subs k).trace := by
  simp only [CSt.modSub]
  split
  · exact hf _
  · rfl

/-- a subscriber that leaves touches no link, no stored value and nobody's trace -/
theorem dUnsubscribe_keeps (i : Nat) (s : CSt) :
    (dUnsubscribe i s).nsubs = s.nsubs ∧ (∀ k, ((dUnsubscribe i s).subs k).trace = (s.subs k).trace) ∧
    ∀ j, ((dUnsubscribe i s).subjects j).status = (s.subjects j).status ∧
      ((dUnsubscribe i s).subjects j).last = (s.subjects j).last ∧ ((dUnsubscribe i s).subjects j).buf = (s.subjects j).buf := by
  have h1 := modSub_trace s i (fun d => { d with status := 2 }) fun _ => rfl
  have h2 := fun k => (modSub_trace _ i (fun d => { d with done := true, delFin := none }) (fun _ => rfl) k).trans (h1 k)
  unfold dUnsubscribe dSubnUnsub runDel
  split
  · split
    · exact ⟨rfl, h1, fun _ => ⟨rfl, rfl, rfl⟩⟩
    · split
      · exact ⟨rfl, h2, fun j => by simp only [CSt.modSubj, CSt.modSub]; split <;> exact ⟨rfl, rfl, rfl⟩⟩
      · exact ⟨rfl, h2, fun _ => ⟨rfl, rfl, rfl⟩⟩
  · exact ⟨rfl, fun _ => rfl, fun _ => ⟨rfl, rfl, rfl⟩⟩

theorem nc_unsub (cfg : CCfg) {s : CSt} (h : NC cfg s) (i : Nat) : NC cfg (step cfg s (.unsub i)) := by
  simp only [step]
  split
  · have hlk := dUnsubscribe_lk i s
    obtain ⟨hn, htr, hsubj⟩ := dUnsubscribe_keeps i s
    exact ⟨hlk.nlinks.trans h.nlinks, hlk.lastRet.trans h.lastRet, hlk.subject.trans h.subject, (hsubj 0).1.trans h.isOpen,
      (hsubj 0).2.1.trans h.last, (hsubj 0).2.2.trans h.buf, fun k hk => (htr k).trans (h.traces k (hn ▸ hk))⟩
  · exact h

theorem nc_src (cfg : CCfg) {s : CSt} (h : NC cfg s) (x : Ev) : step cfg s (.src x) = s := by
  show push cfg x s = s
  unfold push
  rw [h.nlinks]
  rfl

theorem nc_disconnect (cfg : CCfg) {s : CSt} (h : NC cfg s) : step cfg s .disconnect = s := by
  simp [step, h.lastRet]

def CEvent.isConnect : CEvent → Bool
  | .connect => true
  | _ => false

/-- **nothing flows before Connect**: as long as no Connect has happened the source has never been
    subscribed, and each subscriber has received exactly what a brand-new connector hands out by
    itself (nothing; for a behavior connector its initial value) — whatever the source was asked to push -/
theorem nothing_before_connect (cfg : CCfg) (evs : List CEvent) (h : ∀ e, e ∈ evs → e.isConnect = false) :
    (run cfg evs).total = 0 ∧ (run cfg evs).live = 0 ∧
    ∀ i, i < (run cfg evs).nsubs → ((run cfg evs).subs i).trace = Spec.joined cfg.conn (Subj.new cfg.conn) := by
  suffices hnc : NC cfg (run cfg evs) by
    refine ⟨hnc.nlinks, ?_, hnc.traces⟩
    unfold CSt.live; rw [hnc.nlinks]; rfl
  refine foldl_inv (I := NC cfg) (step cfg) evs (fun s e he hs => ?_) (NC.init cfg)
  have he := h e he
  cases e with
  | sub => exact nc_sub cfg hs
  | unsub i => exact nc_unsub cfg hs i
  | src x => rw [nc_src cfg hs x]; exact hs
  | connect => simp [CEvent.isConnect] at he
  | disconnect => rw [nc_disconnect cfg hs]; exact hs

end Ro.Connectable
