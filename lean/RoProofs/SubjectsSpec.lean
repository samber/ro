/-
  RoProofs.SubjectsSpec — the pure half of the refinement: folding the per-subscriber automaton
  `vstep` over an operation sequence gives the sequential definition (RoModel/Spec/Subjects.lean),
  for the four multicast subjects; then the model is connected through `view_multiStep`.
-/
import RoProofs.SubjectsView
namespace Ro.Subj
open Ro Ro.Subj.Spec

variable {α : Type}

def runM (P : MP α) (s : State α) (ops : List (Op α)) : State α := ops.foldl (multiStep P) s
def vrun (P : MP α) (i : Nat) (w : View α) (ops : List (Op α)) : View α := ops.foldl (vstep P i) w

theorem view_runM (P : MP α) (hP : P.Law) (i : Nat) : ∀ (ops : List (Op α)) (s : State α), Inv s →
    view (runM P s ops) i = vrun P i (view s i) ops ∧ Inv (runM P s ops)
  | [], _, h => ⟨rfl, h⟩
  | o :: ops, s, h => by
    have := view_runM P hP i ops (multiStep P s o) (inv_multiStep P hP h o)
    simp only [runM, vrun, List.foldl_cons] at this ⊢
    rw [← view_multiStep P hP h o i]
    exact this

/-- what a registered subscriber receives from the producer notifications that follow -/
def liveSpec (P : MP α) : List (Ctx × α) → List (Notif α) → List (Notif α)
  | _, [] => []
  | m, .next c v :: r => (if P.live then [.next c v] else []) ++ liveSpec P (P.mem m (c, v)) r
  | _, .error c e :: _ => [.error c e]
  | m, .complete c :: _ => (if P.flush then nexts m else []) ++ [.complete c]

def multiSpec (P : MP α) (m0 : List (Ctx × α)) (ops : List (Op α)) (i : Nat) : List (Notif α) :=
  match splitSub i ops with
  | none => []
  | some (pre, c, post) =>
    match ending (produced pre) with
    | .never => (if P.rA then nexts ((values (produced pre)).foldl P.mem m0) else [])
                ++ liveSpec P ((values (produced pre)).foldl P.mem m0) (produced (whileSubscribed i post))
    | .error ec e => (if P.rE then nexts ((values (produced pre)).foldl P.mem m0) else []) ++ [.error ec e]
    | .complete _ => (if P.rC then nexts ((values (produced pre)).foldl P.mem m0) else []) ++ [.complete c]

def statusOf : Ending → Status
  | .never => .active
  | .error c e => .errored c e
  | .complete _ => .completed

def isSub (i : Nat) : Op α → Bool
  | .subscribe j _ => j == i
  | _ => false

/-- `splitSub` cuts at the first `Subscribe i`, if there is one -/
theorem splitSub_spec (i : Nat) : ∀ ops : List (Op α),
    match splitSub i ops with
    | none => ∀ o ∈ ops, isSub i o = false
    | some (pre, c, post) => ops = pre ++ .subscribe i c :: post ∧ ∀ o ∈ pre, isSub i o = false
  | [] => by simp [splitSub]
  | x :: r => by
    have ih := splitSub_spec i r
    -- an operation other than `Subscribe i` goes in front of what the rest splits into
    have key : isSub i x = false → splitSub i (x :: r) = (splitSub i r).map (fun y => (x :: y.1, y.2.1, y.2.2)) →
        match splitSub i (x :: r) with
        | none => ∀ o ∈ x :: r, isSub i o = false
        | some (pre, c, post) => x :: r = pre ++ .subscribe i c :: post ∧ ∀ o ∈ pre, isSub i o = false := by
      intro hx e
      rw [e]
      cases hr : splitSub i r with
      | none => rw [hr] at ih; simpa [hx] using ih
      | some y =>
        rw [hr] at ih
        exact ⟨by rw [ih.1]; rfl, by simpa [hx] using ih.2⟩
    cases x with
    | subscribe j c =>
      by_cases hji : j = i
      · subst hji; simp [splitSub]
      · exact key (by simp [isSub, hji]) (by simp [splitSub, hji])
    | next c v => exact key rfl rfl
    | error c e => exact key rfl rfl
    | complete c => exact key rfl rfl
    | unsubscribe j => exact key rfl rfl

theorem splitSub_none {i : Nat} {ops : List (Op α)} (h : splitSub i ops = none) : ∀ o ∈ ops, isSub i o = false := by
  have := splitSub_spec i ops; rwa [h] at this

theorem splitSub_some {i : Nat} {ops pre : List (Op α)} {c : Ctx} {post : List (Op α)}
    (h : splitSub i ops = some (pre, c, post)) : ops = pre ++ .subscribe i c :: post ∧ ∀ o ∈ pre, isSub i o = false := by
  have := splitSub_spec i ops; rwa [h] at this

variable (P : MP α) (i : Nat)

theorem vstep_not_sub_before (w : View α) (o : Op α) (hp : w.phase = .before) (ho : isSub i o = false) :
    (vstep P i w o).phase = .before ∧ (vstep P i w o).got = w.got := by
  cases o with
  | subscribe j c =>
    have : j ≠ i := by simpa [isSub] using ho
    simp [vstep, this]; exact hp
  | next c v => cases hs : w.status <;> simp [vstep, hs, hp]
  | error c e => cases hs : w.status <;> simp [vstep, hs, hp]
  | complete c => cases hs : w.status <;> simp [vstep, hs, hp]
  | unsubscribe j => simp [vstep, hp]

/-- a subscriber does not come back -/
theorem vstep_phase_ne_before (w : View α) (o : Op α) (hp : w.phase ≠ .before) : (vstep P i w o).phase ≠ .before := by
  cases o with
  | subscribe j c => simp [vstep, hp]
  | unsubscribe j => simp only [vstep]; split <;> simp [hp]
  | next c v => cases hs : w.status <;> simpa [vstep, hs] using hp
  | error c e => cases hs : w.status <;> simp only [vstep, hs] <;> (try split) <;> simp [hp]
  | complete c => cases hs : w.status <;> simp only [vstep, hs] <;> (try split) <;> simp [hp]

/-- the stored state evolves the same way whatever the phase of `i` -/
theorem vstep_status_values (w : View α) (o : Op α) :
    (vstep P i w o).status = (match w.status, o with
        | .active, .error c e => .errored c e
        | .active, .complete _ => .completed
        | st, _ => st) ∧
    (vstep P i w o).values = (match w.status, o with
        | .active, .next c v => P.mem w.values (c, v)
        | _, _ => w.values) := by
  cases o with
  | subscribe j c =>
    simp only [vstep]
    split
    · cases hs : w.status <;> simp
    · cases hs : w.status <;> simp
  | next c v => cases hs : w.status <;> simp [vstep, hs]
  | error c e => cases hs : w.status <;> simp [vstep, hs]
  | complete c => cases hs : w.status <;> simp [vstep, hs]
  | unsubscribe j => simp only [vstep]; split <;> cases hs : w.status <;> simp

/-- the status and the stored values after a run, whatever `i` does: they follow the producer side -/
theorem vrun_status_values : ∀ (ops : List (Op α)) (w : View α),
    (vrun P i w ops).status = (match w.status with
      | .active => statusOf (ending (produced ops))
      | st => st) ∧
    (vrun P i w ops).values = (match w.status with
      | .active => (values (produced ops)).foldl P.mem w.values
      | _ => w.values)
  | [], w => by cases hs : w.status <;> simp [vrun, produced, ending, values, statusOf, hs]
  | o :: ops, w => by
    have ih := vrun_status_values ops (vstep P i w o)
    have h2 := vstep_status_values P i w o
    simp only [vrun, List.foldl_cons] at ih ⊢
    rw [ih.1, ih.2, h2.1, h2.2]
    cases hs : w.status <;> cases o <;> simp [produced, ending, values, statusOf]

/-- **before** `Subscribe i`: `i` has nothing; the subject's status and stored values follow the
    producer side of the prefix -/
theorem vrun_before (pre : List (Op α)) (g : List (Notif α)) (m : List (Ctx × α)) (hno : ∀ o ∈ pre, isSub i o = false) :
    vrun P i ⟨.before, g, .active, m⟩ pre =
      ⟨.before, g, statusOf (ending (produced pre)), (values (produced pre)).foldl P.mem m⟩ := by
  have h : ∀ (pre : List (Op α)) (w : View α), w.phase = .before → (∀ o ∈ pre, isSub i o = false) →
      (vrun P i w pre).phase = .before ∧ (vrun P i w pre).got = w.got := by
    intro pre
    induction pre with
    | nil => exact fun _ hp _ => ⟨hp, rfl⟩
    | cons o pre ih =>
      intro w hp hno
      have h1 := vstep_not_sub_before P i w o hp (hno o (by simp))
      have := ih _ h1.1 (fun o ho => hno o (by simp [ho]))
      exact ⟨this.1, this.2.trans h1.2⟩
  have hsv := vrun_status_values P i pre ⟨.before, g, .active, m⟩
  exact view_ext (h pre _ rfl hno).1 (h pre _ rfl hno).2 hsv.1 hsv.2

/-- **done**: nothing more is received, and `i` does not come back -/
theorem vrun_done : ∀ (ops : List (Op α)) (w : View α), w.phase = .done →
    (vrun P i w ops).got = w.got ∧ (vrun P i w ops).phase = .done
  | [], _, hp => ⟨rfl, hp⟩
  | o :: ops, w, hp => by
    have h1 : (vstep P i w o).phase = .done ∧ (vstep P i w o).got = w.got := by
      cases o with
      | subscribe j c => simp [vstep, hp]
      | unsubscribe j => simp [vstep, hp]
      | next c v => cases hs : w.status <;> simp [vstep, hs, hp]
      | error c e => cases hs : w.status <;> simp [vstep, hs, hp]
      | complete c => cases hs : w.status <;> simp [vstep, hs, hp]
    have ih := vrun_done ops (vstep P i w o) h1.1
    simp only [vrun, List.foldl_cons] at ih ⊢
    exact ⟨ih.1.trans h1.2, ih.2⟩

/-- **live**: values published while `i` stays subscribed, then the terminal -/
theorem vrun_live : ∀ (post : List (Op α)) (g : List (Notif α)) (m : List (Ctx × α)),
    (vrun P i ⟨.live, g, .active, m⟩ post).got = g ++ liveSpec P m (produced (whileSubscribed i post)) ∧
    ((vrun P i ⟨.live, g, .active, m⟩ post).phase = .live ↔
      (post.all (fun o => !isUnsub i o) = true ∧ ending (produced post) = .never))
  | [], g, m => by simp [vrun, whileSubscribed, produced, liveSpec, ending]
  | o :: post, g, m => by
    cases o with
    | subscribe j c =>
      have : ¬ (j = i ∧ Phase.live = Phase.before) := by simp
      simp only [vrun, List.foldl_cons, vstep, this, if_false, whileSubscribed, List.takeWhile_cons, isUnsub,
        Bool.not_false, if_true, produced, List.all_cons, Bool.true_and]
      exact vrun_live post g m
    | unsubscribe j =>
      by_cases hj : j = i
      · subst hj
        have hd := vrun_done P j post ⟨.done, g, .active, m⟩ rfl
        simp only [vrun, List.foldl_cons, vstep, and_self, if_true, whileSubscribed, List.takeWhile_cons, isUnsub,
          beq_self_eq_true, Bool.not_true, Bool.false_eq_true, if_false, produced, liveSpec, List.append_nil,
          List.all_cons, Bool.false_and, false_and, iff_false] at hd ⊢
        exact ⟨hd.1, by rw [hd.2]; simp⟩
      · have hb : (j == i) = false := by simpa using hj
        simp only [vrun, List.foldl_cons, vstep, hj, false_and, if_false, whileSubscribed, List.takeWhile_cons, isUnsub,
          hb, Bool.not_false, if_true, produced, List.all_cons, Bool.true_and]
        exact vrun_live post g m
    | next c v =>
      have ih := vrun_live post (if P.live = true then g ++ [.next c v] else g) (P.mem m (c, v))
      simp only [vrun, List.foldl_cons, vstep, and_true, whileSubscribed, List.takeWhile_cons, isUnsub,
        Bool.not_false, if_true, produced, liveSpec, List.all_cons, Bool.true_and, ending] at ih ⊢
      refine ⟨?_, ih.2⟩
      rw [ih.1]
      by_cases hl : P.live = true <;> simp [hl]
    | error c e =>
      have hd := vrun_done P i post ⟨.done, g ++ [.error c e], .errored c e, m⟩ rfl
      simp only [vrun, List.foldl_cons, vstep, if_true, whileSubscribed, List.takeWhile_cons, isUnsub,
        Bool.not_false, produced, liveSpec, List.all_cons, Bool.true_and, ending] at hd ⊢
      exact ⟨hd.1, by rw [hd.2]; simp⟩
    | complete c =>
      have hd := vrun_done P i post
        ⟨.done, g ++ (if P.flush = true then nexts m else []) ++ [.complete c], .completed, m⟩ rfl
      simp only [vrun, List.foldl_cons, vstep, if_true, whileSubscribed, List.takeWhile_cons, isUnsub,
        Bool.not_false, produced, liveSpec, List.all_cons, Bool.true_and, ending] at hd ⊢
      refine ⟨?_, by rw [hd.2]; simp⟩
      rw [hd.1]; simp

theorem vrun_append (w : View α) (a b : List (Op α)) : vrun P i w (a ++ b) = vrun P i (vrun P i w a) b := by
  simp [vrun, List.foldl_append]

theorem vrun_got (m0 : List (Ctx × α)) (ops : List (Op α)) :
    (vrun P i ⟨.before, [], .active, m0⟩ ops).got = multiSpec P m0 ops i := by
  unfold multiSpec
  cases hsp : splitSub i ops with
  | none =>
    rw [vrun_before P i ops [] m0 (splitSub_none hsp)]
  | some x =>
    obtain ⟨pre, c, post⟩ := x
    obtain ⟨hops, hno⟩ := splitSub_some hsp
    simp only
    rw [hops, vrun_append, vrun_before P i pre [] m0 hno]
    have hstep : ∀ w : View α, vrun P i w (.subscribe i c :: post) = vrun P i (vstep P i w (.subscribe i c)) post :=
      fun _ => rfl
    rw [hstep]
    cases he : ending (produced pre) with
    | never =>
      simp only [statusOf, vstep, and_self, if_true]
      rw [(vrun_live P i post _ _).1]
    | error ec e =>
      simp only [statusOf, vstep, and_self, if_true]
      rw [(vrun_done P i post _ rfl).1]
    | complete cc =>
      simp only [statusOf, vstep, and_self, if_true]
      rw [(vrun_done P i post _ rfl).1]

/-- who is registered, by the automaton (the definition's `subscribed` reads the kind only to tell unicast apart) -/
theorem vrun_phase_live (m0 : List (Ctx × α)) (ops : List (Op α)) :
    (vrun P i ⟨.before, [], .active, m0⟩ ops).phase = .live ↔ Spec.subscribed (.publish : Kind α) ops i = true := by
  unfold Spec.subscribed
  cases hsp : splitSub i ops with
  | none =>
    rw [vrun_before P i ops [] m0 (splitSub_none hsp)]; simp
  | some x =>
    obtain ⟨pre, c, post⟩ := x
    obtain ⟨hops, hno⟩ := splitSub_some hsp
    simp only
    rw [hops, vrun_append, vrun_before P i pre [] m0 hno]
    have hstep : ∀ w : View α, vrun P i w (.subscribe i c :: post) = vrun P i (vstep P i w (.subscribe i c)) post :=
      fun _ => rfl
    rw [hstep]
    cases he : ending (produced pre) with
    | never =>
      simp only [statusOf, vstep, and_self, if_true]
      rw [(vrun_live P i post _ _).2]
      cases ending (produced post) <;> simp
    | error ec e =>
      simp only [statusOf, vstep, and_self, if_true]
      rw [(vrun_done P i post _ rfl).2]; simp
    | complete cc =>
      simp only [statusOf, vstep, and_self, if_true]
      rw [(vrun_done P i post _ rfl).2]; simp

end Ro.Subj
