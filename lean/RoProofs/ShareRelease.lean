/-
  RoProofs.ShareRelease — "nobody listens ⇒ the upstream subscription is released" (with
  `ResetOnRefCountZero`): an invariant of plain runs, and of nested runs in which no other subscriber
  arrives inside the source's `Subscribe`; false in general under nesting (the late release).
-/
import RoProofs.ShareNested
namespace Ro.Share
attribute [local simp] St.modGen_eq St.modSub_eq St.drop ite_else_same

/-- a live generation has a listener -/
def Listened (s : St) : Prop := ∀ g, s.subject = some g → GenActive Pend.idle s g → openSubs s ≠ []

theorem Listened.init : Listened {} := by intro g hg; cases hg

theorem listened_liveDone {i g : Nat} {u : St} (hlt : i < u.nsubs) (hs : (u.subs i).status = 0) : Listened (liveDone i g u) := by
  intro _ _ _ hn
  have hmem : i ∈ openSubs (liveDone i g u) := mem_openSubs.mpr ⟨hlt, by simp [liveDone]; exact hs⟩
  rw [hn] at hmem; cases hmem

theorem listened_latchDone {g : Nat} {u : St} (hsubj : u.subject = some g) (hp : (u.gens g).pStatus ≠ 0) : Listened (latchDone g u) := by
  intro g' hg' ha'
  have hs : (latchDone g u).subject = u.subject := rfl
  rw [hs, hsubj] at hg'
  cases hg'
  have := ha'.pStatus
  simp [latchDone] at this
  exact absurd this hp

theorem listened_subscribe (cfg : Cfg) {s : St} (hi : Inv Pend.idle s) : Listened (subscribe cfg s) := by
  cases hsub : s.subject with
  | none =>
    obtain ⟨u, h | h | h⟩ := subscribe_fresh_outcome cfg hi hsub
    · rw [h.2]; exact listened_liveDone (by rw [h.1.nsubs]; omega) h.1.status
    · intro g hg _
      rw [h.2] at hg
      have : (resetDone s.ngens u).subject = u.subject := rfl
      rw [this, h.1.subject] at hg; cases hg
    · rw [h.2]; exact listened_latchDone h.1.subject h.1.pStatus
  | some g =>
    have hss : s.sourceSubscription = some g := by rw [hi.shared]; exact hsub
    rcases (hi.cur g hsub).2 with ha | hla
    · rw [subscribe_join_active cfg hsub hss ha.isOpen]
      intro _ _ _ hn
      have hmem : s.nsubs ∈ openSubs (joinState (Spec.joined cfg.conn (s.gens g).subj) g s) :=
        mem_openSubs.mpr ⟨by simp [joinState], by simp [joinState]⟩
      rw [hn] at hmem; cases hmem
    · obtain ⟨t, _, he⟩ := subscribe_join_latched cfg hsub hss hla.flag hla.closed
      rw [he]
      intro g' hg' ha'
      have hs : (lateState t.code (Spec.late cfg.conn (s.gens g).subj) s).subject = s.subject := rfl
      rw [hs, hsub] at hg'
      cases hg'
      exact absurd ha'.pStatus hla.pStatus

theorem listened_step (cfg : Cfg) (hz : cfg.flags.onZero = true) {s : St} (hi : Inv Pend.idle s) (hl : Listened s) (e : Event) :
    Listened (step cfg s e) := by
  cases e with
  | sub => exact listened_subscribe cfg hi
  | unsub i =>
    simp only [step]
    split
    next hlt =>
      by_cases hs : (s.subs i).status = 0
      · obtain ⟨g, _, hi', _, ⟨e, h⟩ | ⟨e, _⟩⟩ := dUnsubscribe_cases cfg.flags hi hlt hs (by simp)
        · rw [e]
          intro g' _ _ hno
          have hc := hi'.count
          rw [hno] at hc
          rcases h with h | h
          · rw [hz] at h; cases h
          · simp at hc; exact h hc
        · rw [e]
          intro g' hg'; simp [resetState] at hg'
      · simp [dUnsubscribe, hs]; exact hl
    next => exact hl
  | src x =>
    show Listened (push cfg x s)
    rcases push_eq cfg x hi with ⟨g, hsub, ha, he⟩ | ⟨_, he⟩
    · -- after a terminal nothing is live
      have hterm : ∀ t : Ev, t.isTerminal = true → Listened (step cfg s (.src t)) := fun t ht g' hg' ha' => by
        have h0 := (src_terminal cfg t ht hi hsub ha).1
        have h1 := live_of_active (inv_step cfg hi (.src t)) hg' ha'
        omega
      cases x with
      | next v =>
        rw [he]
        intro g' _ _
        show openSubs (pNext cfg g v s) ≠ []
        rw [(pNext_sim cfg g v s).openSubs]
        exact hl g hsub ha
      | error e' => exact hterm _ rfl
      | complete => exact hterm _ rfl
    · rw [he]; exact hl

theorem listened_run (cfg : Cfg) (hz : cfg.flags.onZero = true) (evs : List Event) : Listened (run cfg evs) :=
  (foldl_inv (I := fun s => Inv Pend.idle s ∧ Listened s) (step cfg) evs
    (fun _ e _ h => ⟨inv_step cfg h.1 e, listened_step cfg hz h.1 h.2 e⟩) ⟨Inv.init, Listened.init⟩).2

/-- a state where nobody listens has no live upstream subscription, provided live generations are listened -/
theorem released_of_listened {s : St} (hi : Inv Pend.idle s) (hl : Listened s) (ho : openSubs s = []) : s.live = 0 := by
  apply live_of_not_active hi
  intro ⟨g, hg, ha⟩
  exact hl g hg ha ho

/-! ### events other than `sub` create no generation and can only clear the shared pair -/

structure Down (s s' : St) : Prop where
  ngens : s'.ngens = s.ngens
  subject : s'.subject = s.subject ∨ s'.subject = none

theorem Quiet.down {s s' : St} (h : Quiet s s') : Down s s' := ⟨h.ngens, h.subject⟩

def Event.isSub : Event → Bool
  | .sub => true
  | _ => false

theorem stepInner_quiet (cfg : Cfg) (self : Nat) (s : St) (e : Event) (he : e.isSub = false) : Quiet s (stepInner cfg self s e) := by
  cases e with
  | sub => simp [Event.isSub] at he
  | unsub j =>
    simp only [stepInner]
    split
    · exact Quiet.refl s
    · simp only [step]; split
      · exact (dUnsubscribe_only cfg.flags j s).quiet
      · exact Quiet.refl s
  | src x => exact push_quiet cfg x s

theorem foldl_stepInner_down (cfg : Cfg) (self : Nat) (inner : List Event) (hall : ∀ e, e ∈ inner → e.isSub = false) (w : St) :
    Down w (inner.foldl (stepInner cfg self) w) :=
  (foldl_inv (I := Quiet w) _ inner (fun u e he h => h.trans (stepInner_quiet cfg self u e (hall e he))) (Quiet.refl w)).down

/-! ### nested events in which no other subscriber arrives -/

/-- no `sub` among the events nested inside the source's `Subscribe` -/
def NEvent.noInnerSub : NEvent → Bool
  | .plain _ => true
  | .subNested inner => inner.all fun e => !e.isSub

theorem listened_nstep (cfg : Cfg) (hz : cfg.flags.onZero = true) {s : St} (hi : Inv Pend.idle s) (hl : Listened s)
    (e : NEvent) (he : e.noInnerSub = true) : Listened (nstep cfg s e) := by
  cases e with
  | plain e => exact listened_step cfg hz hi hl e
  | subNested inner =>
    show Listened (subscribeK cfg _ s)
    cases hsub : s.subject with
    | some g =>
      rw [subscribeK_shared cfg _ hi hsub]
      exact listened_subscribe cfg hi
    | none =>
      obtain ⟨n, heq⟩ := subscribeK_fresh cfg (fun u => inner.foldl (stepInner cfg s.nsubs) u) ((needsNew_iff hi).mpr hsub)
      obtain ⟨hmid, hsj1⟩ := mid_playPre cfg hi hsub n
      -- the inner events can only clear the shared pair
      have hdown := foldl_stepInner_down cfg s.nsubs inner (fun e hmem => by simpa using List.all_eq_true.mp he e hmem)
        (playPre cfg s.ngens (cfg.pre n) (freshState cfg.conn s))
      have hm2 := mid_foldl cfg inner hmid
      generalize inner.foldl (stepInner cfg s.nsubs) (playPre cfg s.ngens (cfg.pre n) (freshState cfg.conn s)) = u2 at hm2 hdown heq
      have hsj2 : ∀ g', u2.subject = some g' → g' = s.ngens := by
        intro g' hg'
        rcases hdown.subject with h | h
        · exact hsj1 g' (by rw [← h]; exact hg')
        · rw [h] at hg'; cases hg'
      rw [heq]
      -- after the return: the generation is live with its creator listening, or not live at all
      rcases hm2.cases with ⟨_, _, hact, hu⟩ | ⟨_, hcl, hsubj, hlat⟩ | ⟨hq, hcl, hsubj, hen⟩
      · rw [r3tail_live cfg.flags hact.pDone hact.ssDone (hact.unf rfl).2.1 hu.done]
        exact listened_liveDone hm2.lt hu.status
      · rw [r3tail_latch cfg.flags hlat.pDone hlat.ssDone (hlat.unf rfl).2.1 hcl hlat.flag]
        exact listened_latchDone hsubj hlat.pStatus
      · -- reset, and no other generation exists: the shared pair is nil
        rw [r3tail_reset cfg.flags hen.pDone hen.ssDone hen.pStatus hcl hsubj (by rw [hq.shared]; exact hsubj)]
        intro g' hg' _
        have hs : (resetDone s.ngens u2).subject = u2.subject := rfl
        rw [hs] at hg'
        exact absurd (by rw [hsj2 g' hg'] at hg'; exact hg') hsubj

/-- nested runs in which no other subscriber arrives inside the source's `Subscribe` -/
theorem listened_nrun (cfg : Cfg) (hz : cfg.flags.onZero = true) (evs : List NEvent) (hev : ∀ e, e ∈ evs → e.noInnerSub = true) :
    Listened (nrun cfg evs) :=
  (foldl_inv (I := fun s => Inv Pend.idle s ∧ Listened s) (nstep cfg) evs
    (fun _ e he h => ⟨inv_nstep cfg h.1 e, listened_nstep cfg hz h.1 h.2 e (hev e he)⟩) ⟨Inv.init, Listened.init⟩).2

end Ro.Share
