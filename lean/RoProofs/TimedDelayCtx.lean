/-
  RoProofs.TimedDelayCtx — Delay keeps every notification together with the context it was sent with (C09, time-driven
  operators; C16: FIFO).

  `Delay`'s queue holds (context, notification) PAIRS (`operator_utility.go`: `queue = append(queue, lo.T2(ctx, notif))`,
  `consume` pops the head and delivers `first.A, first.B`): `delayPopsG` is the pop sequence of RoModel/Timed.lean with
  an arbitrary payload per queue entry. Whatever the timers do — any number of them, firing in any order, early ones
  finding the queue empty — the delivered payloads are, in order, a PREFIX of the queued payloads: nothing is
  reordered, duplicated or re-paired. `delayPops` (the model the C16 acceptor theorems are about) is the instance
  "payload = notification".

  Contrast (`timerCtx_witness`): a design that keeps the context in the timer's closure and the notification in the
  queue pairs notification k with the context of whichever timer fired first — an outcome the pair queue cannot produce.
-/
import RoProofs.TimedBasic
namespace Ro.Timed

/-- the pops of `Delay` with a payload of any type per queue entry; `m` = number of pops so far -/
def delayPopsG {γ : Type} (emits : List (Time × γ)) : List (Time × Nat) → Nat → List (Time × γ)
  | [], _ => []
  | f :: fs, m =>
    match emits[m]? with
    | some e => if e.1 ≤ f.1 then (f.1, e.2) :: delayPopsG emits fs (m + 1) else delayPopsG emits fs m
    | none => delayPopsG emits fs m

/-- the model of RoModel/Timed.lean is the instance "payload = notification" -/
theorem delayPops_eq (emits : List (Time × TN)) (fires : List (Time × Nat)) (m : Nat) :
    delayPops emits fires m = (delayPopsG emits fires m).map (fun p => Ev.at p.1 p.2) := by
  induction fires generalizing m with
  | nil => rfl
  | cons f fs ih =>
    unfold delayPops delayPopsG
    cases emits[m]? with
    | none => exact ih m
    | some e =>
      by_cases hle : e.1 ≤ f.1
      · simp only [hle, if_true, List.map_cons, ih (m + 1)]
      · simp only [hle, if_false]; exact ih m

/-- FIFO with payloads: what is delivered is, in order, a prefix of what is queued from position `m` on -/
theorem delayPopsG_prefix {γ : Type} (emits : List (Time × γ)) (fires : List (Time × Nat)) (m : Nat) :
    (delayPopsG emits fires m).map (·.2) <+: (emits.drop m).map (·.2) := by
  induction fires generalizing m with
  | nil => simp [delayPopsG]
  | cons f fs ih =>
    unfold delayPopsG
    cases h : emits[m]? with
    | none => exact ih m
    | some e =>
      obtain ⟨hlt, rfl⟩ := List.getElem?_eq_some_iff.1 h
      by_cases hle : emits[m].1 ≤ f.1
      · simp only [hle, if_true, List.map_cons]
        rw [List.drop_eq_getElem_cons hlt]
        exact (List.prefix_cons_inj _).2 (ih (m + 1))
      · simp only [hle, if_false]; exact ih m

/-- C09 for Delay: every delivered (context, notification) pair is a pair the source sent — a notification is never
    delivered with another notification's context -/
theorem delay_keeps_context {Ctx ν : Type} (emits : List (Time × (Ctx × ν))) (fires : List (Time × Nat)) (p : Time × (Ctx × ν))
    (hp : p ∈ delayPopsG emits fires 0) : p.2 ∈ emits.map (·.2) := by
  simpa using (delayPopsG_prefix emits fires 0).subset (List.mem_map_of_mem hp)

/-- the k-th delivery is the k-th emission, context included -/
theorem delay_kth {γ : Type} (emits : List (Time × γ)) (fires : List (Time × Nat)) (k : Nat) (p : Time × γ)
    (hk : (delayPopsG emits fires 0)[k]? = some p) : ∃ e, emits[k]? = some e ∧ e.2 = p.2 := by
  have := prefix_getElem? (delayPopsG_prefix emits fires 0) (k := k) (x := p.2) (by simp [hk])
  simpa [List.getElem?_map, Option.map_eq_some_iff] using this

/-- the other design (context in the timer's closure, notification in the queue): timer `f.2` brings its own context -/
def delayPopsTimerCtx {Ctx ν : Type} (emits : List (Time × (Ctx × ν))) : List (Time × Nat) → Nat → List (Time × (Ctx × ν))
  | [], _ => []
  | f :: fs, m =>
    match emits[m]?, emits[f.2]? with
    | some e, some t => if e.1 ≤ f.1 then (f.1, (t.2.1, e.2.2)) :: delayPopsTimerCtx emits fs (m + 1) else delayPopsTimerCtx emits fs m
    | _, _ => delayPopsTimerCtx emits fs m

/-- WITNESS (contexts written as numbers): two notifications sent together, the second timer takes the queue lock first:
    the pair queue delivers (c1, 1) then (c2, 2); the timer-context design delivers value 1 with the context of
    notification 2 -/
theorem timerCtx_witness :
    (delayPopsG [(0, ((1 : Nat), (1 : Int))), (0, (2, 2))] [(10, 1), (10, 0)] 0).map (·.2) = [(1, 1), (2, 2)] ∧
    (delayPopsTimerCtx [(0, ((1 : Nat), (1 : Int))), (0, (2, 2))] [(10, 1), (10, 0)] 0).map (·.2) = [(2, 1), (1, 2)] := by decide

end Ro.Timed
