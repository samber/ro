/-
  RoProofs.ObsNil — an observer with nil callbacks (C07: "failures that no one can receive go to the unhandled-error
  hook", C01: nothing is made up).
-/
import RoModel.ObsNil
namespace Ro.ObsNil
open Ro

theorem mem_chain_self (e : Err) : e ∈ e.chain := by
  cases e <;> simp [Err.chain]

variable (cfg : Cfg) (fault : Nat → Option Err)

/-- one notification adds at most itself to the dropped hook -/
theorem step_dropped (s : St) (x : Notif Int) :
    (step cfg fault s x).dropped = s.dropped ∨ (step cfg fault s x).dropped = s.dropped ++ [x] := by
  cases x <;> simp only [step] <;> (repeat' split) <;> first | exact .inl rfl | exact .inr rfl

/-- … and, without an error callback, at most the wrapped panic of the current invocation to the unhandled hook -/
theorem step_unhandled (he : cfg.hasError = false) (s : St) (x : Notif Int) :
    (step cfg fault s x).unhandled = s.unhandled ∨
      ∃ p, fault s.calls = some p ∧ (step cfg fault s x).unhandled = s.unhandled ++ [.observer p] := by
  cases x <;> simp only [step, he] <;> (repeat' split) <;> first | exact .inl rfl | exact .inr ⟨_, ‹_›, rfl⟩

/-- the dropped-notification hook only ever sees notifications the producer sent — never an error the library made up
    from a recovered panic -/
theorem dropped_from_script (script : List (Notif Int)) : ∀ n ∈ (run cfg fault script).dropped, n ∈ script := by
  suffices h : ∀ (xs : List (Notif Int)) (s : St), (∀ x ∈ xs, x ∈ script) → (∀ n ∈ s.dropped, n ∈ script) →
      ∀ n ∈ (xs.foldl (step cfg fault) s).dropped, n ∈ script from h script {} (fun _ h => h) nofun
  intro xs
  induction xs with
  | nil => exact fun _ _ hs => hs
  | cons x xs ih =>
    intro s hx hs
    have ⟨hx, hxs⟩ := List.forall_mem_cons.1 hx
    refine ih _ hxs fun n hn => ?_
    rcases step_dropped cfg fault s x with h | h <;> rw [h] at hn
    · exact hs n hn
    · rcases List.mem_append.1 hn with hn | hn
      · exact hs n hn
      · exact List.mem_singleton.1 hn ▸ hx

/-- an observer WITHOUT an error callback: a panic of its Next callback reaches the unhandled-error hook (wrapped once,
    still matching its cause), it never reaches the observer's own callbacks, and the observer stays open -/
theorem step_panic_unhandled (hn : cfg.hasNext = true) (he : cfg.hasError = false) (s : St) (hs : s.status = 0)
    (c : Ctx) (v : Int) (p : Err) (hf : fault s.calls = some p) :
    (step cfg fault s (.next c v)).unhandled = s.unhandled ++ [.observer p] ∧
    (step cfg fault s (.next c v)).trace = s.trace ∧ (step cfg fault s (.next c v)).dropped = s.dropped ∧
    (step cfg fault s (.next c v)).status = 0 ∧ p ∈ (Err.observer p).chain := by
  simp [step, hn, he, hs, hf, Err.chain, mem_chain_self]

/-- every entry of the unhandled hook is a wrapped panic value of the plan, in invocation order: one per faulting
    invocation, nothing else -/
theorem unhandled_only_panics (he : cfg.hasError = false) (script : List (Notif Int)) :
    ∀ e ∈ (run cfg fault script).unhandled, ∃ k p, fault k = some p ∧ e = .observer p := by
  suffices h : ∀ (s : St), (∀ e ∈ s.unhandled, ∃ k p, fault k = some p ∧ e = .observer p) →
      ∀ e ∈ (script.foldl (step cfg fault) s).unhandled, ∃ k p, fault k = some p ∧ e = .observer p from h {} nofun
  induction script with
  | nil => exact fun _ hs => hs
  | cons x xs ih =>
    refine fun s hs => ih _ fun e hm => ?_
    rcases step_unhandled cfg fault he s x with h | ⟨p, hp, h⟩ <;> rw [h] at hm
    · exact hs e hm
    · rcases List.mem_append.1 hm with hm | hm
      · exact hs e hm
      · exact ⟨_, p, hp, List.mem_singleton.1 hm⟩

example : (run ⟨true, false, true⟩ (fun k => if k = 1 then some (.user 5) else none)
      [.next {} 1, .next {} 2, .next {} 3, .complete {}]).unhandled = [.observer (.user 5)] := by decide
example : (run ⟨true, false, true⟩ (fun k => if k = 1 then some (.user 5) else none)
      [.next {} 1, .next {} 2, .next {} 3, .complete {}]).dropped = [] := by decide
example : (run ⟨true, false, true⟩ (fun _ => none) [.next {} 1, .error {} (.user 2), .next {} 3]).dropped
      = [.error {} (.user 2)] := by decide

end Ro.ObsNil
