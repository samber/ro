/-
  RoProofs.SubjectsMulti — publish / behavior / replay / async as instances of one parametrised
  multicast step function; the gate theorem (every subscriber's trace obeys the grammar, all five
  kinds); closed forms of every multicast operation on a state satisfying the invariant.
-/
import RoProofs.SubjectsPrim
namespace Ro.Subj
open Ro Ro.Subj.Spec

variable {α : Type}

/-- what distinguishes the four multicast subjects. `live`, `mem` are the closed form of `onNext`;
    `MP.Law` is the obligation linking them. -/
structure MP (α : Type) where
  /-- `NextWithContext` on a live subject -/
  onNext : State α → Ctx → α → State α
  /-- values are broadcast when they arrive -/
  live : Bool
  /-- how the stored values change with a new value -/
  mem : List (Ctx × α) → Ctx × α → List (Ctx × α)
  /-- stored values are replayed to a subscriber of a live / errored / completed subject -/
  rA : Bool
  rE : Bool
  rC : Bool
  /-- stored values are broadcast just before the completion -/
  flush : Bool

def rep (b : Bool) (s : State α) (i : Nat) : State α :=
  if b then replayTo (fresh s i) i s.values else fresh s i

def flushAll (b : Bool) (s : State α) : State α :=
  if b then s.values.foldl (fun s p => broadcastNext s p.1 p.2) s else s

def multiStep (P : MP α) (s : State α) : Op α → State α
  | .subscribe i c =>
    if (s.sub i).used then s else
    match s.status with
    | .errored ec e => subTerminal .delete (rep P.rE s i) i (.error ec e)
    | .completed => subTerminal .delete (rep P.rC s i) i (.complete c)
    | .active => register (rep P.rA s i) i
  | .next c v =>
    match s.status with
    | .active => P.onNext s c v
    | _ => s.drop (.next c v)
  | .error c e =>
    unsubscribeAll (match s.status with
      | .active => broadcastTerminal { s with status := .errored c e } (.error c e)
      | _ => s.drop (.error c e))
  | .complete c =>
    unsubscribeAll (match s.status with
      | .active => broadcastTerminal (flushAll P.flush { s with status := .completed }) (.complete c)
      | _ => s.drop (.complete c))
  | .unsubscribe i => if (s.sub i).used then subUnsubscribe .delete s i else s

def publishP : MP α :=
  { onNext := broadcastNext, live := true, mem := fun m _ => m, rA := false, rE := false, rC := false, flush := false }
def behaviorP : MP α :=
  { onNext := fun s c v => broadcastNext { s with values := [(c, v)] } c v, live := true, mem := fun _ p => [p],
    rA := true, rE := false, rC := false, flush := false }
def replayP (cap : Option Nat) : MP α :=
  { onNext := fun s c v => push cap (broadcastNext s c v) c v, live := true, mem := fun m p => lastN cap (m ++ [p]),
    rA := true, rE := true, rC := true, flush := false }
def asyncP : MP α :=
  { onNext := fun s c v => { s with values := [(c, v)] }, live := false, mem := fun _ p => [p],
    rA := false, rE := false, rC := true, flush := true }

theorem publishStep_eq : (publishStep : State α → Op α → State α) = multiStep publishP := by
  funext s o; cases o <;> rfl
theorem behaviorStep_eq : (behaviorStep : State α → Op α → State α) = multiStep behaviorP := by
  funext s o; cases o <;> rfl
theorem replayStep_eq (cap : Option Nat) : (replayStep cap : State α → Op α → State α) = multiStep (replayP cap) := by
  funext s o; cases o <;> rfl
theorem asyncStep_eq : (asyncStep : State α → Op α → State α) = multiStep asyncP := by
  funext s o; cases o <;> rfl

theorem allOk_multiStep (P : MP α) (hN : ∀ s c v, AllOk s → AllOk (P.onNext s c v)) {s : State α} (h : AllOk s) (o : Op α) :
    AllOk (multiStep P s o) := by
  have hrep : ∀ b i, AllOk (rep b s i) := fun b i => by
    unfold rep; split
    · exact allOk_replayTo (allOk_fresh h i) _ _
    · exact allOk_fresh h i
  cases o with
  | subscribe i c =>
    simp only [multiStep]
    split
    · exact h
    · split
      · exact allOk_subTerminal (hrep _ i) _ _ _
      · exact allOk_subTerminal (hrep _ i) _ _ _
      · exact allOk_register (hrep _ i) _
  | next c v =>
    simp only [multiStep]
    split
    · exact hN s c v h
    · exact allOk_drop h _
  | error c e =>
    apply allOk_unsubscribeAll
    split
    · exact allOk_broadcastTerminal (allOk_status h _) _
    · exact allOk_drop h _
  | complete c =>
    apply allOk_unsubscribeAll
    split
    · apply allOk_broadcastTerminal
      unfold flushAll; split
      · exact allOk_foldl _ (fun _ p hs => allOk_broadcastNext hs p.1 p.2) _ _ (allOk_status h _)
      · exact allOk_status h _
    · exact allOk_drop h _
  | unsubscribe i =>
    simp only [multiStep]
    split
    · exact allOk_subUnsubscribe h _ _
    · exact h

theorem allOk_step (k : Kind α) {s : State α} (h : AllOk s) (o : Op α) : AllOk (k.step s o) := by
  cases k with
  | publish =>
    show AllOk (publishStep s o)
    exact publishStep_eq ▸ allOk_multiStep publishP (fun _ c v hs => allOk_broadcastNext hs c v) h o
  | behavior init =>
    show AllOk (behaviorStep s o)
    exact behaviorStep_eq ▸ allOk_multiStep behaviorP (fun s c v hs => allOk_broadcastNext (s := { s with values := [(c, v)] }) (allOk_of_sub_eq hs rfl) c v) h o
  | replay cap =>
    show AllOk (replayStep cap s o)
    exact replayStep_eq cap ▸ allOk_multiStep (replayP cap) (fun _ c v hs => allOk_push (allOk_broadcastNext hs c v) _ _ _) h o
  | async =>
    show AllOk (asyncStep s o)
    exact asyncStep_eq ▸ allOk_multiStep asyncP (fun _ _ _ hs => allOk_of_sub_eq hs rfl) h o
  | unicast cap => exact allOk_unicastStep cap h o

theorem allOk_run (k : Kind α) (ops : List (Op α)) : AllOk (run k ops) :=
  List.foldlRecOn ops _ (fun _ => by cases k <;> exact ok_default) (fun _ h o _ => allOk_step k h o)

/-- **C01(c) for subjects**: for every kind, every buffer size, every operation sequence, every
    subscriber: the received trace is values, then at most one terminal, then nothing. -/
theorem subscriber_grammar (k : Kind α) (ops : List (Op α)) (i : Nat) : Grammar ((run k ops).sub i).got :=
  (allOk_run k ops i).grammar

/-- a subscriber that is still open has received no terminal -/
theorem open_subscriber_no_terminal (k : Kind α) (ops : List (Op α)) (i : Nat)
    (h : ((run k ops).sub i).status = 0) : hasTerm ((run k ops).sub i).got = false := by
  simpa [Sub.ok, h] using allOk_run k ops i

/-- what `onNext` does on a live subject satisfying the invariant -/
def MP.Law (P : MP α) : Prop :=
  ∀ (s : State α) (c : Ctx) (v : α), Inv s → s.status = .active → ∃ d,
    P.onNext s c v =
      { s with values := P.mem s.values (c, v), drops := d,
               sub := fun j => if P.live = true ∧ j ∈ s.observers
                               then { s.sub j with got := (s.sub j).got ++ [.next c v] } else s.sub j }

theorem publishP_law : (publishP : MP α).Law := by
  intro s c v h _
  refine ⟨s.drops, ?_⟩
  show broadcastNext s c v = _
  rw [broadcastNext_eq (fun j hj => (h.live j hj).2.1) h.nodup]
  apply State.ext' <;> simp [publishP]

theorem behaviorP_law : (behaviorP : MP α).Law := by
  intro s c v h _
  refine ⟨s.drops, ?_⟩
  show broadcastNext { s with values := [(c, v)] } c v = _
  rw [broadcastNext_eq (s := { s with values := [(c, v)] }) (fun j hj => (h.live j hj).2.1) h.nodup]
  apply State.ext' <;> simp [behaviorP]

theorem push_values (cap : Option Nat) (s : State α) (c : Ctx) (v : α) :
    (push cap s c v).values = lastN cap (s.values ++ [(c, v)]) ∧ (push cap s c v).sub = s.sub ∧
    (push cap s c v).observers = s.observers ∧ (push cap s c v).status = s.status := by
  unfold push
  cases cap with
  | none => simp [lastN]
  | some n =>
    dsimp only
    split
    · simp [lastN, State.drop]
    · rename_i hlen
      refine ⟨?_, rfl, rfl, rfl⟩
      simp only [lastN]
      have : (s.values ++ [(c, v)]).length - n = 0 := by omega
      rw [this]; rfl

theorem replayP_law (cap : Option Nat) : (replayP cap : MP α).Law := by
  intro s c v h _
  refine ⟨(push cap (broadcastNext s c v) c v).drops, ?_⟩
  show push cap (broadcastNext s c v) c v = _
  have hb := broadcastNext_eq (fun j hj => (h.live j hj).2.1) h.nodup c v
  obtain ⟨h1, h2, h3, h4⟩ := push_values cap (broadcastNext s c v) c v
  apply State.ext'
  · rw [h4, hb]
  · rw [h1, hb]; rfl
  · rw [h3, hb]
  · rw [h2, hb]; simp [replayP]
  · rfl

theorem asyncP_law : (asyncP : MP α).Law := by
  intro s c v _ _
  refine ⟨s.drops, ?_⟩
  show ({ s with values := [(c, v)] } : State α) = _
  apply State.ext' <;> simp [asyncP]

theorem rep_eq (b : Bool) (s : State α) (i : Nat) :
    rep b s i = s.modSub i (fun _ => { used := true, got := if b then nexts s.values else [] }) := by
  cases b with
  | false => simp [rep, fresh]
  | true =>
    simp only [rep, if_true]
    rw [replayTo_open s.values (fresh s i) i (by simp [fresh]), fresh, modSub_modSub]
    apply modSub_congr; simp

theorem flushAll_eq (b : Bool) (s : State α) (hl : ∀ j ∈ s.observers, (s.sub j).status = 0) (hn : s.observers.Nodup) :
    flushAll b s =
      { s with sub := fun j => if j ∈ s.observers
                               then { s.sub j with got := (s.sub j).got ++ (if b then nexts s.values else []) } else s.sub j } := by
  cases b with
  | false =>
    simp only [flushAll]
    apply State.ext' <;> try rfl
    funext j; by_cases hj : j ∈ s.observers <;> simp [hj]
  | true =>
    simp only [flushAll, if_true]
    suffices H : ∀ (vs : List (Ctx × α)) (s : State α), (∀ j ∈ s.observers, (s.sub j).status = 0) → s.observers.Nodup →
        vs.foldl (fun s p => broadcastNext s p.1 p.2) s =
          { s with sub := fun j => if j ∈ s.observers then { s.sub j with got := (s.sub j).got ++ nexts vs } else s.sub j } from
      H s.values s hl hn
    intro vs
    induction vs with
    | nil =>
      intro s _ _
      apply State.ext' <;> try rfl
      funext j; by_cases hj : j ∈ s.observers <;> simp [hj, nexts]
    | cons p vs ih =>
      intro s hl hn
      rw [List.foldl_cons, broadcastNext_eq hl hn p.1 p.2]
      refine (ih _ ?_ ?_).trans ?_
      · intro j hj
        have h0 := hl j hj
        -- the same list by `rfl`, restated so that `simp` can use it
        have hj' : j ∈ s.observers := hj
        simp [hj', h0]
      · exact hn
      · apply State.ext' <;> try rfl
        funext j; by_cases hj : j ∈ s.observers <;> simp [hj, nexts]

/-- the end of a live subject: every registered subscriber receives `tail`, is closed with `code` and is
    dropped from the map -/
def State.closeAll (s : State α) (st : Status) (code : Nat) (tail : List (Notif α)) : State α :=
  { s with status := st, observers := [],
           sub := fun j => if j ∈ s.observers then { s.sub j with status := code, td := false, got := (s.sub j).got ++ tail }
                           else s.sub j }

section
variable (s : State α) (st : Status) (code : Nat) (tail : List (Notif α))

@[simp] theorem State.closeAll_status : (s.closeAll st code tail).status = st := rfl
@[simp] theorem State.closeAll_observers : (s.closeAll st code tail).observers = [] := rfl
@[simp] theorem State.closeAll_values : (s.closeAll st code tail).values = s.values := rfl
@[simp] theorem State.closeAll_sub (j : Nat) :
    (s.closeAll st code tail).sub j =
      if j ∈ s.observers then { s.sub j with status := code, td := false, got := (s.sub j).got ++ tail } else s.sub j := rfl

end

theorem Inv.closeAll {s : State α} (h : Inv s) {st : Status} (code : Nat) (tail : List (Notif α)) :
    Inv (s.closeAll st code tail) := by
  refine ⟨nofun, ?_, .nil, fun _ => rfl⟩
  intro j hj
  rw [State.closeAll_sub] at hj
  by_cases hm : j ∈ s.observers
  · simp [hm] at hj
  · rw [if_neg hm] at hj; exact absurd (h.td j hj) hm

variable (P : MP α)

theorem step_subscribe_used {s : State α} {i : Nat} (c : Ctx) (hu : (s.sub i).used = true) :
    multiStep P s (.subscribe i c) = s := by
  simp [multiStep, hu]

theorem step_subscribe_active {s : State α} {i : Nat} (c : Ctx) (hu : (s.sub i).used = false) (ha : s.status = .active) :
    multiStep P s (.subscribe i c) =
      { s with observers := s.observers ++ [i],
               sub := fun j => if j = i then { used := true, status := 0, td := true, got := if P.rA then nexts s.values else [] }
                               else s.sub j } := by
  simp only [multiStep, hu, ha, rep_eq, register, Bool.false_eq_true, if_false]
  apply State.ext'
  · simp [ha]
  · rfl
  · rfl
  · funext j; by_cases hj : j = i <;> simp [hj]
  · rfl

theorem step_subscribe_errored {s : State α} {i : Nat} (c ec : Ctx) (e : Err) (hu : (s.sub i).used = false)
    (he : s.status = .errored ec e) :
    multiStep P s (.subscribe i c) =
      s.modSub i (fun _ => { used := true, status := 1, td := false, got := (if P.rE then nexts s.values else []) ++ [.error ec e] }) := by
  simp only [multiStep, hu, he, rep_eq, Bool.false_eq_true, if_false]
  rw [subTerminal_open_notd _ (by simp) (by simp), modSub_modSub]
  apply modSub_congr; simp [termCode]

theorem step_subscribe_completed {s : State α} {i : Nat} (c : Ctx) (hu : (s.sub i).used = false)
    (he : s.status = .completed) :
    multiStep P s (.subscribe i c) =
      s.modSub i (fun _ => { used := true, status := 2, td := false, got := (if P.rC then nexts s.values else []) ++ [.complete c] }) := by
  simp only [multiStep, hu, he, rep_eq, Bool.false_eq_true, if_false]
  rw [subTerminal_open_notd _ (by simp) (by simp), modSub_modSub]
  apply modSub_congr; simp [termCode]

theorem step_next_closed {s : State α} (c : Ctx) (v : α) (hc : s.status ≠ .active) :
    multiStep P s (.next c v) = s.drop (.next c v) := by
  cases hs : s.status <;> simp [multiStep, hs] at hc ⊢

theorem step_next_active {s : State α} (c : Ctx) (v : α) (ha : s.status = .active) :
    multiStep P s (.next c v) = P.onNext s c v := by
  simp [multiStep, ha]

theorem step_error_active {s : State α} (h : Inv s) (c : Ctx) (e : Err) (ha : s.status = .active) :
    multiStep P s (.error c e) = s.closeAll (.errored c e) 1 [.error c e] := by
  simp only [multiStep, ha, unsubscribeAll]
  rw [broadcastTerminal_eq (s := { s with status := .errored c e })
    (fun j hj => ⟨(h.live j hj).2.1, (h.live j hj).2.2⟩) h.nodup]
  rfl

theorem step_complete_active {s : State α} (h : Inv s) (c : Ctx) (ha : s.status = .active) :
    multiStep P s (.complete c) =
      s.closeAll .completed 2 ((if P.flush then nexts s.values else []) ++ [.complete c]) := by
  simp only [multiStep, ha]
  rw [flushAll_eq P.flush { s with status := .completed } (fun j hj => (h.live j hj).2.1) h.nodup]
  refine (congrArg unsubscribeAll (broadcastTerminal_eq ?_ ?_ _)).trans ?_
  · intro j hj
    have hj' : j ∈ s.observers := hj
    have := h.live j hj'
    simp [hj', this]
  · exact h.nodup
  · simp only [unsubscribeAll, State.closeAll]
    apply State.ext' <;> try rfl
    funext j; by_cases hj : j ∈ s.observers <;> simp [hj, termCode]

theorem step_terminal_closed {s : State α} (h : Inv s) (hc : s.status ≠ .active) :
    (∀ c e, multiStep P s (.error c e) = s.drop (.error c e)) ∧ (∀ c, multiStep P s (.complete c) = s.drop (.complete c)) := by
  have ho := h.closed hc
  constructor
  · intro c e
    simp only [multiStep, unsubscribeAll]
    apply State.ext' <;> simp [ho]
  · intro c
    simp only [multiStep, unsubscribeAll]
    apply State.ext' <;> simp [ho]

theorem step_unsubscribe_unused {s : State α} {i : Nat} (hu : (s.sub i).used = false) :
    multiStep P s (.unsubscribe i) = s := by
  simp [multiStep, hu]

theorem step_unsubscribe_reg {s : State α} (h : Inv s) {i : Nat} (hi : i ∈ s.observers) :
    multiStep P s (.unsubscribe i) =
      { s with observers := s.observers.filter (· != i),
               sub := fun j => if j = i then { s.sub j with status := 2, td := false } else s.sub j } := by
  have := h.live i hi
  simp only [multiStep, this.1, if_true]
  exact subUnsubscribe_delete_reg this.2.1 this.2.2

end Ro.Subj
