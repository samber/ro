/-
  RoProofs.SubjectsUnicast — the unicast subject: closed forms of its operations; apart from the
  admission of a new subscriber to a live subject, each of them is publish's up to the queue and the
  drop hook (`unicastStep_publish`), which carries the multicast invariant over; with "at most one
  registered subscriber" that is the unicast invariant.  Then the five kinds together: the invariant
  of a kind along every run, and that an unsubscription leaves the subscriber unregistered.
-/
import RoProofs.SubjectsKinds
namespace Ro.Subj
open Ro Ro.Subj.Spec

variable {α : Type}

theorem subTerminal_clear_reg {s : State α} {i : Nat} (h0 : (s.sub i).status = 0) (ht : (s.sub i).td = true)
    (n : Notif α) :
    subTerminal .clear s i n =
      { s with observers := [],
               sub := fun j => if j = i then { s.sub j with status := termCode n, td := false, got := (s.sub j).got ++ [n] } else s.sub j } := by
  unfold subTerminal runTeardown
  simp only [h0, if_true, modSub_sub, ht]
  apply State.ext' <;> try rfl
  funext j
  by_cases hj : j = i <;> simp [hj]

theorem subUnsubscribe_clear_reg {s : State α} {i : Nat} (h0 : (s.sub i).status = 0) (ht : (s.sub i).td = true) :
    subUnsubscribe .clear s i =
      { s with observers := [],
               sub := fun j => if j = i then { s.sub j with status := 2, td := false } else s.sub j } := by
  unfold subUnsubscribe runTeardown
  simp only [h0, if_true, modSub_sub, ht]
  apply State.ext' <;> try rfl
  funext j
  by_cases hj : j = i <;> simp [hj]

/-- the unicast invariant: the general one, and at most one registered subscriber -/
structure UInv (s : State α) : Prop where
  inv : Inv s
  one : s.observers.length ≤ 1

theorem UInv.obs_cases {s : State α} (h : UInv s) : s.observers = [] ∨ ∃ x, s.observers = [x] := by
  have := h.one
  cases ho : s.observers with
  | nil => exact .inl rfl
  | cons x t =>
    rw [ho] at this
    cases t with
    | nil => exact .inr ⟨x, rfl⟩
    | cons y t => simp at this

variable (cap : Option Nat)

theorem ustep_subscribe_used {s : State α} {i : Nat} (c : Ctx) (hu : (s.sub i).used = true) :
    unicastStep cap s (.subscribe i c) = s := by
  simp [unicastStep, hu]

theorem ustep_subscribe_late {s : State α} {i : Nat} (c : Ctx) (hu : (s.sub i).used = false) (hc : s.status ≠ .active) :
    unicastStep cap s (.subscribe i c) =
      s.modSub i (fun _ => { used := true, status := (match s.status with | .errored _ _ => 1 | _ => 2), td := false,
                             got := [match s.status with | .errored ec e => .error ec e | _ => .complete c] }) := by
  cases hs : s.status with
  | active => exact absurd hs hc
  | errored ec e =>
    simp only [unicastStep, hu, hs, Bool.false_eq_true, if_false]
    rw [subTerminal_open_notd _ (by simp [fresh]) (by simp [fresh]), fresh, modSub_modSub]
    apply modSub_congr; simp [termCode]
  | completed =>
    simp only [unicastStep, hu, hs, Bool.false_eq_true, if_false]
    rw [subTerminal_open_notd _ (by simp [fresh]) (by simp [fresh]), fresh, modSub_modSub]
    apply modSub_congr; simp [termCode]

theorem ustep_subscribe_busy {s : State α} {i x : Nat} (c : Ctx) (hu : (s.sub i).used = false) (ha : s.status = .active)
    (ho : s.observers = [x]) :
    unicastStep cap s (.subscribe i c) =
      s.modSub i (fun _ => { used := true, status := 1, td := false, got := [.error c (.sentinel 6)] }) := by
  simp only [unicastStep, hu, ha, ho, Bool.false_eq_true, if_false]
  rw [subTerminal_open_notd _ (by simp [fresh]) (by simp [fresh]), fresh, modSub_modSub]
  apply modSub_congr; simp [termCode]

theorem ustep_subscribe_admitted {s : State α} {i : Nat} (c : Ctx) (hu : (s.sub i).used = false) (ha : s.status = .active)
    (ho : s.observers = []) :
    unicastStep cap s (.subscribe i c) =
      { s with values := [], observers := [i],
               sub := fun j => if j = i then { used := true, status := 0, td := true, got := nexts s.values } else s.sub j } := by
  simp only [unicastStep, hu, ha, ho, Bool.false_eq_true, if_false]
  rw [replayTo_open s.values (fresh s i) i (by simp [fresh])]
  apply State.ext'
  · simp [ha, fresh]
  · rfl
  · rfl
  · funext j; by_cases hj : j = i <;> simp [hj, fresh]
  · rfl

theorem ustep_next_closed {s : State α} (c : Ctx) (v : α) (hc : s.status ≠ .active) :
    unicastStep cap s (.next c v) = s.drop (.next c v) := by
  cases hs : s.status <;> simp [unicastStep, hs] at hc ⊢

theorem ustep_next_held {s : State α} (h : UInv s) {x : Nat} (c : Ctx) (v : α) (ha : s.status = .active)
    (ho : s.observers = [x]) :
    unicastStep cap s (.next c v) = s.modSub x (fun y => { y with got := y.got ++ [.next c v] }) := by
  have := h.inv.live x (by simp [ho])
  simp only [unicastStep, ha, ho]
  exact subNext_open this.2.1 c v

theorem ustep_next_idle {s : State α} (c : Ctx) (v : α) (ha : s.status = .active) (ho : s.observers = []) :
    unicastStep cap s (.next c v) = push cap s c v := by
  simp only [unicastStep, ha, ho]

/-- the end of a live unicast subject: its one subscriber, if any, is closed like the subscribers of a publish
    subject; with nobody there the terminal is dropped -/
theorem unicast_closeAll {s : State α} (h : UInv s) (st : Status) (n : Notif α) :
    (match s.observers with
      | i :: _ => subTerminal .clear { s with status := st, observers := [] } i n
      | [] => { s with status := st }.drop n) =
      { s.closeAll st (termCode n) [n] with drops := if s.observers = [] then s.drops ++ [n] else s.drops } := by
  rcases h.obs_cases with ho | ⟨x, ho⟩
  · rw [ho]; apply State.ext' <;> simp [State.drop, State.closeAll, ho]
  · have := h.inv.live x (by simp [ho])
    simp only [ho]
    rw [subTerminal_clear_reg (s := { s with status := st, observers := [] }) this.2.1 this.2.2]
    apply State.ext' <;> simp [State.closeAll, ho]

theorem ustep_error_active {s : State α} (h : UInv s) (c : Ctx) (e : Err) (ha : s.status = .active) :
    unicastStep cap s (.error c e) =
      { s.closeAll (.errored c e) 1 [.error c e] with
        drops := if s.observers = [] then s.drops ++ [.error c e] else s.drops } := by
  simp only [unicastStep, ha]; exact unicast_closeAll h _ _

theorem ustep_complete_active {s : State α} (h : UInv s) (c : Ctx) (ha : s.status = .active) :
    unicastStep cap s (.complete c) =
      { s.closeAll .completed 2 [.complete c] with
        drops := if s.observers = [] then s.drops ++ [.complete c] else s.drops } := by
  simp only [unicastStep, ha]; exact unicast_closeAll h _ _

theorem ustep_terminal_closed {s : State α} (hc : s.status ≠ .active) :
    (∀ c e, unicastStep cap s (.error c e) = s.drop (.error c e)) ∧
    (∀ c, unicastStep cap s (.complete c) = s.drop (.complete c)) := by
  constructor
  · intro c e; cases hs : s.status <;> simp [unicastStep, hs] at hc ⊢
  · intro c; cases hs : s.status <;> simp [unicastStep, hs] at hc ⊢

theorem ustep_unsubscribe_unused {s : State α} {i : Nat} (hu : (s.sub i).used = false) :
    unicastStep cap s (.unsubscribe i) = s := by
  simp [unicastStep, hu]

theorem ustep_unsubscribe_reg {s : State α} (h : UInv s) {i : Nat} (hi : i ∈ s.observers) :
    unicastStep cap s (.unsubscribe i) =
      { s with observers := [],
               sub := fun j => if j = i then { s.sub j with status := 2, td := false } else s.sub j } := by
  have := h.inv.live i hi
  simp only [unicastStep, this.1, if_true]
  exact subUnsubscribe_clear_reg this.2.1 this.2.2

/-- `Unsubscribe` touches the observer field and the subscriber's own status, nothing else -/
theorem ustep_unsubscribe_frame {s : State α} (h : UInv s) (j : Nat) :
    (unicastStep cap s (.unsubscribe j)).status = s.status ∧ (unicastStep cap s (.unsubscribe j)).values = s.values ∧
    (∀ k, ((unicastStep cap s (.unsubscribe j)).sub k).used = (s.sub k).used) ∧
    (unicastStep cap s (.unsubscribe j)).observers = if j ∈ s.observers then [] else s.observers := by
  cases hu : (s.sub j).used with
  | false =>
    rw [ustep_unsubscribe_unused cap hu]
    simp [h.inv.not_mem_of_unused hu]
  | true =>
    by_cases hj : j ∈ s.observers
    · rw [ustep_unsubscribe_reg cap h hj]
      refine ⟨rfl, rfl, fun k => ?_, by simp [hj]⟩
      by_cases hk : k = j <;> simp [hk]
    · obtain ⟨h1, h2, h3, h4⟩ := subUnsubscribe_unreg (s := s) (i := j) .clear (h.inv.td_false hj)
      simp only [unicastStep, hu, if_true, hj, if_false]
      exact ⟨h2, h3, fun k => (h4 k).2.1, h1⟩

/-- every operation except the `Subscribe` of a new subscriber to a live subject does to a unicast subject what it
    does to a publish subject, up to the queue and the dropped notifications; and it leaves at most one observer -/
theorem unicastStep_publish {s : State α} (h : UInv s) (o : Op α)
    (ho : ∀ j c, o = .subscribe j c → (s.sub j).used = true ∨ s.status ≠ .active) :
    (∃ vs ds, unicastStep cap s o = { multiStep publishP s o with values := vs, drops := ds }) ∧
    (unicastStep cap s o).observers.length ≤ 1 := by
  have hI := h.inv
  cases o with
  | subscribe j c =>
    cases hu : (s.sub j).used with
    | true =>
      rw [ustep_subscribe_used cap c hu, step_subscribe_used publishP c hu]
      exact ⟨⟨_, _, rfl⟩, h.one⟩
    | false =>
      have hc : s.status ≠ .active := (ho j c rfl).resolve_left (by simp [hu])
      have e : unicastStep cap s (.subscribe j c) = multiStep publishP s (.subscribe j c) := by
        cases hs : s.status with
        | active => exact absurd hs hc
        | _ =>
          simp only [unicastStep, multiStep, hu, hs, publishP, rep, Bool.false_eq_true, if_false]
          rw [subTerminal_open_notd .clear (by simp [fresh]) (by simp [fresh]),
            subTerminal_open_notd .delete (by simp [fresh]) (by simp [fresh])]
      rw [e]
      refine ⟨⟨_, _, rfl⟩, ?_⟩
      cases hs : s.status with
      | active => exact absurd hs hc
      | errored ec e => rw [step_subscribe_errored publishP c ec e hu hs]; exact h.one
      | completed => rw [step_subscribe_completed publishP c hu hs]; exact h.one
  | next c v =>
    by_cases ha : s.status = .active
    · rw [step_next_active publishP c v ha]
      rcases h.obs_cases with ho | ⟨x, ho⟩
      · have e : publishP.onNext s c v = s := by simp [publishP, broadcastNext, ho]
        rw [ustep_next_idle cap c v ha ho, e]
        obtain ⟨_, h2, h3, h4⟩ := push_values cap s c v
        exact ⟨⟨(push cap s c v).values, (push cap s c v).drops, State.ext' h4 rfl h3 h2 rfl⟩, by rw [h3]; exact h.one⟩
      · have e : publishP.onNext s c v = subNext s x c v := by simp [publishP, broadcastNext, ho]
        rw [ustep_next_held cap h c v ha ho, e, subNext_open (hI.live x (by simp [ho])).2.1]
        exact ⟨⟨_, _, rfl⟩, h.one⟩
    · rw [ustep_next_closed cap c v ha, step_next_closed publishP c v ha]
      exact ⟨⟨_, _, rfl⟩, h.one⟩
  | error c e =>
    by_cases ha : s.status = .active
    · rw [step_error_active publishP hI c e ha, ustep_error_active cap h c e ha]
      exact ⟨⟨_, _, rfl⟩, Nat.zero_le _⟩
    · rw [(ustep_terminal_closed cap ha).1, (step_terminal_closed publishP hI ha).1]
      exact ⟨⟨_, _, rfl⟩, h.one⟩
  | complete c =>
    by_cases ha : s.status = .active
    · rw [step_complete_active publishP hI c ha, ustep_complete_active cap h c ha]
      exact ⟨⟨_, _, rfl⟩, Nat.zero_le _⟩
    · rw [(ustep_terminal_closed cap ha).2, (step_terminal_closed publishP hI ha).2]
      exact ⟨⟨_, _, rfl⟩, h.one⟩
  | unsubscribe j =>
    cases hu : (s.sub j).used with
    | false =>
      rw [ustep_unsubscribe_unused cap hu, step_unsubscribe_unused publishP hu]
      exact ⟨⟨_, _, rfl⟩, h.one⟩
    | true =>
      by_cases hj : j ∈ s.observers
      · rw [ustep_unsubscribe_reg cap h hj, step_unsubscribe_reg publishP hI hj]
        refine ⟨⟨s.values, s.drops, ?_⟩, by simp⟩
        rcases h.obs_cases with ho | ⟨x, ho⟩
        · rw [ho] at hj; cases hj
        · have : j = x := by simpa [ho] using hj
          apply State.ext' <;> simp [ho, this]
      · have ht := hI.td_false hj
        simp only [unicastStep, multiStep, hu, if_true, subUnsubscribe, runTeardown]
        refine ⟨⟨s.values, s.drops, ?_⟩, ?_⟩
        · split <;> simp only [modSub_sub, if_true, ht, Bool.false_eq_true, if_false] <;> rfl
        · split <;> simp [ht, h.one]

theorem UInv.drop {s : State α} (h : UInv s) (n : Notif α) : UInv (s.drop n) := ⟨h.inv.drop n, h.one⟩

theorem uinv_init : UInv (Kind.unicast (α := α) cap).init := ⟨inv_init _, by simp [Kind.init]⟩

theorem uinv_step {s : State α} (h : UInv s) (o : Op α) : UInv (unicastStep cap s o) := by
  have hI := h.inv
  by_cases ho : ∀ j c, o = .subscribe j c → (s.sub j).used = true ∨ s.status ≠ .active
  · obtain ⟨⟨vs, ds, e⟩, h1⟩ := unicastStep_publish cap h o ho
    refine ⟨?_, h1⟩
    rw [e]
    exact (inv_multiStep publishP publishP_law hI o).of_eq_on rfl rfl (fun _ => ⟨rfl, fun _ => ⟨rfl, rfl⟩⟩)
  · cases o with
    | subscribe i c =>
      have hu : (s.sub i).used = false := by
        cases hu : (s.sub i).used with
        | false => rfl
        | true => exact absurd (fun j c e => by cases e; exact .inl hu) ho
      have ha : s.status = .active := Decidable.byContradiction fun hn =>
        ho (fun j c e => by cases e; exact .inr hn)
      have hi : i ∉ s.observers := hI.not_mem_of_unused hu
      rcases h.obs_cases with ho | ⟨x, ho⟩
      · rw [ustep_subscribe_admitted cap c hu ha ho]
        refine ⟨⟨?_, ?_, by simp, ?_⟩, by simp⟩
        · intro j hj
          simp only [List.mem_singleton] at hj
          simp [hj]
        · intro j hj
          by_cases hji : j = i
          · simp [hji]
          · simp only [hji, if_false] at hj
            have := hI.td j hj
            rw [ho] at this; cases this
        · intro hc; exact absurd ha hc
      · rw [ustep_subscribe_busy cap c hu ha ho]; exact ⟨hI.late hi _ rfl, h.one⟩
    | _ => exact absurd (fun j c e => by cases e) ho

theorem Kind.multi_or_unicast (k : Kind α) :
    (∃ P : MP α, P.Law ∧ k.step = multiStep P ∧ ∀ cap, k ≠ .unicast cap) ∨ ∃ cap, k = .unicast cap := by
  cases k with
  | publish => exact .inl ⟨publishP, publishP_law, publishStep_eq, fun _ h => by cases h⟩
  | behavior init => exact .inl ⟨behaviorP, behaviorP_law, behaviorStep_eq, fun _ h => by cases h⟩
  | replay cap => exact .inl ⟨replayP cap, replayP_law cap, replayStep_eq cap, fun _ h => by cases h⟩
  | async => exact .inl ⟨asyncP, asyncP_law, asyncStep_eq, fun _ h => by cases h⟩
  | unicast cap => exact .inr ⟨cap, rfl⟩

/-- the registration invariant of a kind: `Inv`, plus "at most one observer" for unicast -/
def KInv (k : Kind α) (s : State α) : Prop := Inv s ∧ ∀ cap, k = .unicast cap → s.observers.length ≤ 1

theorem kinv_init (k : Kind α) : KInv k k.init := ⟨inv_init k, fun _ _ => by cases k <;> simp [Kind.init]⟩

theorem kinv_step (k : Kind α) {s : State α} (h : KInv k s) (o : Op α) : KInv k (k.step s o) := by
  rcases k.multi_or_unicast with ⟨P, hP, hk, hn⟩ | ⟨cap, rfl⟩
  · rw [hk]; exact ⟨inv_multiStep P hP h.1 o, fun cap e => absurd e (hn cap)⟩
  · have := uinv_step cap ⟨h.1, h.2 cap rfl⟩ o
    exact ⟨this.inv, fun _ _ => this.one⟩

theorem kinv_run (k : Kind α) (ops : List (Op α)) : KInv k (run k ops) :=
  List.foldlRecOn ops _ (kinv_init k) (fun _ h o _ => kinv_step k h o)

/-- **unicast admits one subscriber at a time** — every operation sequence -/
theorem unicast_one_observer (ops : List (Op α)) : (run (.unicast cap) ops).observers.length ≤ 1 :=
  (kinv_run (.unicast cap) ops).2 cap rfl

/-- an unsubscription removes the subscriber from the subject, from any state that satisfies the kind's invariant -/
theorem unsubscribe_drops (k : Kind α) {s : State α} (h : KInv k s) (i : Nat) : i ∉ (k.step s (.unsubscribe i)).observers := by
  rcases k.multi_or_unicast with ⟨P, _, hk, _⟩ | ⟨cap, rfl⟩
  · rw [hk]
    cases hu : (s.sub i).used with
    | false => rw [step_unsubscribe_unused P hu]; exact h.1.not_mem_of_unused hu
    | true =>
      by_cases hi : i ∈ s.observers
      · rw [step_unsubscribe_reg P h.1 hi]; simp
      · have := (subUnsubscribe_unreg (s := s) (i := i) .delete (h.1.td_false hi)).1
        simp only [multiStep, hu, if_true, this]; exact hi
  · show i ∉ (unicastStep cap s (.unsubscribe i)).observers
    rw [(ustep_unsubscribe_frame cap ⟨h.1, h.2 cap rfl⟩ i).2.2.2]
    split
    · simp
    · assumption

end Ro.Subj
