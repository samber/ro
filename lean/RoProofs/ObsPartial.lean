/-
  RoProofs.ObsPartial — what the partial observers see (C01 at the observer end: values, at most one terminal, silence;
  C07: nothing reaches the hooks that should not).

  All of them are the observer with three callbacks under a panic plan of the value callback (`open_run`): a value whose
  invocation panics is replaced, in place, by the wrapped panic handed to the error callback, the stream goes on, the
  dropped hook sees what follows the first terminal, the unhandled hook nothing. Each statement below restricts that
  trace to the notifications one callback sees.
-/
import RoModel.ObsPartial
import RoProofs.Gate
namespace Ro

namespace ObsPartial
open ObsNil

/-- the values of a gated script that the value callback returns from normally: invocation `k` (counted from `k0`)
    panics iff `fault k` is some panic value -/
def pick (fault : Nat → Option Err) : Nat → List (Notif Int) → List (Notif Int)
  | _, [] => []
  | k, v :: vs => (if (fault k).isNone then [v] else []) ++ pick fault (k + 1) vs

def isNextB : Notif Int → Bool
  | .next _ _ => true
  | _ => false

/-- what the three callbacks of a full observer (`NewObserver`) see of a gated script under a panic plan of the value
    callback: a value whose invocation panics is replaced, in place, by the wrapped panic handed to the error callback -
    and the stream goes on (the status word is not flipped: the listed C01/C07 finding, stated exactly) -/
def pickFull (fault : Nat → Option Err) : Nat → List (Notif Int) → List (Notif Int)
  | _, [] => []
  | k, .next c v :: vs =>
    (match fault k with
     | none => Notif.next c v
     | some p => Notif.error c (.observer p)) :: pickFull fault (k + 1) vs
  | k, t :: vs => t :: pickFull fault k vs

/-- a closed observer refuses everything: each later notification goes to the dropped hook, once, in order -/
theorem closed_run (fault : Nat → Option Err) (script : List (Notif Int)) (s : St) (hs : s.status ≠ 0) :
    script.foldl (step allCbs fault) s = { s with dropped := s.dropped ++ script } := by
  induction script generalizing s with
  | nil => simp
  | cons x xs ih =>
    have : step allCbs fault s x = { s with dropped := s.dropped ++ [x] } := by
      cases x <;> simp [step, allCbs, hs]
    rw [List.foldl_cons, this, ih _ (by exact hs)]
    simp

/-- an open observer with three callbacks, under ANY panic plan of the value callback: a panic neither closes the observer
    nor loses a later value, and it is handed to the error callback, never to the unhandled hook -/
theorem open_run (fault : Nat → Option Err) (script : List (Notif Int)) (s : St) (hs : s.status = 0) :
    (script.foldl (step allCbs fault) s).trace = s.trace ++ pickFull fault s.calls (gate script) ∧
    (script.foldl (step allCbs fault) s).dropped = s.dropped ++ gateDropped script ∧
    (script.foldl (step allCbs fault) s).unhandled = s.unhandled := by
  induction script generalizing s with
  | nil => simp [gate, gateDropped, pickFull]
  | cons x xs ih =>
    cases x with
    | next c v =>
      have hst : step allCbs fault s (.next c v) = { s with calls := s.calls + 1, trace := s.trace ++
          [match fault s.calls with | none => .next c v | some p => .error c (.observer p)] } := by
        cases hf : fault s.calls <;> simp [step, allCbs, hs, hf]
      obtain ⟨h1, h2, h3⟩ := ih (step allCbs fault s (.next c v)) (by rw [hst]; exact hs)
      rw [List.foldl_cons, h1, h2, h3, hst]
      simp [gate, gateDropped, pickFull]
    | error c e =>
      have hst : step allCbs fault s (.error c e) = { s with status := 1, trace := s.trace ++ [.error c e] } := by
        simp [step, allCbs, hs]
      rw [List.foldl_cons, hst, closed_run fault xs _ (by simp)]
      simp [gate, gateDropped, pickFull]
    | complete c =>
      have hst : step allCbs fault s (.complete c) = { s with status := 2, trace := s.trace ++ [.complete c] } := by
        simp [step, allCbs, hs]
      rw [List.foldl_cons, hst, closed_run fault xs _ (by simp)]
      simp [gate, gateDropped, pickFull]

theorem pickFull_noFault (k : Nat) (l : List (Notif Int)) : pickFull noFault k l = l := by
  induction l generalizing k with
  | nil => rfl
  | cons x xs ih => cases x <;> simp [pickFull, noFault, ih]

theorem faultOf_noFault (k : Ctor) : faultOf k noFault = noFault := by cases k <;> rfl

/-- what the user's callback of a partial observer sees: the notifications of its kind in the gated script -/
theorem seen_noFault (k : Ctor) (script : List (Notif Int)) :
    (run k noFault script).seen = (gate script).filter (sees k) := by
  simp [run, ObsNil.run, faultOf_noFault, (open_run noFault script {} rfl).1, pickFull_noFault]

/-- the dropped hook sees exactly what follows the first terminal — in particular NOT the terminal itself, although the
    partial observer has "no" callback for it: it is consumed by the empty callback -/
theorem dropped_noFault (k : Ctor) (script : List (Notif Int)) :
    (run k noFault script).dropped = gateDropped script := by
  simp [run, ObsNil.run, (open_run _ script {} rfl).2.1]

/-- the unhandled-error hook stays silent whatever the one callback does (its panic goes to the empty error callback) -/
theorem unhandled_nil (k : Ctor) (fault : Nat → Option Err) (script : List (Notif Int)) :
    (run k fault script).unhandled = [] :=
  (open_run _ script {} rfl).2.2

/-- C01 at the observer end: what any partial observer's callback saw is a sub-sequence of a grammatical trace, hence
    values first, at most one terminal, nothing after it -/
theorem seen_grammar (k : Ctor) (script : List (Notif Int)) : Grammar (run k noFault script).seen :=
  seen_noFault k script ▸ Grammar.filter _ _ (gate_grammar script)

theorem filter_pickFull (fault : Nat → Option Err) (k : Nat) (l : List (Notif Int)) :
    (pickFull fault k l).filter (sees .onNext) = pick fault k (l.filter isNextB) := by
  induction l generalizing k with
  | nil => rfl
  | cons x xs ih =>
    cases x with
    | next c v => cases hf : fault k <;> simp [pickFull, pick, sees, isNextB, List.filter_cons, hf, ih]
    | error c e => simp [pickFull, sees, isNextB, ih]
    | complete c => simp [pickFull, sees, isNextB, ih]

/-- `OnNext` under ANY panic plan of its callback: the callback has returned normally from exactly the values of the gated
    script whose invocation did not panic, in order — a panic neither closes the observer nor loses a later value (the
    listed C01/C07 finding about `observerImpl`: the status is not flipped), and it is handed to the empty error callback -/
theorem seen_onNext_fault (fault : Nat → Option Err) (script : List (Notif Int)) :
    (run .onNext fault script).seen = pick fault 0 ((gate script).filter isNextB) := by
  simp [run, ObsNil.run, faultOf, (open_run fault script {} rfl).1, filter_pickFull]

theorem seen_full_fault (fault : Nat → Option Err) (script : List (Notif Int)) :
    (run .full fault script).seen = pickFull fault 0 (gate script) := by
  have hs : ∀ l : List (Notif Int), l.filter (sees .full) = l :=
    fun l => List.filter_eq_self.2 fun a _ => by cases a <;> rfl
  simp [run, ObsNil.run, faultOf, (open_run fault script {} rfl).1, hs]

end ObsPartial
end Ro
