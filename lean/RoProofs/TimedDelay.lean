/-
  RoProofs.TimedDelay — Delay never delivers early and never reorders (C16), for every source
  timeline and every firing order / firing instants of the AfterFunc callbacks that respect
  "never early". The pigeonhole argument of DESIGN.md §5/C16: when the m-th callback (in the order in
  which they take `muQueue`) runs, m+1 distinct timers have fired, so one of them has index ≥ m; it was
  armed no earlier than timer m, hence `d` has elapsed since emission m — and the queue is FIFO.
-/
import RoProofs.TimedBasic
namespace Ro.Timed

/-- pigeonhole: of more than `m` distinct naturals one is at least `m` -/
theorem exists_ge_of_nodup (m : Nat) (l : List Nat) (hn : l.Nodup) (hl : m < l.length) : ∃ x ∈ l, m ≤ x := by
  refine Decidable.by_contra fun h => ?_
  have := hn.length_le_of_subset (l₂ := List.range m) fun x hx =>
    List.mem_range.2 (Nat.lt_of_not_le fun hm => h ⟨x, hx, hm⟩)
  simp at this; omega

theorem sorted_getElem?_le {emits : List (Time × TN)} (hs : emits.Pairwise (fun x y => x.1 ≤ y.1))
    {i j : Nat} {a b : Time × TN} (hij : i ≤ j) (ha : emits[i]? = some a) (hb : emits[j]? = some b) : a.1 ≤ b.1 := by
  rcases Nat.lt_or_eq_of_le hij with h | rfl
  · obtain ⟨hi, rfl⟩ := List.getElem?_eq_some_iff.1 ha
    obtain ⟨hj, rfl⟩ := List.getElem?_eq_some_iff.1 hb
    exact List.pairwise_iff_getElem.1 hs i j hi hj h
  · cases ha.symm.trans hb; exact Nat.le_refl _

/-- The m-th callback pops the m-th emission, and `d` has elapsed since that emission.
    `pre` = the callbacks that have run (each popped), `fs` = those still to come. -/
theorem delayPops_spec (d : Nat) (emits : List (Time × TN)) (hs : emits.Pairwise (fun x y => x.1 ≤ y.1)) :
    ∀ (fs pre : List (Time × Nat)),
      (pre ++ fs).Pairwise (fun x y => x.1 ≤ y.1) → ((pre ++ fs).map (·.2)).Nodup →
      (∀ f ∈ pre ++ fs, ∃ e, emits[f.2]? = some e ∧ e.1 + d ≤ f.1) →
      ∀ k dl, (delayPops emits fs pre.length)[k]? = some dl →
        ∃ e, emits[pre.length + k]? = some e ∧ dl.n = e.2 ∧ e.1 + d ≤ dl.t0
  | [], pre, _, _, _, k, dl, h => by simp [delayPops] at h
  | f :: fs, pre, hsort, hnd, hne, k, dl, h => by
    have hassoc : pre ++ f :: fs = (pre ++ [f]) ++ fs := by simp
    rw [hassoc] at hsort hnd hne
    -- m+1 distinct timers have fired: one of them, `g`, has index ≥ m, and fired no later than `f`
    rw [List.map_append] at hnd
    obtain ⟨x, hx, hmx⟩ := exists_ge_of_nodup pre.length _ (List.nodup_append.1 hnd).1 (by simp)
    obtain ⟨g, hg, rfl⟩ := List.mem_map.1 hx
    have hgf : g.1 ≤ f.1 := by
      rcases List.mem_append.1 hg with hgp | hgf
      · exact (List.pairwise_append.1 (List.pairwise_append.1 hsort).1).2.2 g hgp f (List.mem_singleton_self f)
      · cases List.mem_singleton.1 hgf; exact Nat.le_refl _
    obtain ⟨e', he', hde'⟩ := hne g (List.mem_append_left _ hg)
    -- emission m is no later than emission `g.2`, which is `d` before `g` fired
    have hlt : pre.length < emits.length := by
      have := (List.getElem?_eq_some_iff.1 he').1
      omega
    have hem := List.getElem?_eq_getElem hlt
    have hle := sorted_getElem?_le hs hmx hem he'
    have hpop : delayPops emits (f :: fs) pre.length
        = Ev.at f.1 (emits[pre.length]).2 :: delayPops emits fs (pre.length + 1) := by
      have : (emits[pre.length]).1 ≤ f.1 := by omega
      simp [delayPops, hem, this]
    rw [hpop] at h
    cases k with
    | zero =>
      cases h
      exact ⟨_, hem, rfl, by simp only [Ev.at]; omega⟩
    | succ k =>
      have := delayPops_spec d emits hs fs (pre ++ [f]) hsort (by rwa [List.map_append]) hne k dl
        (by simpa using h)
      simpa [Nat.add_assoc, Nat.add_comm 1 k] using this

theorem delayPops_run (r : DelayRun) (h : DelayWF r) (k : Nat) (dl : Ev)
    (hk : (delayPops r.emits r.fires 0)[k]? = some dl) :
    ∃ e : Time × TN, r.emits[k]? = some e ∧ dl.n = e.2 ∧ e.1 + r.d ≤ dl.t0 := by
  simpa using delayPops_spec r.d r.emits h.emitsSorted r.fires [] h.firesSorted h.nodup h.neverEarly k dl hk

/-- **Delay never acts early and never reorders** (DESIGN.md Appendix A, `delay_never_early`):
    in every run whose environment respects "never early", the k-th delivery is the k-th emitted
    notification and happens no sooner than `d` after it was emitted. -/
theorem delay_never_early (r : DelayRun) (h : DelayWF r) :
    ∀ (k : Nat) (dl : Ev), (delayTrace r).dels[k]? = some dl →
      ∃ e : Time × TN, r.emits[k]? = some e ∧ dl.n = e.2 ∧ e.1 + r.d ≤ dl.t0 :=
  fun k dl hk => delayPops_run r h k dl (down_getElem? hk)

/-- every run of the Delay model satisfies the clause of C16, hence is accepted -/
theorem delay_model_clause (r : DelayRun) (h : DelayWF r) :
    Clause { op := .delay, d := r.d } (delayTrace r) :=
  clause_down r.unsub _ rfl (silentOK_down _ r.unsub _ rfl rfl) fun k dl hk => by
    obtain ⟨e, he, hn, ht⟩ := delayPops_run r h k dl hk
    have : (delayTrace r).emits[k]? = some (Ev.at e.1 e.2) := by simp [delayTrace, he]
    simp only [OpAt, DelayAt, this]
    exact ⟨hn, ht⟩

-- non-vacuity: three emissions in a burst, callbacks run out of timer order and late
def exRun : DelayRun :=
  { d := 5, sub := 0, emits := [(1, .next 1), (1, .next 2), (2, .complete)], fires := [(6, 1), (7, 0), (9, 2)], unsub := none }
example : (delayTrace exRun).dels = [Ev.at 6 (.next 1), Ev.at 7 (.next 2), Ev.at 9 .complete] := by decide
example : DelayWF exRun := ⟨by decide, by decide, by decide, by decide⟩
-- a timer that fires early is exactly what the clause excludes
example : ¬ Clause { op := .delay, d := 5 }
    (delayTrace { d := 5, sub := 0, emits := [(1, .next 1)], fires := [(3, 0)], unsub := none }) := by decide

end Ro.Timed
