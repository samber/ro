/-
  RoProofs.Chain — C02 (b): which subscriber does a stage of a chain emit into, and is it a
  locking one whenever that stage can be fed from several goroutines?

  `observableImpl.SubscribeWithContext` wraps its destination with `NewSubscriberWithConcurrencyMode
  (destination, s.mode)`, and `newSubscriberImpl` returns a destination that already is a
  Subscriber *as is* (subscriber.go:117-121). A pass-through operator hands its own subscriber to
  its source. Hence the subscriber that stage k emits into was created by the most downstream
  operator of the run of pass-through operators directly below it in the pipe (directly
  downstream of k), or by k itself when the next stage is not a pass-through.
-/
import RoModel.FactPreds
namespace Ro.Facts

theorem emitMode_mem : ∀ (r : OpFact) (rest : List OpFact) (c : Ctor), emitMode (r :: rest) = some c →
    c = r.ctor ∨ ∃ q ∈ rest, q.passThrough = true ∧ c = q.ctor
  | r, [], c, h => by simp [emitMode] at h; exact Or.inl h.symm
  | r, r' :: rest, c, h => by
    simp only [emitMode] at h
    split at h
    · rename_i hp
      rcases emitMode_mem r' rest c h with h1 | ⟨q, hq, hqp, hqc⟩
      · exact Or.inr ⟨r', List.mem_cons_self .., hp, h1⟩
      · exact Or.inr ⟨q, List.mem_cons_of_mem _ hq, hqp, hqc⟩
    · simp at h; exact Or.inl h.symm

/-- **C02 (b)**: in any pipe whose stages all satisfy the strict row predicate, every stage that
    can be fed from several goroutines emits into a locking subscriber — whatever follows it. -/
theorem multiFeeder_emits_serialized (r : OpFact) (rest : List OpFact)
    (hr : c02RowStrict r = true) (hrest : ∀ q ∈ rest, c02RowStrict q = true)
    (hm : r.multiFeeder = true) :
    ∃ c, emitMode (r :: rest) = some c ∧ serializedMode c = true := by
  have hex : ∀ (r : OpFact) (rest : List OpFact), ∃ c, emitMode (r :: rest) = some c := by
    intro r rest
    induction rest generalizing r with
    | nil => exact ⟨_, rfl⟩
    | cons r' rest ih =>
      simp only [emitMode]
      split
      · exact ih r'
      · exact ⟨_, rfl⟩
  obtain ⟨c, hc⟩ := hex r rest
  refine ⟨c, hc, ?_⟩
  rcases emitMode_mem r rest c hc with h | ⟨q, hq, hqp, hqc⟩
  · subst h
    simp only [c02RowStrict, Bool.and_eq_true, Bool.or_eq_true, Bool.not_eq_true'] at hr
    rcases hr.1.2 with h | h
    · simp [hm] at h
    · simpa [serializedMode, OpFact.serialized] using h
  · subst hqc
    have := hrest q hq
    simp only [c02RowStrict, Bool.and_eq_true, Bool.or_eq_true, Bool.not_eq_true'] at this
    rcases this.2 with h | h
    · simp [hqp] at h
    · simpa [serializedMode, OpFact.serialized] using h

theorem c02RowOk_strict_of_not_known (r : OpFact) (h : c02RowOk r = true)
    (hk : knownUnsafePassThrough.contains r.name = false) : c02RowStrict r = true := by
  simp only [c02RowOk, c02RowStrict, Bool.and_eq_true, Bool.or_eq_true, Bool.not_eq_true'] at *
  refine ⟨⟨h.1.1, h.1.2⟩, ?_⟩
  rcases h.2 with h2 | h2
  · rcases h2 with h3 | h3
    · exact Or.inl h3
    · exact Or.inr h3
  · have : knownUnsafePassThrough.contains r.name = true := by simpa using h2
    rw [hk] at this; exact absurd this (by decide)

/-- what holds of the table as it is: its rows satisfy `c02RowOk` only, so the chains covered are
    those that avoid the operators listed in `knownUnsafePassThrough` -/
theorem multiFeeder_emits_serialized_partial (r : OpFact) (rest : List OpFact)
    (hr : c02RowOk r = true) (hrest : ∀ q ∈ rest, c02RowOk q = true)
    (hkr : knownUnsafePassThrough.contains r.name = false)
    (hkrest : ∀ q ∈ rest, knownUnsafePassThrough.contains q.name = false)
    (hm : r.multiFeeder = true) :
    ∃ c, emitMode (r :: rest) = some c ∧ serializedMode c = true :=
  multiFeeder_emits_serialized r rest (c02RowOk_strict_of_not_known r hr hkr)
    (fun q hq => c02RowOk_strict_of_not_known q (hrest q hq) (hkrest q hq)) hm

end Ro.Facts
