/-
  RoProofs.RateLimitUlule — the ulule limiter, for every store (an arbitrary oracle): the output
  is the input filtered by the store's answers, order preserved, nothing duplicated, terminal
  propagated; a store failure is forwarded as the error and ends the stream.
-/
import RoModel.RateLimit
namespace Ro.RateLimit
open Ro

variable {κ α : Type}

def outItems : List (Out κ α) → List (κ × α)
  | [] => []
  | .item k v :: r => (k, v) :: outItems r
  | _ :: r => outItems r

theorem outItems_toOut (e : End) : outItems (e.toOut : List (Out κ α)) = [] := by
  cases e <;> rfl

/-- the operator is a function of the store's recorded answers only (whether or not the source
    keeps being observed after a failure) -/
theorem ulule_byAnswers (store : Store κ) (sync : Bool) (inp : List (κ × α)) (e : End) (h : List κ) :
    ululeFrom store h inp e = byAnswers inp (answersFrom store sync h inp) e := by
  induction inp generalizing h with
  | nil => simp [ululeFrom, byAnswers]
  | cons p r ih =>
    obtain ⟨k, v⟩ := p
    simp only [ululeFrom, answersFrom]
    cases hs : store h k with
    | ok b => cases b <;> simp [byAnswers, ih]
    | fail x => simp [byAnswers]

/-- one answer per item as long as the store does not fail -/
theorem answers_length (store : Store κ) (sync : Bool) (inp : List (κ × α)) (h : List κ)
    (hok : ∀ a ∈ answersFrom store sync h inp, ∃ b, a = Ans.ok b) : (answersFrom store sync h inp).length = inp.length := by
  induction inp generalizing h with
  | nil => simp [answersFrom]
  | cons p r ih =>
    obtain ⟨k, v⟩ := p
    simp only [answersFrom] at hok ⊢
    cases hs : store h k with
    | ok b =>
      simp only [hs] at hok
      simp only [List.length_cons, Nat.add_right_cancel_iff]
      exact ih _ (fun a ha => hok a (List.mem_cons_of_mem _ ha))
    | fail x =>
      simp only [hs] at hok
      obtain ⟨b, hb⟩ := hok (.fail x) (by simp)
      cases hb

/-- **output = filter of the input by the store's answers** (store not failing): exactly the items
    answered "not reached", in order, then the source's ending -/
theorem ulule_filter (store : Store κ) (sync : Bool) (inp : List (κ × α)) (e : End) (h : List κ)
    (hok : ∀ a ∈ answersFrom store sync h inp, ∃ b, a = Ans.ok b) :
    ululeFrom store h inp e =
      (((inp.zip (answersFrom store sync h inp)).filter (fun p => p.2 = Ans.ok false)).map (fun p => Out.item p.1.1 p.1.2))
        ++ e.toOut := by
  induction inp generalizing h with
  | nil => simp [ululeFrom, answersFrom]
  | cons p r ih =>
    obtain ⟨k, v⟩ := p
    simp only [ululeFrom, answersFrom] at hok ⊢
    cases hs : store h k with
    | ok b =>
      simp only [hs] at hok
      have := ih (h ++ [k]) (fun a ha => hok a (List.mem_cons_of_mem _ ha))
      cases b <;> simp [this]
    | fail x =>
      simp only [hs] at hok
      obtain ⟨b, hb⟩ := hok (.fail x) (by simp)
      cases hb

/-- **order preserved, nothing duplicated, terminal propagated** — for every store, failing or not:
    the delivered items are a subsequence of the input, followed by the source's ending or, if the
    store failed, by that failure as the error (and nothing after it) -/
theorem ulule_shape (store : Store κ) (inp : List (κ × α)) (e : End) (h : List κ) :
    ∃ pre : List (κ × α), pre.Sublist inp ∧
      (ululeFrom store h inp e = pre.map (fun p => Out.item p.1 p.2) ++ e.toOut ∨
       ∃ x, ululeFrom store h inp e = pre.map (fun p => Out.item p.1 p.2) ++ [.error x]) := by
  induction inp generalizing h with
  | nil => exact ⟨[], .slnil, .inl (by simp [ululeFrom])⟩
  | cons p r ih =>
    obtain ⟨k, v⟩ := p
    simp only [ululeFrom]
    cases hs : store h k with
    | ok b =>
      obtain ⟨pre, hsub, hcase⟩ := ih (h ++ [k])
      cases b with
      | false =>
        exact ⟨(k, v) :: pre, hsub.cons_cons _, hcase.imp (congrArg (Out.item k v :: ·))
          fun ⟨x, hc⟩ => ⟨x, congrArg (Out.item k v :: ·) hc⟩⟩
      | true => exact ⟨pre, hsub.cons _, hcase⟩
    | fail x => exact ⟨[], List.nil_sublist _, .inr ⟨x, rfl⟩⟩

theorem ulule_items_sublist (store : Store κ) (inp : List (κ × α)) (e : End) :
    (outItems (ulule store inp e)).Sublist inp := by
  obtain ⟨pre, hsub, hcase⟩ := ulule_shape store inp e []
  have hm : ∀ (l : List (κ × α)) (t : List (Out κ α)), outItems t = [] →
      outItems (l.map (fun p => Out.item p.1 p.2) ++ t) = l := by
    intro l t ht; induction l with
    | nil => simpa using ht
    | cons a as ih => simp [outItems, ih]
  unfold ulule
  rcases hcase with hc | ⟨x, hc⟩
  · rw [hc, hm _ _ (outItems_toOut e)]; exact hsub
  · rw [hc, hm _ _ rfl]; exact hsub

/-- a store that never says "reached" and never fails lets everything through -/
theorem ulule_open (inp : List (κ × α)) (e : End) (h : List κ) :
    ululeFrom (fun _ _ => Ans.ok false) h inp e = inp.map (fun p => Out.item p.1 p.2) ++ e.toOut := by
  induction inp generalizing h with
  | nil => simp [ululeFrom]
  | cons p r ih => obtain ⟨k, v⟩ := p; simp [ululeFrom, ih]

end Ro.RateLimit
