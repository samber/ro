/-
  RoProofs.SubjectsX — the reduction of RoModel/SubjectsX.lean keeps the subject's registration invariant, and a dead
  subscriber is never left registered (C10: "observers are dropped from the subject on termination or unsubscription",
  "unicast admits one subscriber at a time" also across subscriptions made with a ready-made Subscriber).
-/
import RoModel.SubjectsX
import RoProofs.SubjectsUnicast
namespace Ro.Subj

theorem rewrite_observers (s : State Int) (i : Nat) (keep dropped : List (Notif Int)) :
    (rewrite s i keep dropped).observers = s.observers := rfl

theorem inv_rewrite {s : State Int} (h : Inv s) (i : Nat) (keep dropped : List (Notif Int)) : Inv (rewrite s i keep dropped) := by
  refine h.of_eq_on rfl rfl (fun j => ?_)
  by_cases hj : j = i <;> simp [rewrite, State.modSub, hj]

theorem kinv_rewrite (k : Kind Int) {s : State Int} (h : KInv k s) (i : Nat) (keep dropped : List (Notif Int)) :
    KInv k (rewrite s i keep dropped) := ⟨inv_rewrite h.1 i keep dropped, h.2⟩

theorem kinv_settleOne (k : Kind Int) (before : State Int) (replay : Bool) (acc : State Int × List Nat) (i : Nat)
    (h : KInv k acc.1) : KInv k (settleOne k before replay acc i).1 := by
  obtain ⟨s, still⟩ := acc
  simp only [settleOne]
  split
  · exact h
  · exact kinv_step k (kinv_rewrite k h _ _ _) _
  · exact h

theorem kinv_settle (k : Kind Int) (before s : State Int) (armed : List Nat) (replay : Bool) (h : KInv k s) :
    KInv k (settle k before s armed replay).1 :=
  List.foldlRecOn (motive := fun acc => KInv k acc.1) armed _ h (fun acc ha a _ => kinv_settleOne k before replay acc a ha)

theorem kinv_stepX (k : Kind Int) (st : State Int × List Nat) (x : XOp) (h : KInv k st.1) : KInv k (stepX k st x).1 := by
  obtain ⟨s, armed⟩ := st
  cases x with
  | plain o => exact kinv_settle k s _ armed false (kinv_step k h o)
  | dead i c => exact kinv_step k (kinv_rewrite k (kinv_step k h _) _ _ _) _
  | selfUnsub i c =>
    simp only [stepX]
    exact kinv_settle k s _ [i] true (kinv_step k h _)

theorem kinv_runX (k : Kind Int) (xs : List XOp) : KInv k (runX k xs).1 :=
  List.foldlRecOn (motive := fun st => KInv k st.1) xs _ (kinv_init k) (fun st h x _ => kinv_stepX k st x h)

theorem runX_snoc (k : Kind Int) (xs : List XOp) (x : XOp) : runX k (xs ++ [x]) = stepX k (runX k xs) x := by
  simp [runX, List.foldl_append]

end Ro.Subj

