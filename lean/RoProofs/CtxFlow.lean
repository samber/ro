/-
  RoProofs.CtxFlow — C09 at the level of machines: a machine that only ever emits contexts derived
  from the subscription context (directly, through the context of the notification it reacts to,
  through a user callback that returns a derived context, or through contexts it stored next to
  values) delivers only such contexts, never a nil one — for every raw script and source mode.
-/
import RoProofs.Gate
namespace Ro
variable {σ α β : Type}

theorem Ctx.derivedFrom_refl (c : Ctx) (h : c.isNil = false) : c.derivedFrom c := ⟨h, fun _ hm => hm⟩

theorem Ctx.derivedFrom.trans {a b c : Ctx} (h1 : a.derivedFrom b) (h2 : b.derivedFrom c) : a.derivedFrom c :=
  ⟨h1.1, fun m hm => h1.2 m (h2.2 m hm)⟩

theorem Ctx.derivedFrom_tag (c : Ctx) (m : Nat) (h : c.isNil = false) : (c.tag m).derivedFrom c :=
  ⟨h, fun x hx => by simp [Ctx.tag, hx]⟩

/-! A property of every member of a list literal, built along the literal: the emissions of a
    machine's reaction are `[]`, `[a]`, `[a, b]`, an `if` between such, a mapped list. -/
section
variable {γ : Type} {P : γ → Prop} {a : γ} {l l' : List γ}

theorem each_nil : ∀ n ∈ ([] : List γ), P n := fun _ h => nomatch h

theorem each_cons (h : P a) (hl : ∀ n ∈ l, P n) : ∀ n ∈ a :: l, P n := List.forall_mem_cons.2 ⟨h, hl⟩

theorem each_one (h : P a) : ∀ n ∈ [a], P n := each_cons h each_nil

theorem each_append (h : ∀ n ∈ l, P n) (h' : ∀ n ∈ l', P n) : ∀ n ∈ l ++ l', P n :=
  List.forall_mem_append.2 ⟨h, h'⟩

theorem each_some (h : P a) : ∀ n ∈ some a, P n := fun _ hn => Option.some.inj hn ▸ h

theorem each_ite {δ : Type} [Membership γ δ] {p : Prop} [Decidable p] {l l' : δ}
    (h : ∀ n ∈ l, P n) (h' : ∀ n ∈ l', P n) : ∀ n ∈ if p then l else l', P n := by split <;> assumption

/-- the same for a reaction written as an `if` between (state, emissions) pairs -/
theorem each_ite_snd {p : Prop} [Decidable p] {s s' : σ × List γ} (h : ∀ n ∈ s.2, P n) (h' : ∀ n ∈ s'.2, P n) :
    ∀ n ∈ (if p then s else s').2, P n := by split <;> assumption

end

/-- every notification of the list carries a context derived from `sub` -/
def AllFrom (sub : Ctx) (l : List (Notif β)) : Prop := ∀ n ∈ l, n.ctx.derivedFrom sub

theorem AllFrom.nil (sub : Ctx) : AllFrom sub ([] : List (Notif β)) := each_nil
theorem AllFrom.append {sub : Ctx} {a b : List (Notif β)} (ha : AllFrom sub a) (hb : AllFrom sub b) :
    AllFrom sub (a ++ b) := each_append ha hb

theorem allFrom_map_next {sub c : Ctx} (h : c.derivedFrom sub) (vs : List β) :
    AllFrom sub (vs.map (Notif.next c)) := List.forall_mem_map.2 fun _ _ => h

/-- A per-machine certificate: an invariant on the state ("every stored context is derived from
    the subscription context") preserved by every reaction, each reaction emitting only derived
    contexts provided the context it is called with is derived. -/
structure CtxSafe (m : Machine σ α β) (sub : Ctx) where
  Inv : σ → Prop
  init : Inv m.init
  onSub : ∀ s, Inv s → Inv (m.onSubscribe s sub).1 ∧ AllFrom sub (m.onSubscribe s sub).2
  onNext : ∀ s c v, Inv s → c.derivedFrom sub → Inv (m.onNext s c v).1 ∧ AllFrom sub (m.onNext s c v).2
  onError : ∀ s c e, Inv s → c.derivedFrom sub → Inv (m.onError s c e).1 ∧ AllFrom sub (m.onError s c e).2
  onComplete : ∀ s c, Inv s → c.derivedFrom sub → Inv (m.onComplete s c).1 ∧ AllFrom sub (m.onComplete s c).2

/-- the induction behind `CtxSafe.emits`, for a bare invariant -/
theorem emits_allFrom (m : Machine σ α β) (sub : Ctx) (Inv : σ → Prop)
    (hstep : ∀ s x, Inv s → x.ctx.derivedFrom sub → Inv (m.step s x).1 ∧ AllFrom sub (m.step s x).2)
    (s : σ) (hs : Inv s) (xs : List (Notif α)) (hx : ∀ x ∈ xs, x.ctx.derivedFrom sub) :
    AllFrom sub (m.emits s xs) := by
  induction xs generalizing s with
  | nil => exact AllFrom.nil sub
  | cons x xs ih =>
    have ⟨hxc, hrest⟩ := List.forall_mem_cons.1 hx
    have hstep := hstep s x hs hxc
    exact AllFrom.append hstep.2 (ih _ hstep.1 hrest)

theorem CtxSafe.emits {m : Machine σ α β} {sub : Ctx} (cs : CtxSafe m sub) (s : σ) (hs : cs.Inv s)
    (xs : List (Notif α)) (hx : ∀ x ∈ xs, x.ctx.derivedFrom sub) : AllFrom sub (m.emits s xs) :=
  emits_allFrom m sub cs.Inv (fun s x => match x with
    | .next c v => cs.onNext s c v
    | .error c e => cs.onError s c e
    | .complete c => cs.onComplete s c) s hs xs hx

/-- **C09 for a certified machine**: if the source honours the contract for contexts (each of its
    notifications carries a context derived from the subscription context), then every
    notification the final observer receives does too — in particular none is nil. -/
theorem CtxSafe.run {m : Machine σ α β} {sub : Ctx} (cs : CtxSafe m sub) (mode : SrcMode)
    (raw : List (Notif α)) (hraw : ∀ x ∈ raw, x.ctx.derivedFrom sub) :
    AllFrom sub (runOp m mode sub raw).out := by
  intro n hn
  have h0 := cs.onSub m.init cs.init
  rcases mem_runOp_out hn with h | h
  · exact h0.2 n h
  · exact cs.emits _ h0.1 _ (fun x hx => hraw x (mem_gate hx)) n h

theorem AllFrom.notNil {sub : Ctx} {l : List (Notif β)} (h : AllFrom sub l) : ∀ n ∈ l, n.ctx.isNil = false :=
  fun n hn => (h n hn).1

/-- The certificate of a machine whose state stores no context. Like `Machine` itself it has
    defaults: silent at subscription, the source's error and completion forwarded as they are
    (`fwdE`, `fwdC`) — such a machine is checked at its values only. -/
def CtxSafe.stateless (m : Machine σ α β) (sub : Ctx)
    (hN : ∀ s c v, c.derivedFrom sub → AllFrom sub (m.onNext s c v).2)
    (hE : ∀ s c e, c.derivedFrom sub → AllFrom sub (m.onError s c e).2 := by exact fun _ _ _ h => each_one h)
    (hC : ∀ s c, c.derivedFrom sub → AllFrom sub (m.onComplete s c).2 := by exact fun _ _ h => each_one h)
    (hS : ∀ s, AllFrom sub (m.onSubscribe s sub).2 := by exact fun _ => each_nil) :
    CtxSafe m sub where
  Inv := fun _ => True
  init := trivial
  onSub s _ := ⟨trivial, hS s⟩
  onNext s c v _ h := ⟨trivial, hN s c v h⟩
  onError s c e _ h := ⟨trivial, hE s c e h⟩
  onComplete s c _ h := ⟨trivial, hC s c h⟩

end Ro
