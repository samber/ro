/-
  RoProofs.RateLimitAccept — soundness of the executable acceptor of observed traces
  (`RoModel.RateLimit.accepts`): an accepted trace satisfies the clauses of property C20 that can
  be read off an observation — per key the passed values are a subsequence of the source's values
  of that key (order, no duplication), the quota bound n·(⌊(L+slack)/w⌋+2) holds on EVERY span
  (not only between two passed items), the first-window items of every key passed (keys do not
  consume each other's quota), and the terminal is the source's.
-/
import RoProofs.RateLimitTime
namespace Ro.RateLimit
open Ro

variable {κ α : Type}

theorem bound_mono (n w s : Nat) {L L' : Nat} (h : L ≤ L') : bound n w s L ≤ bound n w s L' := by
  unfold bound
  apply Nat.mul_le_mul_left
  have : (L + s) / w ≤ (L' + s) / w := Nat.div_le_div_right (by omega)
  omega

theorem exists_min (l : List Nat) (h : l ≠ []) : ∃ m ∈ l, ∀ x ∈ l, m ≤ x := by
  obtain ⟨m, hm⟩ := Option.isSome_iff_exists.1 (List.isSome_min?_of_ne_nil h)
  exact ⟨m, List.min?_eq_some_iff.1 hm⟩

theorem exists_max (l : List Nat) (h : l ≠ []) : ∃ m ∈ l, ∀ x ∈ l, x ≤ m := by
  obtain ⟨m, hm⟩ := Option.isSome_iff_exists.1 (List.isSome_max?_of_ne_nil h)
  exact ⟨m, List.max?_eq_some_iff.1 hm⟩

/-- checking the spans between two observed instants is enough: every span obeys the bound -/
theorem quotaOk_sound (c : Cfg) (ts : List Nat) (h : quotaOk c ts = true) (a L : Nat) :
    countIn ts a (a + L) ≤ bound c.n c.w c.slack L := by
  unfold countIn
  by_cases hF : ts.filter (fun t => decide (a ≤ t) && decide (t ≤ a + L)) = []
  · simp [hF]
  · obtain ⟨lo, hlo, hmin⟩ := exists_min _ hF
    obtain ⟨hi, hhi, hmax⟩ := exists_max _ hF
    have hlo' := List.mem_filter.mp hlo
    have hhi' := List.mem_filter.mp hhi
    have hloR : a ≤ lo ∧ lo ≤ a + L := by simpa using hlo'.2
    have hhiR : a ≤ hi ∧ hi ≤ a + L := by simpa using hhi'.2
    have hle : lo ≤ hi := hmin hi hhi
    -- the span [lo, hi] contains the same observed instants
    have hcount : (ts.filter (fun t => decide (a ≤ t) && decide (t ≤ a + L))).length ≤ countIn ts lo hi := by
      unfold countIn
      rw [← List.countP_eq_length_filter, ← List.countP_eq_length_filter]
      apply List.countP_mono_left
      intro x hx hp
      have hxF : x ∈ ts.filter (fun t => decide (a ≤ t) && decide (t ≤ a + L)) := List.mem_filter.mpr ⟨hx, hp⟩
      have h1 := hmin x hxF
      have h2 := hmax x hxF
      simp [h1, h2]
    have hq : countIn ts lo hi ≤ bound c.n c.w c.slack (hi - lo) := by
      unfold quotaOk at h
      have h1 := (List.all_eq_true.mp h) lo hlo'.1
      have h2 := (List.all_eq_true.mp h1) hi hhi'.1
      simpa [hle] using h2
    exact Nat.le_trans hcount (Nat.le_trans hq (bound_mono _ _ _ (by omega)))

variable [DecidableEq κ] [DecidableEq α]

/-- the clauses of C20 that an observation can witness -/
structure Clauses (c : Cfg) (inp : List (InItem κ α)) (e : End) (obs : List (ObsItem κ α)) (term : End) : Prop where
  /-- per key: original order, nothing duplicated -/
  order : ∀ k, (obsKey k obs).Sublist (inKey k inp)
  /-- per key: the quota bound on every span, whatever its placement -/
  quota : ∀ k a L, countIn (obsTimes k obs) a (a + L) ≤ bound c.n c.w c.slack L
  /-- keys are independent: the first `n` items of a key emitted before the key's first tick can
      have fired pass, whatever the other keys did -/
  fresh : ∀ k f, (inp.filter (fun j => j.key = k)).head? = some f →
      ∀ j ∈ (inp.filter (fun j => j.key = k)).take c.n, j.t1 < f.t0 + c.w → j.val ∈ obsKey k obs
  /-- completion / error of the source propagated -/
  terminal : term = e

theorem accepts_sound (c : Cfg) (inp : List (InItem κ α)) (e : End) (obs : List (ObsItem κ α)) (term : End)
    (h : accepts c inp e obs term = true) : Clauses c inp e obs term := by
  unfold accepts at h
  simp only [Bool.and_eq_true, decide_eq_true_eq] at h
  obtain ⟨⟨hobs, hfresh⟩, hterm⟩ := h
  have hobs' := List.all_eq_true.mp hobs
  have hempty : ∀ k, (∀ o ∈ obs, o.key ≠ k) → obs.filter (fun i => i.key = k) = [] := by
    intro k hk
    apply List.filter_eq_nil_iff.mpr
    intro o ho
    simpa using hk o ho
  refine ⟨?_, ?_, ?_, hterm⟩
  · intro k
    by_cases hk : ∃ o ∈ obs, o.key = k
    · obtain ⟨o, ho, rfl⟩ := hk
      have := hobs' o ho
      simp only [Bool.and_eq_true] at this
      exact List.isSublist_iff_sublist.mp this.1
    · have : obs.filter (fun i => i.key = k) = [] := hempty k (fun o ho hh => hk ⟨o, ho, hh⟩)
      simp [obsKey, this]
  · intro k a L
    by_cases hk : ∃ o ∈ obs, o.key = k
    · obtain ⟨o, ho, rfl⟩ := hk
      have := hobs' o ho
      simp only [Bool.and_eq_true] at this
      exact quotaOk_sound c _ this.2 a L
    · have : obs.filter (fun i => i.key = k) = [] := hempty k (fun o ho hh => hk ⟨o, ho, hh⟩)
      simp [obsTimes, this, countIn]
  · intro k f hf j hj hlt
    unfold freshOk at hfresh
    have hall := List.all_eq_true.mp hfresh
    have hfmem : f ∈ inp.filter (fun j => j.key = k) := List.mem_of_mem_head? (by rw [hf]; rfl)
    have hf' := List.mem_filter.mp hfmem
    have hfk : f.key = k := by simpa using hf'.2
    have h1 := hall f hf'.1
    rw [hfk, hf] at h1
    simp only at h1
    have h2 := (List.all_eq_true.mp h1) j hj
    have hjk : j.key = k := by
      have := List.mem_filter.mp (List.mem_of_mem_take hj)
      simpa using this.2
    rw [hjk] at h2
    simp only [Bool.or_eq_true, Bool.not_eq_true', decide_eq_false_iff_not, List.contains_iff_mem] at h2
    rcases h2 with h2 | h2
    · exact absurd hlt h2
    · exact h2

end Ro.RateLimit
