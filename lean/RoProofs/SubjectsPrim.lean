/-
  RoProofs.SubjectsPrim — the state invariant of the subjects and closed forms of the primitives
  (gate, teardown, replay, broadcast) on states that satisfy it.
-/
import RoProofs.Subjects
namespace Ro.Subj
open Ro Ro.Subj.Spec

variable {α : Type}

/-- what holds in every reachable state of every subject:
    registered subscribers are used, open and have their teardown pending; a pending teardown
    belongs to a registered subscriber; no subscriber is registered twice; a terminated subject
    has no registered subscriber. -/
structure Inv (s : State α) : Prop where
  live : ∀ i ∈ s.observers, (s.sub i).used = true ∧ (s.sub i).status = 0 ∧ (s.sub i).td = true
  td : ∀ i, (s.sub i).td = true → i ∈ s.observers
  nodup : s.observers.Nodup
  closed : s.status ≠ .active → s.observers = []

theorem Inv.not_mem_of_unused {s : State α} (h : Inv s) {i : Nat} (hu : (s.sub i).used = false) : i ∉ s.observers := by
  intro hm
  have := (h.live i hm).1
  rw [hu] at this; cases this

theorem Inv.td_false {s : State α} (h : Inv s) {i : Nat} (hi : i ∉ s.observers) : (s.sub i).td = false := by
  cases ht : (s.sub i).td with
  | false => rfl
  | true => exact absurd (h.td i ht) hi

theorem modSub_modSub (s : State α) (i : Nat) (f g : Sub α → Sub α) :
    (s.modSub i f).modSub i g = s.modSub i (fun x => g (f x)) := by
  apply State.ext' <;> try rfl
  funext j
  by_cases hj : j = i <;> simp [hj]

theorem modSub_congr (s : State α) (i : Nat) (f g : Sub α → Sub α) (h : f (s.sub i) = g (s.sub i)) :
    s.modSub i f = s.modSub i g := by
  apply State.ext' <;> try rfl
  funext j
  by_cases hj : j = i
  · subst hj; simp [h]
  · simp [hj]

theorem modSub_id (s : State α) (i : Nat) (f : Sub α → Sub α) (h : f (s.sub i) = s.sub i) : s.modSub i f = s := by
  apply State.ext' <;> try rfl
  funext j
  by_cases hj : j = i
  · subst hj; simp [h]
  · simp [hj]

theorem subNext_open {s : State α} {i : Nat} (h : (s.sub i).status = 0) (c : Ctx) (v : α) :
    subNext s i c v = s.modSub i (fun x => { x with got := x.got ++ [.next c v] }) := by
  simp [subNext, h]

theorem replayTo_open : ∀ (vs : List (Ctx × α)) (s : State α) (i : Nat), (s.sub i).status = 0 →
    replayTo s i vs = s.modSub i (fun x => { x with got := x.got ++ nexts vs })
  | [], s, i, _ => by
    simp only [replayTo, List.foldl_nil, nexts, List.map_nil, List.append_nil]
    exact (modSub_id s i _ rfl).symm
  | p :: vs, s, i, h => by
    have h1 : replayTo s i (p :: vs) = replayTo (subNext s i p.1 p.2) i vs := rfl
    rw [h1, subNext_open h, replayTo_open vs _ i (by simpa using h), modSub_modSub]
    apply modSub_congr
    simp [nexts]

/-- a terminal delivered to an open subscriber whose teardown is pending (registered with a
    multicast subject): it is closed, gets the terminal, and is deleted from the map -/
theorem subTerminal_delete_reg {s : State α} {i : Nat} (h0 : (s.sub i).status = 0) (ht : (s.sub i).td = true)
    (n : Notif α) :
    subTerminal .delete s i n =
      { s with observers := s.observers.filter (· != i),
               sub := fun j => if j = i then { s.sub j with status := termCode n, td := false, got := (s.sub j).got ++ [n] } else s.sub j } := by
  unfold subTerminal runTeardown
  simp only [h0, if_true, modSub_sub, ht]
  apply State.ext' <;> try rfl
  funext j
  by_cases hj : j = i <;> simp [hj]

/-- a terminal delivered to an open subscriber without teardown (a late subscriber: `Subscribe`
    returns before `Add`): it is closed and gets the terminal; the subject is untouched -/
theorem subTerminal_open_notd {s : State α} {i : Nat} (m : TD) (h0 : (s.sub i).status = 0) (ht : (s.sub i).td = false)
    (n : Notif α) :
    subTerminal m s i n = s.modSub i (fun x => { x with status := termCode n, got := x.got ++ [n] }) := by
  unfold subTerminal runTeardown
  simp [h0, ht]

theorem foldl_subNext (c : Ctx) (v : α) : ∀ (l : List Nat) (s : State α), (∀ j ∈ l, (s.sub j).status = 0) → l.Nodup →
    l.foldl (fun s i => subNext s i c v) s =
      { s with sub := fun j => if j ∈ l then { s.sub j with got := (s.sub j).got ++ [.next c v] } else s.sub j }
  | [], s, _, _ => by simp
  | i :: l, s, h0, hn => by
    have hi : i ∉ l := (List.nodup_cons.mp hn).1
    rw [List.foldl_cons, subNext_open (h0 i (by simp)),
      foldl_subNext c v l _ (by
        intro j hj
        have hji : j ≠ i := fun e => hi (e ▸ hj)
        simpa [hji] using h0 j (by simp [hj])) (List.nodup_cons.mp hn).2]
    apply State.ext' <;> try rfl
    funext j
    by_cases hj : j = i
    · subst hj; simp [hi]
    · simp [hj]

theorem broadcastNext_eq {s : State α} (hl : ∀ j ∈ s.observers, (s.sub j).status = 0) (hn : s.observers.Nodup)
    (c : Ctx) (v : α) :
    broadcastNext s c v =
      { s with sub := fun j => if j ∈ s.observers then { s.sub j with got := (s.sub j).got ++ [.next c v] } else s.sub j } :=
  foldl_subNext c v s.observers s hl hn

theorem filter_const_true {β : Type} (l : List β) : l.filter (fun _ => true) = l := by
  induction l with
  | nil => rfl
  | cons a l ih => simp [ih]

theorem foldl_subTerminal (n : Notif α) : ∀ (l : List Nat) (s : State α),
    (∀ j ∈ l, (s.sub j).status = 0 ∧ (s.sub j).td = true) → l.Nodup →
    l.foldl (fun s i => subTerminal .delete s i n) s =
      { s with observers := s.observers.filter (fun x => !l.contains x),
               sub := fun j => if j ∈ l then { s.sub j with status := termCode n, td := false, got := (s.sub j).got ++ [n] } else s.sub j }
  | [], s, _, _ => by
    apply State.ext' <;> simp [filter_const_true]
  | i :: l, s, h0, hn => by
    have hi : i ∉ l := (List.nodup_cons.mp hn).1
    rw [List.foldl_cons, subTerminal_delete_reg (h0 i (by simp)).1 (h0 i (by simp)).2,
      foldl_subTerminal n l _ (by
        intro j hj
        have hji : j ≠ i := fun e => hi (e ▸ hj)
        simpa [hji] using h0 j (by simp [hj])) (List.nodup_cons.mp hn).2]
    apply State.ext'
    · rfl
    · rfl
    · simp only [List.filter_filter]
      apply List.filter_congr
      intro x _
      by_cases hx : x = i <;> simp [hx, Bool.and_comm]
    · funext j
      by_cases hj : j = i
      · subst hj; simp [hi]
      · simp [hj]
    · rfl

theorem broadcastTerminal_eq {s : State α} (hl : ∀ j ∈ s.observers, (s.sub j).status = 0 ∧ (s.sub j).td = true)
    (hn : s.observers.Nodup) (n : Notif α) :
    broadcastTerminal s n =
      { s with observers := [],
               sub := fun j => if j ∈ s.observers then { s.sub j with status := termCode n, td := false, got := (s.sub j).got ++ [n] } else s.sub j } := by
  unfold broadcastTerminal
  rw [foldl_subTerminal n s.observers s hl hn]
  apply State.ext' <;> try rfl
  simp [List.filter_eq_nil_iff]

/-- unsubscribing an open subscriber whose teardown is pending: it is closed and deleted from the map -/
theorem subUnsubscribe_delete_reg {s : State α} {i : Nat} (h0 : (s.sub i).status = 0) (ht : (s.sub i).td = true) :
    subUnsubscribe .delete s i =
      { s with observers := s.observers.filter (· != i),
               sub := fun j => if j = i then { s.sub j with status := 2, td := false } else s.sub j } := by
  unfold subUnsubscribe runTeardown
  simp only [h0, if_true, modSub_sub, ht]
  apply State.ext' <;> try rfl
  funext j
  by_cases hj : j = i <;> simp [hj]

/-- unsubscribing a subscriber that is not registered changes at most its own status -/
theorem subUnsubscribe_unreg {s : State α} {i : Nat} (m : TD) (ht : (s.sub i).td = false) :
    (subUnsubscribe m s i).observers = s.observers ∧ (subUnsubscribe m s i).status = s.status ∧
    (subUnsubscribe m s i).values = s.values ∧
    (∀ j, ((subUnsubscribe m s i).sub j).got = (s.sub j).got ∧ ((subUnsubscribe m s i).sub j).used = (s.sub j).used ∧
          ((subUnsubscribe m s i).sub j).td = (s.sub j).td ∧ (j ≠ i → (subUnsubscribe m s i).sub j = s.sub j)) := by
  unfold subUnsubscribe runTeardown
  by_cases h0 : (s.sub i).status = 0
  · simp only [h0, if_true, modSub_sub, ht]
    refine ⟨rfl, rfl, rfl, fun j => ?_⟩
    by_cases hj : j = i <;> simp [hj]
  · simp [h0]

end Ro.Subj
