/-
  RoProofs.ShareNested — events nested inside the source's `Subscribe` (depth one): the invariant
  with a pending creator (`Inv P`) holds between the inner events, and `Inv Pend.idle` holds again when
  the nested `sub` returns. Hence `Inv Pend.idle (nrun cfg evs)` for every nested sequence.
-/
import RoProofs.ShareProps
namespace Ro.Share
attribute [local simp] St.modGen_eq St.modSub_eq St.drop ite_else_same

/-! ### a closed subscriber stays closed -/

structure Mono (s s' : St) : Prop where
  nsubs : s.nsubs ≤ s'.nsubs
  status : ∀ k, k < s.nsubs → (s.subs k).status ≠ 0 → (s'.subs k).status ≠ 0

theorem Mono.refl (s : St) : Mono s s := ⟨Nat.le_refl _, fun _ _ h => h⟩
theorem Mono.trans {a b c : St} (h1 : Mono a b) (h2 : Mono b c) : Mono a c :=
  ⟨Nat.le_trans h1.nsubs h2.nsubs, fun k hk h => h2.status k (Nat.lt_of_lt_of_le hk h1.nsubs) (h1.status k hk h)⟩
theorem Quiet.mono {s s' : St} (h : Quiet s s') : Mono s s' :=
  ⟨by rw [h.nsubs]; exact Nat.le_refl _, fun k _ hs => h.closed k hs⟩

theorem addTeardown_mono (fl : Flags) (i g : Nat) (s : St) : Mono s (addTeardown fl i g s) := by
  unfold addTeardown
  split
  · exact (teardownT_only fl i g s).quiet.mono
  · exact (only_modSub i _ (by intro _ h; exact h) s).quiet.mono

theorem subjSubscribe_mono (cfg : Cfg) (g i : Nat) (s : St) : Mono s (subjSubscribe cfg g i s) := by
  have hR := (subjReplay_sim cfg.conn g i s).quiet.mono
  unfold subjSubscribe
  split
  · exact hR.trans (dTerm_only cfg.flags i _ _).quiet.mono
  · exact hR.trans (dTerm_only cfg.flags i _ _).quiet.mono
  · have hL := (subjLast_sim cfg.conn g i (subjReplay cfg.conn g i s)).quiet.mono
    have hG : ∀ u, Mono u (subjRegister g i u) := by
      intro u
      unfold subjRegister
      split
      · exact ⟨Nat.le_refl _, fun _ _ h => h⟩
      · exact ⟨Nat.le_refl _, fun k _ hs => by simp; split <;> simp_all⟩
    exact (hR.trans hL).trans (hG _)

theorem r3tail_mono (fl : Flags) (i g : Nat) (s : St) : Mono s (r3tail fl i g s) := by
  unfold r3tail ssAdd
  split
  · exact (pUnsubscribe_go g s).quiet.mono.trans (addTeardown_mono fl i g _)
  · have h1 : Mono s (s.modGen g fun x => { x with ssFins := x.ssFins ++ [g] }) := ⟨Nat.le_refl _, fun _ _ h => h⟩
    exact h1.trans (addTeardown_mono fl i g _)

theorem upAddTeardown_mono (g : Nat) (s : St) : Mono s (upAddTeardown g s) := by
  unfold upAddTeardown
  split <;> exact ⟨Nat.le_refl _, fun _ _ h => h⟩

theorem subscribeK_mono (cfg : Cfg) (k : St → St) (hk : ∀ u, Mono u (k u)) (s : St) : Mono s (subscribeK cfg k s) := by
  have h0 : Mono s (r1 cfg (newSub s)) := by
    refine ⟨?_, ?_⟩
    · unfold r1 newSub; split <;> simp
    · intro j hj hs
      have hne : j ≠ s.nsubs := by omega
      unfold r1 newSub; split <;> simp [hne, hs]
  unfold subscribeK
  split
  · refine (h0.trans (subjSubscribe_mono cfg s.ngens s.nsubs _)).trans ?_
    unfold r3K srcSubscribeK
    have h1 : ∀ u : St, Mono u (({ u with flagE := false, flagC := false } : St).modGen s.ngens fun x => { x with upSub := true }) :=
      fun u => ⟨Nat.le_refl _, fun _ _ h => h⟩
    exact ((((h1 _).trans (playPre_quiet cfg _ _ _).mono).trans (hk _)).trans (upAddTeardown_mono _ _)).trans (r3tail_mono _ _ _ _)
  · exact (h0.trans (subjSubscribe_mono cfg _ _ _)).trans (addTeardown_mono _ _ _ _)

theorem step_mono (cfg : Cfg) (s : St) (e : Event) : Mono s (step cfg s e) := by
  cases e with
  | sub => exact subscribeK_mono cfg id (fun u => Mono.refl u) s
  | unsub i => simp only [step]; split <;> first | exact (dUnsubscribe_only cfg.flags i s).quiet.mono | exact Mono.refl s
  | src x => exact (push_quiet cfg x s).mono

theorem stepInner_mono (cfg : Cfg) (self : Nat) (s : St) (e : Event) : Mono s (stepInner cfg self s e) := by
  unfold stepInner
  split
  · split
    · exact Mono.refl s
    · exact step_mono cfg s _
  · exact step_mono cfg s e

/-! ### from the phases of R3 to the invariant with a pending creator -/

theorem flive_inv {g i : Nat} {u : St} (h : FLive Pend.idle g i u) : Inv ⟨some g, some i⟩ u :=
  Inv.of_cur h.subject h.shared (by rw [h.ngens]; omega) (Or.inl h.active) h.subsClosed
    (fun k hk hkg => ⟨fun _ => h.stale.stale k (by rw [h.ngens] at hk; omega) (by simp),
      fun hu => absurd (Option.some.inj hu).symm hkg⟩)
    (by rw [h.openSubs, h.count]; rfl) (fun k hk => by cases hk; rw [h.ngens]; omega) (fun _ _ => rfl)

theorem freset_inv {g i : Nat} {u : St} (h : FReset Pend.idle g i u) : Inv ⟨some g, none⟩ u := by
  refine Inv.of_none h.subject (h.shared.trans h.subject) h.flagE h.flagC (h.toFCommon.openSubs_nil h.sub) (h.toFCommon.subsClosed h.sub) (fun k hk => ?_)
    (by rw [h.count]; rfl) (fun k hk => by cases hk; rw [h.ngens]; omega) rfl
  by_cases hkg : k = g
  · subst hkg
    exact ⟨fun hu => absurd rfl hu, fun _ => h.ended⟩
  · exact ⟨fun _ => h.stale.stale k (by rw [h.ngens] at hk; omega) (by simp), fun hu => absurd (Option.some.inj hu).symm hkg⟩

theorem flatch_inv {g i : Nat} {u : St} (h : FLatch Pend.idle g i u) : Inv ⟨some g, none⟩ u :=
  Inv.of_cur h.subject h.shared (by rw [h.ngens]; omega) (Or.inr h.latched) (h.toFCommon.subsClosed h.sub)
    (fun k hk hkg => ⟨fun _ => h.stale.stale k (by rw [h.ngens] at hk; omega) (by simp),
      fun hu => absurd (Option.some.inj hu).symm hkg⟩)
    (by rw [h.toFCommon.openSubs_nil h.sub, h.count]; rfl) (fun k hk => by cases hk; rw [h.ngens]; omega) (fun _ hA => by cases hA)

/-! ### the inner events -/

/-- what is known about the pending creator `i` of generation `g` between two inner events -/
structure Mid (g i : Nat) (u : St) : Prop where
  inv : Inv ⟨some g, some i⟩ u ∨ (Inv ⟨some g, none⟩ u ∧ (u.subs i).status ≠ 0)
  lt : i < u.nsubs

theorem mid_stepInner (cfg : Cfg) {g i : Nat} {u : St} (h : Mid g i u) (e : Event) : Mid g i (stepInner cfg i u e) := by
  have hm := stepInner_mono cfg i u e
  refine ⟨?_, Nat.lt_of_lt_of_le h.lt hm.nsubs⟩
  -- `unsub i` is void; anything else is a plain step
  by_cases hself : e = .unsub i
  · subst hself
    have : stepInner cfg i u (.unsub i) = u := by simp [stepInner]
    rw [this]; exact h.inv
  · have hstep : stepInner cfg i u e = step cfg u e := by
      unfold stepInner
      cases e with
      | unsub j =>
        have : j ≠ i := fun hh => hself (by rw [hh])
        simp [this]
      | sub => rfl
      | src x => rfl
    rw [hstep]
    rw [hstep] at hm
    rcases h.inv with hi | ⟨hi, hc⟩
    · rcases inv_step' cfg hi e (fun A hA he => by
          have : A = i := (Option.some.inj hA).symm
          subst this; exact hself he) with h' | ⟨h', hno⟩
      · exact Or.inl h'
      · -- a terminal on the pending generation: everybody, the creator included, is closed
        exact Or.inr ⟨h', openSubs_eq_nil.mp hno i (Nat.lt_of_lt_of_le h.lt hm.nsubs)⟩
    · rcases inv_step' cfg hi e (fun A hA => by cases hA) with h' | ⟨h', _⟩
      · exact Or.inr ⟨h', hm.status i h.lt hc⟩
      · exact Or.inr ⟨by simpa [Pend.drop] using h', hm.status i h.lt hc⟩

/-! ### the nested `Subscribe` returns -/

/-- the shared generation `g`, when neither it nor an open subscriber is pending, reads its own record,
    the subscribers and the latches only — not who else is pending -/
theorem cur_bystander {P Q : Pend} {s s' : St} {g : Nat} (h : GenActive P s g ∨ GenLatched P s g) (hP : P.ug ≠ some g)
    (hQ : Q.ug ≠ some g) (hua : P.ua = none) (hg : s'.gens g = s.gens g) (hsubs : s'.subs = s.subs) (hn : s'.nsubs = s.nsubs)
    (hE : s'.flagE = s.flagE) (hC : s'.flagC = s.flagC) : GenActive Q s' g ∨ GenLatched Q s' g := by
  have hos : openSubs s' = openSubs s := openSubs_congr hn (fun k _ => by rw [hsubs])
  rcases h with ha | hl
  · exact Or.inl ⟨hg ▸ ha.pStatus, hg ▸ ha.pDone, hg ▸ ha.upSub, hg ▸ ha.upTorn, hg ▸ ha.ssDone, hg ▸ ha.isOpen, hE.trans ha.flagE,
      hC.trans ha.flagC, by rw [hg, hos]; exact ha.obs, fun _ => hg ▸ ha.fin hP, fun he => absurd he hQ,
      fun k hk hks _ => by rw [hsubs] at hks ⊢; exact ha.subs k (hn ▸ hk) hks (by rw [hua]; simp)⟩
  · exact Or.inr ⟨hg ▸ hl.pStatus, hg ▸ hl.pDone, hg ▸ hl.pFin, hg ▸ hl.upSub, hg ▸ hl.ssDone, hg ▸ hl.closed, hg ▸ hl.obs,
      by rw [hE, hC]; exact hl.flag, hos ▸ hl.noOpen, fun _ => hg ▸ hl.fin hP, fun he => absurd he hQ⟩

/-- how the inner events can leave the creator `i` of generation `g`: still open on its live
    generation; closed, with the generation latched; closed, with the generation reset -/
theorem Mid.cases {g i : Nat} {u : St} (h : Mid g i u) :
    (Inv ⟨some g, some i⟩ u ∧ u.subject = some g ∧ GenActive ⟨some g, some i⟩ u g ∧ SubOpenU g (u.subs i)) ∨
    (Inv ⟨some g, none⟩ u ∧ SubClosed (u.subs i) ∧ u.subject = some g ∧ GenLatched ⟨some g, none⟩ u g) ∨
    (Inv ⟨some g, none⟩ u ∧ SubClosed (u.subs i) ∧ u.subject ≠ some g ∧ GenEnded (u.gens g)) := by
  rcases h.inv with hi | ⟨hi, hc⟩
  · have hsubj : u.subject = some g := ((hi.uab i rfl).1).symm
    rcases (hi.cur g hsubj).2 with ha | hl
    · obtain ⟨_, _, A, hA, _, hu⟩ := ha.unf rfl
      cases hA
      exact Or.inl ⟨hi, hsubj, ha, hu⟩
    · cases (hl.unf rfl).2.2
  · have hcl := hi.closed i h.lt hc
    by_cases hsubj : u.subject = some g
    · rcases (hi.cur g hsubj).2 with ha | hl
      · obtain ⟨_, _, A, hA, _⟩ := ha.unf rfl; cases hA
      · exact Or.inr (Or.inl ⟨hi, hcl, hsubj, hl⟩)
    · exact Or.inr (Or.inr ⟨hi, hcl, hsubj, (hi.ended g (hi.ugb g rfl) hsubj rfl).1⟩)

theorem finish_mid (fl : Flags) {g i : Nat} {u : St} (h : Mid g i u) :
    Inv Pend.idle (r3tail fl i g (upAddTeardown g u)) := by
  rcases h.cases with ⟨hi, hsubj, ha, hu⟩ | ⟨hi, hcl, hsubj, hl⟩ | ⟨hi, hcl, hsubj, hen⟩
  · -- the creator is still open on its live, unfinished generation: R3 ends as in the plain case
    rw [r3tail_live fl ha.pDone ha.ssDone (ha.unf rfl).2.1 hu.done]
    exact (inv_liveDone ha hsubj hi.shared (hi.cur g hsubj).1 hi.closed
      (fun k hk hkg => ⟨fun _ => (hi.rest hsubj hk hkg).1 (fun hh => hkg (Option.some.inj hh).symm), fun hu => by simp at hu⟩)
      (by rw [hi.count]; rfl) (fun k hk => by simp at hk) (by simp) rfl).1
  · -- the creator has been closed inside its own `Subscribe`, its generation latched: the reference comes back only now
    rw [r3tail_latch fl hl.pDone hl.ssDone (hl.unf rfl).2.1 hcl hl.flag]
    exact (inv_latchDone hl hsubj hi.shared (hi.cur g hsubj).1 hi.closed
      (fun k hk hkg => ⟨fun _ => (hi.rest hsubj hk hkg).1 (fun hh => hkg (Option.some.inj hh).symm), fun hu => by simp at hu⟩)
      (by rw [hi.count]; rfl) (fun k hk => by simp at hk) (by simp) rfl).1
  · -- the pending generation was reset; possibly a newer generation is current (the late release)
    rw [r3tail_reset fl hen.pDone hen.ssDone hen.pStatus hcl hsubj (by rw [hi.shared]; exact hsubj)]
    have hst : ∀ k, k < u.ngens → u.subject ≠ some k → GenStale ((resetDone g u).gens k) := fun k hk hne => by
      by_cases hkg : k = g
      · subst hkg; exact resetDone_stale hen
      · rw [resetDone_other u hkg]; exact hi.stale k hk hne (fun hh => hkg (Option.some.inj hh).symm)
    have hcount : (resetDone g u).refCount = ((openSubs u).length + Pend.idle.c : Nat) := by
      show u.refCount - 1 = _
      rw [hi.count]; simp [Pend.c]
    cases hsub : u.subject with
    | none =>
      obtain ⟨hE, hC, hno⟩ := hi.idle hsub
      exact Inv.of_none hsub (hi.shared.trans hsub) hE hC hno hi.closed
        (fun k hk => ⟨fun _ => hst k hk (by rw [hsub]; simp), fun hu => by simp at hu⟩) (by rw [hcount, hno]; rfl) (fun k hk => by simp at hk) rfl
    | some g' =>
      have hg'g : g' ≠ g := fun hh => hsubj (hh ▸ hsub)
      exact Inv.of_cur hsub hi.shared (hi.cur g' hsub).1
        (cur_bystander (hi.cur g' hsub).2 (fun hh => hg'g (Option.some.inj hh).symm) (by simp) rfl (resetDone_other u hg'g) rfl rfl rfl rfl)
        hi.closed (fun k hk hkg => ⟨fun _ => hst k hk (by rw [hsub]; exact fun hh => hkg (Option.some.inj hh).symm), fun hu => by simp at hu⟩)
        hcount (fun k hk => by simp at hk) (fun A hA => by simp at hA)

/-! ### a nested event, and nested runs -/

theorem subscribeK_join (cfg : Cfg) (k : St → St) {s : St} (hnn : needsNew s = false) : subscribeK cfg k s = subscribe cfg s := by
  simp [subscribeK, subscribe, hnn]

/-- with a shared generation in place nothing is created, so nothing happens inside the source's `Subscribe` -/
theorem subscribeK_shared (cfg : Cfg) (k : St → St) {P : Pend} {s : St} {g : Nat} (hi : Inv P s) (hsub : s.subject = some g) :
    subscribeK cfg k s = subscribe cfg s :=
  subscribeK_join cfg k (by
    cases h : needsNew s with
    | false => rfl
    | true => rw [(needsNew_iff hi).mp h] at hsub; cases hsub)

theorem mid_foldl (cfg : Cfg) {g i : Nat} (inner : List Event) {u : St} (h : Mid g i u) :
    Mid g i (inner.foldl (stepInner cfg i) u) :=
  foldl_inv (I := Mid g i) _ inner (fun _ e _ h => mid_stepInner cfg h e) h

/-- the creator of a generation after its synchronous prefix, seen as a pending creator; no other
    generation can be the shared one yet -/
theorem mid_playPre (cfg : Cfg) {s : St} (hi : Inv Pend.idle s) (hsub : s.subject = none) (n : Nat) :
    Mid s.ngens s.nsubs (playPre cfg s.ngens (cfg.pre n) (freshState cfg.conn s)) ∧
      ∀ g, (playPre cfg s.ngens (cfg.pre n) (freshState cfg.conn s)).subject = some g → g = s.ngens := by
  rcases playPre_live cfg (cfg.pre n) (flive_freshState cfg.conn hi hsub) with h | h | h
  · exact ⟨⟨Or.inl (flive_inv h), by rw [h.nsubs]; omega⟩, fun g hg => by rw [h.subject] at hg; exact (Option.some.inj hg).symm⟩
  · exact ⟨⟨Or.inr ⟨freset_inv h, h.sub.status⟩, by rw [h.nsubs]; omega⟩, fun g hg => by rw [h.subject] at hg; cases hg⟩
  · exact ⟨⟨Or.inr ⟨flatch_inv h, h.sub.status⟩, by rw [h.nsubs]; omega⟩, fun g hg => by rw [h.subject] at hg; exact (Option.some.inj hg).symm⟩

/-- **the invariant survives a nested event**: whatever happens inside the source's `Subscribe`
    (any plain events: other subscribers arriving and leaving, source values and terminals), the
    invariant holds again when the nested `sub` has returned -/
theorem inv_nstep (cfg : Cfg) {s : St} (hi : Inv Pend.idle s) (e : NEvent) : Inv Pend.idle (nstep cfg s e) := by
  cases e with
  | plain e => exact inv_step cfg hi e
  | subNested inner =>
    show Inv Pend.idle (subscribeK cfg _ s)
    cases hsub : s.subject with
    | some g =>
      rw [subscribeK_shared cfg _ hi hsub]
      exact subscribe_cases cfg hi
    | none =>
      obtain ⟨n, he⟩ := subscribeK_fresh cfg (fun u => inner.foldl (stepInner cfg s.nsubs) u) ((needsNew_iff hi).mpr hsub)
      rw [he]
      exact finish_mid cfg.flags (mid_foldl cfg inner (mid_playPre cfg hi hsub n).1)

/-- every state reachable by nested events (between two top-level events) satisfies the invariant -/
theorem inv_nrun (cfg : Cfg) (evs : List NEvent) : Inv Pend.idle (nrun cfg evs) :=
  foldl_inv (I := Inv Pend.idle) (nstep cfg) evs (fun _ e _ hi => inv_nstep cfg hi e) Inv.init

end Ro.Share
