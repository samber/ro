/-
  RoProofs.PromChain — generic facts about chains with one gate per stage (`Ro.Prom.push`,
  `subscribePhase`, `settle`, `closeAll`, `run`): how head gates move; the induction principle of
  a run (`run_induction`: what the subscription phase establishes and every operation of a run
  keeps holds at its end); and the local-invariant principle built on it (a per-stage invariant
  over (state, accepted notifications) that holds initially and is kept by the stage's own
  reactions holds in every configuration a run can reach — possibly under a condition on the
  notifications that every stage passes on to the next).
-/
import RoModel.Prom
import RoProofs.Gate
namespace Ro.Prom
open Ro

variable {α : Type}

@[simp] theorem feedAll_nil {C : Type} (f : C → Notif α → C × List (Notif α)) (c : C) :
    feedAll f c [] = (c, []) := rfl

theorem feedAll_cons {C : Type} (f : C → Notif α → C × List (Notif α)) (c : C) (n : Notif α) (ns) :
    feedAll f c (n :: ns) = ((feedAll f (f c n).1 ns).1, (f c n).2 ++ (feedAll f (f c n).1 ns).2) := rfl

theorem feedAll_append {C : Type} (f : C → Notif α → C × List (Notif α)) (c : C) (a b : List (Notif α)) :
    feedAll f c (a ++ b) = ((feedAll f (feedAll f c a).1 b).1, (feedAll f c a).2 ++ (feedAll f (feedAll f c a).1 b).2) := by
  induction a generalizing c with
  | nil => simp
  | cons x xs ih => simp [feedAll_cons, ih, List.append_assoc]

/-- What holds of a state and of the emissions made so far, and is kept by every step on a
    notification of the list, is kept by `feedAll`. -/
theorem feedAll_induction {C : Type} (f : C → Notif α → C × List (Notif α)) (P : C → List (Notif α) → Prop)
    (c : C) (o ns : List (Notif α)) (h : ∀ c o n, n ∈ ns → P c o → P (f c n).1 (o ++ (f c n).2)) (hc : P c o) :
    P (feedAll f c ns).1 (o ++ (feedAll f c ns).2) := by
  induction ns generalizing c o with
  | nil => simpa using hc
  | cons x xs ih =>
    rw [feedAll_cons, ← List.append_assoc]
    exact ih _ _ (fun c o n hn => h c o n (List.mem_cons_of_mem _ hn)) (h c o x (List.mem_cons_self ..) hc)

/-- an invariant kept by every single step is kept by `feedAll` -/
theorem feedAll_inv {C : Type} (f : C → Notif α → C × List (Notif α)) (P : C → Prop)
    (h : ∀ c n, P c → P (f c n).1) (c : C) (ns : List (Notif α)) (hc : P c) : P (feedAll f c ns).1 :=
  feedAll_induction f (fun c _ => P c) c [] ns (fun c _ n _ => h c n) hc

theorem push_cons_open (hot : Bool) (a : AnyM α) (rest : List (AnyM α)) (c : Cfg (a :: rest)) (n : Notif α)
    (h : c.1.gate = true) :
    push hot (a :: rest) c n =
      (({ c.1 with st := (a.m.step c.1.st n).1,
                   gate := !n.isTerminal && !(hot && !headOpen rest (feedAll (push hot rest) c.2 (a.m.step c.1.st n).2).1),
                   seen := c.1.seen ++ [n] },
        (feedAll (push hot rest) c.2 (a.m.step c.1.st n).2).1),
       (feedAll (push hot rest) c.2 (a.m.step c.1.st n).2).2) := by
  simp only [push, h, if_true]
  rfl

theorem push_sink_open (hot : Bool) (c : Cfg ([] : List (AnyM α))) (n : Notif α) (h : SinkSt.gate c = true) :
    push hot [] c n = (({ gate := !n.isTerminal } : SinkSt), [n]) := by
  simp only [push, h, if_true]
  rfl

theorem subscribePhase_cons_reached (sub : Ctx) (a : AnyM α) (rest : List (AnyM α)) (c : Cfg (a :: rest))
    (h : (subscribePhase sub rest c.2).reached = true) :
    subscribePhase sub (a :: rest) c =
      { cfg := ({ c.1 with st := (a.m.onSubscribe c.1.st sub).1, subd := c.1.subd + 1 },
                (feedAll (push false rest) (subscribePhase sub rest c.2).cfg (a.m.onSubscribe c.1.st sub).2).1),
        out := (subscribePhase sub rest c.2).out ++
               (feedAll (push false rest) (subscribePhase sub rest c.2).cfg (a.m.onSubscribe c.1.st sub).2).2,
        reached := a.m.subscribes } := by
  simp [subscribePhase, h]

theorem subscribePhase_cons_unreached (sub : Ctx) (a : AnyM α) (rest : List (AnyM α)) (c : Cfg (a :: rest))
    (h : (subscribePhase sub rest c.2).reached = false) :
    subscribePhase sub (a :: rest) c =
      { cfg := (c.1, (subscribePhase sub rest c.2).cfg), out := (subscribePhase sub rest c.2).out, reached := false } := by
  simp [subscribePhase, h]

theorem push_closed (hot : Bool) (ms : List (AnyM α)) (c : Cfg ms) (n : Notif α)
    (h : headOpen ms c = false) : push hot ms c n = (c, []) := by
  cases ms with
  | nil => simp only [headOpen] at h; simp [push, h]
  | cons a rest => simp only [headOpen] at h; simp [push, h]

/-- a head gate that is open after a push was open before it, and the notification was a value -/
theorem push_headOpen_le (hot : Bool) (ms : List (AnyM α)) (c : Cfg ms) (n : Notif α)
    (h : headOpen ms (push hot ms c n).1 = true) : headOpen ms c = true ∧ n.isTerminal = false := by
  cases ho : headOpen ms c with
  | false => rw [push_closed hot ms c n ho, ho] at h; cases h
  | true =>
    refine ⟨rfl, ?_⟩
    cases ms with
    | nil => simp only [headOpen] at ho; simpa [push, ho, headOpen] using h
    | cons a rest =>
      simp only [headOpen] at ho
      simp only [push, ho, if_true, headOpen, Bool.and_eq_true, Bool.not_eq_true'] at h
      exact h.1

/-- without registered teardowns a head gate closes at a terminal and at nothing else -/
theorem push_headOpen_sync (ms : List (AnyM α)) (c : Cfg ms) (n : Notif α)
    (h : headOpen ms c = true) : headOpen ms (push false ms c n).1 = !n.isTerminal := by
  cases ms with
  | nil => simp only [headOpen] at h; simp [push, h, headOpen]
  | cons a rest => simp only [headOpen] at h; simp [push, h, headOpen]

theorem feedAll_push_closed (hot : Bool) (ms : List (AnyM α)) (c : Cfg ms) (ns : List (Notif α))
    (h : headOpen ms c = false) : feedAll (push hot ms) c ns = (c, []) := by
  induction ns with
  | nil => rfl
  | cons x xs ih => rw [feedAll_cons, push_closed hot ms c x h]; simp [ih]

theorem subscribePhase_headOpen (sub : Ctx) (ms : List (AnyM α)) (c : Cfg ms) :
    headOpen ms (subscribePhase sub ms c).cfg = headOpen ms c := by
  cases ms with
  | nil => rfl
  | cons a rest =>
    simp only [subscribePhase]
    split <;> rfl

theorem settle_headOpen_le (ms : List (AnyM α)) (c : Cfg ms)
    (h : headOpen ms (settle ms c) = true) : headOpen ms c = true := by
  cases ms with
  | nil => simpa [settle] using h
  | cons a rest =>
    simp only [settle, headOpen, Bool.and_eq_true] at h
    simpa [headOpen] using h.1

theorem closeAll_headOpen (ms : List (AnyM α)) (c : Cfg ms) : headOpen ms (closeAll ms c) = false := by
  cases ms with
  | nil => rfl
  | cons a rest => rfl

theorem allOpen_headOpen (ms : List (AnyM α)) (c : Cfg ms) (h : allOpen ms c = true) : headOpen ms c = true := by
  cases ms with
  | nil => simpa [allOpen, headOpen] using h
  | cons a rest =>
    simp only [allOpen, Bool.and_eq_true] at h
    simpa [headOpen] using h.1

theorem run_unreached (hot : Bool) (sub : Ctx) (ms : List (AnyM α)) (raw : List (Notif α)) (cut : Option Nat)
    (h : (subscribePhase sub ms (initCfg ms)).reached = false) :
    run hot sub ms raw cut =
      { cfg := (subscribePhase sub ms (initCfg ms)).cfg, out := (subscribePhase sub ms (initCfg ms)).out,
        srcSubs := 0, rel := 0 } := by
  simp [run, h]

theorem run_sync (sub : Ctx) (ms : List (AnyM α)) (raw : List (Notif α)) (cut : Option Nat)
    (h : (subscribePhase sub ms (initCfg ms)).reached = true) :
    run false sub ms raw cut =
      { cfg := settle ms (feedAll (push false ms) (subscribePhase sub ms (initCfg ms)).cfg raw).1,
        out := (subscribePhase sub ms (initCfg ms)).out ++ (feedAll (push false ms) (subscribePhase sub ms (initCfg ms)).cfg raw).2,
        srcSubs := 1,
        rel := if allOpen ms (settle ms (feedAll (push false ms) (subscribePhase sub ms (initCfg ms)).cfg raw).1) then 0 else 1 } := by
  simp [run, h]

theorem run_hot_none (sub : Ctx) (ms : List (AnyM α)) (raw : List (Notif α))
    (h : (subscribePhase sub ms (initCfg ms)).reached = true) :
    run true sub ms raw none =
      { cfg := (feedAll (push true ms) (settle ms (subscribePhase sub ms (initCfg ms)).cfg) raw).1,
        out := (subscribePhase sub ms (initCfg ms)).out ++ (feedAll (push true ms) (settle ms (subscribePhase sub ms (initCfg ms)).cfg) raw).2,
        srcSubs := 1,
        rel := if allOpen ms (feedAll (push true ms) (settle ms (subscribePhase sub ms (initCfg ms)).cfg) raw).1 then 0 else 1 } := by
  simp [run, h]

theorem run_hot_some (sub : Ctx) (ms : List (AnyM α)) (raw : List (Notif α)) (k : Nat)
    (h : (subscribePhase sub ms (initCfg ms)).reached = true) :
    run true sub ms raw (some k) =
      { cfg := (feedAll (push true ms) (closeAll ms (feedAll (push true ms) (settle ms (subscribePhase sub ms (initCfg ms)).cfg) (raw.take k)).1) (raw.drop k)).1,
        out := (subscribePhase sub ms (initCfg ms)).out ++ (feedAll (push true ms) (settle ms (subscribePhase sub ms (initCfg ms)).cfg) (raw.take k)).2
                ++ (feedAll (push true ms) (closeAll ms (feedAll (push true ms) (settle ms (subscribePhase sub ms (initCfg ms)).cfg) (raw.take k)).1) (raw.drop k)).2,
        srcSubs := 1, rel := 1 } := by
  simp [run, h]

/-- What holds of the configuration and of what was delivered once the subscribe functions have
    run, and is kept by every notification of the script pushed in, by the registration of the
    teardowns and by an external `Unsubscribe`, holds at the end of the run. -/
theorem run_induction {ms : List (AnyM α)} (P : Cfg ms → List (Notif α) → Prop) (sub : Ctx) (raw : List (Notif α))
    (h0 : P (subscribePhase sub ms (initCfg ms)).cfg (subscribePhase sub ms (initCfg ms)).out)
    (hpush : ∀ hot c o n, n ∈ raw → P c o → P (push hot ms c n).1 (o ++ (push hot ms c n).2))
    (hsettle : ∀ c o, P c o → P (settle ms c) o) (hclose : ∀ c o, P c o → P (closeAll ms c) o)
    (hot : Bool) (cut : Option Nat) : P (run hot sub ms raw cut).cfg (run hot sub ms raw cut).out := by
  have hfeed : ∀ hot c o ns, (∀ n ∈ ns, n ∈ raw) → P c o →
      P (feedAll (push hot ms) c ns).1 (o ++ (feedAll (push hot ms) c ns).2) :=
    fun hot c o ns hns => feedAll_induction _ P c o ns (fun c o n hn => hpush hot c o n (hns n hn))
  cases hr : (subscribePhase sub ms (initCfg ms)).reached
  · rw [run_unreached hot sub ms raw cut hr]; exact h0
  · cases hot
    · rw [run_sync sub ms raw cut hr]; exact hsettle _ _ (hfeed false _ _ raw (fun _ h => h) h0)
    · cases cut with
      | none => rw [run_hot_none sub ms raw hr]; exact hfeed true _ _ raw (fun _ h => h) (hsettle _ _ h0)
      | some k =>
        rw [run_hot_some sub ms raw k hr]
        exact hfeed true _ _ _ (fun _ => List.mem_of_mem_drop)
          (hclose _ _ (hfeed true _ _ _ (fun _ => List.mem_of_mem_take) (hsettle _ _ h0)))

/-- a per-stage predicate over (machine state, notifications accepted so far, runs of the
    subscribe function so far) -/
def AllInv (I : (a : AnyM α) → a.σ → List (Notif α) → Nat → Prop) : (ms : List (AnyM α)) → Cfg ms → Prop
  | [], _ => True
  | a :: rest, c => I a c.1.st c.1.seen c.1.subd ∧ AllInv I rest c.2

/-- … that holds initially at stage `a` and is kept by its own reactions to notifications that
    satisfy `G`, what it then emits satisfying `G` again -/
structure LocalInv (G : Notif α → Prop) (I : (a : AnyM α) → a.σ → List (Notif α) → Nat → Prop) (a : AnyM α) :
    Prop where
  init : I a a.m.init [] 0
  sub : ∀ s l k c, I a s l k → I a (a.m.onSubscribe s c).1 l (k + 1) ∧ ∀ x ∈ (a.m.onSubscribe s c).2, G x
  step : ∀ s l k n, G n → I a s l k → I a (a.m.step s n).1 (l ++ [n]) k ∧ ∀ x ∈ (a.m.step s n).2, G x

variable {G : Notif α → Prop} {I : (a : AnyM α) → a.σ → List (Notif α) → Nat → Prop} {ms : List (AnyM α)}

theorem allInv_init (h : ∀ a ∈ ms, LocalInv G I a) : AllInv I ms (initCfg ms) := by
  induction ms with
  | nil => trivial
  | cons a rest ih =>
    obtain ⟨ha, hr⟩ := List.forall_mem_cons.mp h
    exact ⟨ha.init, ih hr⟩

theorem allInv_push (h : ∀ a ∈ ms, LocalInv G I a) (hot : Bool) (c : Cfg ms) (n : Notif α) (hn : G n)
    (hc : AllInv I ms c) : AllInv I ms (push hot ms c n).1 := by
  induction ms generalizing n with
  | nil => trivial
  | cons a rest ih =>
    obtain ⟨ha, hr⟩ := List.forall_mem_cons.mp h
    simp only [push]
    split
    · have hs := ha.step _ _ _ n hn hc.1
      exact ⟨hs.1, feedAll_induction _ (fun c _ => AllInv I rest c) _ [] _
        (fun c' _ n' hn' => ih hr c' n' (hs.2 n' hn')) hc.2⟩
    · exact hc

theorem allInv_feedAll (h : ∀ a ∈ ms, LocalInv G I a) (hot : Bool) (c : Cfg ms) (ns : List (Notif α))
    (hns : ∀ n ∈ ns, G n) (hc : AllInv I ms c) : AllInv I ms (feedAll (push hot ms) c ns).1 :=
  feedAll_induction _ (fun c _ => AllInv I ms c) c [] ns (fun c' _ n' hn' => allInv_push h hot c' n' (hns n' hn')) hc

theorem allInv_settle (ms : List (AnyM α)) (c : Cfg ms) (hc : AllInv I ms c) : AllInv I ms (settle ms c) := by
  induction ms with
  | nil => trivial
  | cons a rest ih => exact ⟨hc.1, ih c.2 hc.2⟩

theorem allInv_closeAll (ms : List (AnyM α)) (c : Cfg ms) (hc : AllInv I ms c) : AllInv I ms (closeAll ms c) := by
  induction ms with
  | nil => trivial
  | cons a rest ih => exact ⟨hc.1, ih c.2 hc.2⟩

theorem allInv_subscribePhase (h : ∀ a ∈ ms, LocalInv G I a) (sub : Ctx) (c : Cfg ms)
    (hc : AllInv I ms c) : AllInv I ms (subscribePhase sub ms c).cfg := by
  induction ms with
  | nil => trivial
  | cons a rest ih =>
    obtain ⟨ha, hr⟩ := List.forall_mem_cons.mp h
    simp only [subscribePhase]
    split
    · have hs := ha.sub _ _ _ sub hc.1
      exact ⟨hs.1, allInv_feedAll hr false _ _ hs.2 (ih hr c.2 hc.2)⟩
    · exact ⟨hc.1, ih hr c.2 hc.2⟩

/-- the local-invariant principle: every configuration at the end of a run whose script satisfies `G` -/
theorem allInv_run (h : ∀ a ∈ ms, LocalInv G I a) (hot : Bool) (sub : Ctx) (raw : List (Notif α))
    (cut : Option Nat) (hraw : ∀ n ∈ raw, G n) : AllInv I ms (run hot sub ms raw cut).cfg :=
  run_induction (fun c _ => AllInv I ms c) sub raw (allInv_subscribePhase h sub _ (allInv_init h))
    (fun hot c _ n hn => allInv_push h hot c n (hraw n hn)) (fun c _ => allInv_settle ms c)
    (fun c _ => allInv_closeAll ms c) hot cut

end Ro.Prom
