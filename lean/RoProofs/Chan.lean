/-
  RoProofs.Chan — what the invariants of RoProofs/Chan/*.lean say about every schedule of the
  `Pipe` system (detachOn = ObserveOn / SubscribeOn, and ToChannel), and Collect over detachOn.
-/
import RoProofs.Chan.Prod
import RoProofs.Chan.Cons
namespace Ro.Chan
open Ro
variable {α : Type}

variable {cfg : Cfg} {src₀ : List (Notif α)} {s s' : St α}

theorem inv_step (h : Inv cfg src₀ s) (t : Tid) (hs : step cfg s t = some s') : Inv cfg src₀ s' := by
  cases t
  · exact inv_prod h hs
  · exact inv_cons h hs
  · exact inv_ctl h hs
  · cases hs

/-- what every enabled step preserves holds after every schedule -/
theorem run_induction {P : St α → Prop} (hstep : ∀ {s s'} t, P s → step cfg s t = some s' → P s') :
    ∀ (sched : List Tid) {s}, P s → P (run cfg s sched)
  | [], _, h => h
  | t :: ts, s, h => run_induction hstep ts <| by
    unfold next
    cases hs : step cfg s t
    · exact h
    · exact hstep t h hs

/-- the invariant holds after every schedule of the three threads, for every capacity, flavour,
    source mode and raw script -/
theorem inv_run (cfg : Cfg) (src₀ : List (Notif α)) (sched : List Tid) :
    Inv cfg src₀ (run cfg (init cfg src₀) sched) :=
  run_induction (fun t h => inv_step h t) sched (inv_init cfg src₀)

/-! ### FIFO, no loss, terminal last -/

/-- what the consumer has handled is a prefix of the gated script: in order, nothing missing in
    between, nothing invented, nothing twice -/
theorem got_prefix (h : Inv cfg src₀ s) : ∃ t, s.got ++ t = gate src₀ :=
  let ⟨_, e⟩ := h.script; ⟨_, e⟩

/-- … and so is what went into the channel -/
theorem sent_prefix {cfg : Cfg} {src₀ : List (Notif α)} {s : St α} (h : Inv cfg src₀ s) :
    ∃ t, s.sent ++ t = gate src₀ := by
  obtain ⟨t, e⟩ := h.pre
  exact ⟨s.fails ++ hand s.ppc ++ t, by rw [← e, h.flow]; simp⟩

/-- the terminal is last: nothing follows a terminal in what the consumer sees -/
theorem got_terminal_last (h : Inv cfg src₀ s)
    (l r : List (Notif α)) (x : Notif α) (hg : s.got = l ++ x :: r) (hx : x.isTerminal = true) : r = [] := by
  obtain ⟨t, e⟩ := got_prefix h
  cases r with
  | nil => rfl
  | cons y r' =>
    rw [hg] at e
    have := noTerm_of_prefix_gate (l := l ++ [x]) (x := y) (t := r' ++ t) (by simpa using e)
    simp [hx] at this

/-- detachOn: the final observer gets a prefix of what the consumer loop handled, and all of it as
    long as `Unsubscribe()` has not been called (`Inv.earlyOut`) -/
theorem out_prefix (h : Inv cfg src₀ s) : ∃ t, s.out ++ t = gate src₀ :=
  List.IsPrefix.trans h.outPre (got_prefix h)

/-! ### the bound of C08 -/

theorem chold_length_le (p : CPc α) : (chold p).length ≤ 1 := by
  cases p <;> simp [chold]

/-- produced − consumed ≤ capacity + 2, not counting the notifications whose send hit the closed
    channel (they are thrown away, not queued) -/
theorem ahead_le (h : Inv cfg src₀ s) :
    s.entered.length ≤ s.got.length + cfg.cap + 2 + s.fails.length := by
  have h1 := congrArg List.length h.flow
  have h2 := congrArg List.length h.fifo
  simp only [List.length_append] at h1 h2
  have := h.room
  have := hand_length_le s.ppc
  have := chold_length_le s.cpc
  omega

/-- nobody unsubscribed: no send fails, the plain bound holds -/
theorem ahead_le_early (h : Inv cfg src₀ s) (he : early s = true) : s.ahead ≤ cfg.cap + 2 := by
  have := ahead_le h
  rw [h.earlyFails he] at this
  simp only [St.ahead, List.length_nil] at *
  omega

/-- a registered (hot) source is cut before the channel is closed: at most the one notification
    that was already inside its callback hits the closed channel -/
theorem fails_le_one_hot (h : Inv cfg src₀ s) (hh : cfg.hot = true) : s.fails.length ≤ 1 := by
  have := h.hotFails hh
  omega

theorem ahead_le_hot {cfg : Cfg} {src₀ : List (Notif α)} {s : St α} (h : Inv cfg src₀ s)
    (hh : cfg.hot = true) : s.ahead ≤ cfg.cap + 3 := by
  have := ahead_le h
  have := fails_le_one_hot h hh
  simp only [St.ahead] at *
  omega

/-! ### close exactly once -/

theorem closes_le_one (h : Inv cfg src₀ s) : s.closes ≤ 1 := by
  rw [h.closes]; split <;> omega

/-- as soon as one call of `stop()` / `closeChan()` has returned — the one after the terminal, or
    the teardown's — `close(ch)` has run exactly once -/
theorem closes_eq_one_of_stops (h : Inv cfg src₀ s) (hs : 0 < s.stops) : s.closes = 1 ∧ s.closed = true := by
  rw [h.closes, h.onceClosed, h.stops hs]; exact ⟨rfl, rfl⟩

theorem closed_iff_closes (h : Inv cfg src₀ s) : s.closed = true ↔ s.closes = 1 := by
  rw [h.closes, h.onceClosed]; cases s.once <;> simp

/-! the steps that call `stop()` are always enabled: the producer is never blocked between the
    terminal and `stop()`, the teardown never blocks -/

theorem step_prod_stop (cfg : Cfg) (h : s.ppc = .stop) :
    step cfg s .prod = some { s.stop with ppc := if cfg.toChan then .complete else .idle } := by
  simp only [step, stepProd, h]

theorem step_ctl_td1 (cfg : Cfg) (h : s.tpc = .td1) :
    step cfg s .ctl = some { s.unsubUp cfg with tpc := .td2 } := by
  simp only [step, stepCtl, h]

theorem step_ctl_td2 (cfg : Cfg) (h : s.tpc = .td2) : step cfg s .ctl = some { s.stop with tpc := .done } := by
  simp only [step, stepCtl, h]

theorem stop_stops_pos (s : St α) : 0 < s.stop.stops := by
  unfold St.stop; split <;> exact Nat.succ_pos _

/-- the deferred release (`defer stop()` / `defer closeChan()` before `subscriptions.Unsubscribe()`):
    once an external teardown has started, its thread needs exactly two steps, both always enabled,
    and then the channel is closed (exactly once) — for every configuration, in particular when
    the source's own teardown panics inside `subscriptions.Unsubscribe()`; in that case the panic
    is what the caller of `Unsubscribe()` gets afterwards (`raised`), not a channel left open -/
theorem teardown_releases (h : Inv cfg src₀ s) (ht : s.tpc = .td1) :
    ∃ s1 s2, step cfg s .ctl = some s1 ∧ step cfg s1 .ctl = some s2 ∧ s2.tpc = .done ∧
      s2.closed = true ∧ s2.closes = 1 ∧
      (cfg.upPanic = true → cfg.hot = true → s.upOpen = true → s2.raised = true) := by
  refine ⟨_, _, step_ctl_td1 cfg ht, step_ctl_td2 cfg rfl, rfl, ?_⟩
  rw [(inv_ctl_td1 h ht).stop_eq, unsubUp_eq]
  exact ⟨rfl, rfl, fun hp hh hu => by simp [hp, hh, hu]⟩

/-! ### completeness: when both ends have nothing left to do, everything arrived -/

/-- the producer cannot move: nothing left to emit, or a send that finds the open channel full and
    no consumer waiting with the channel in its hands -/
theorem prod_blocked (h : stepProd cfg s = none) :
    s.ppc = .idle ∧ s.src = [] ∨ ∃ x, s.ppc = .send x ∧ s.closed = false ∧
      (s.cpc = .recv → s.q = [] → (cfg.toChan && !s.handed) = true) := by
  unfold stepProd at h
  split at h
  next hpc =>
    split at h
    next hsrc => exact .inl ⟨hpc, hsrc⟩
    · split at h <;> cases h
  next x hpc =>
    refine .inr ⟨x, hpc, ?_⟩
    split at h
    · cases h
    next hcl =>
      refine ⟨by simpa using hcl, fun hc hq => ?_⟩
      rw [hc, hq] at h
      split at h
      · cases h
      · simpa using h
  all_goals (repeat' split at h) <;> cases h

/-- the consumer cannot move: it waits for the hand-out or at the empty open channel, or has left -/
theorem cons_blocked (h : stepCons cfg s = none) :
    s.cpc = .recv ∧ ((cfg.toChan && !s.handed) = true ∨ s.q = [] ∧ s.closed = false) ∨ s.cpc = .exited := by
  unfold stepCons at h
  split at h
  next hpc =>
    refine .inl ⟨hpc, ?_⟩
    split at h
    next hw => exact .inl hw
    · split at h
      · cases h
      next hq => exact .inr ⟨hq, by simpa using h⟩
  next => (repeat' split at h) <;> cases h
  next => cases h
  next => cases h
  next hpc => exact .inr hpc

theorem pipe_complete (h : Inv cfg src₀ s)
    (he : early s = true) (hh : cfg.toChan = true → s.handed = true)
    (hp : step cfg s .prod = none) (hc : step cfg s .cons = none) :
    s.got = gate src₀ ∧ (cfg.toChan = false → s.out = gate src₀) := by
  have hhand : ¬ (cfg.toChan && !s.handed) = true := by cases htc : cfg.toChan <;> simp [hh, htc]
  -- the consumer is empty-handed at an empty queue, and still listening if the channel is open
  have ⟨hq, hch, hrecv⟩ : s.q = [] ∧ chold s.cpc = [] ∧ (s.closed = false → s.cpc = .recv) := by
    rcases cons_blocked hc with ⟨hr, hw | hw⟩ | hx
    · exact (hhand hw).elim
    · exact ⟨hw.1, by rw [hr]; rfl, fun _ => hr⟩
    · have := h.cpc; rw [CpcOK, hx] at this
      exact ⟨this.2, by rw [hx]; rfl, fun e => by simp [this.1] at e⟩
  -- so a send would go through: the producer is idle, with nothing left to emit
  have ⟨hpp, hsrc⟩ : s.ppc = .idle ∧ s.src = [] := by
    rcases prod_blocked hp with hi | ⟨x, _, hcl, hw⟩
    · exact hi
    · exact (hhand (hw (hrecv hcl) hq)).elim
  have hgot : s.got = s.entered := by
    rw [h.flow, h.fifo, h.earlyFails he, hpp, hq, hch]; simp [hand]
  have : s.entered = gate src₀ := by
    cases hup : s.upOpen
    · exact (h.whole hup (h.earlyCut he)).symm
    · simpa [hsrc] using (h.open_ hup).symm
  exact ⟨hgot.trans this, fun hd => by rw [h.earlyOut hd he, hgot, this]⟩

/-! ### ToChannel: the hand-out of the channel -/

/-- once handed out, always handed out -/
theorem handed_step {t : Tid} (h : s.handed = true) (hs : step cfg s t = some s') : s'.handed = true := by
  cases t <;> simp only [step, stepProd, stepCons, stepCtl, St.stop, St.unsubUp] at hs
  all_goals (repeat' split at hs) <;> cases hs <;> first | exact h | rfl

/-- what the 1 ms sleep is for: when the hand-out is the first thing that happens, the destination
    receives the channel, whatever the schedule afterwards -/
theorem handout_first (cap : Nat) (hot : Bool) (src₀ : List (Notif α)) (sched : List Tid) :
    (run { cap := cap, toChan := true, hot := hot } (init { cap := cap, toChan := true, hot := hot } src₀) (.ctl :: sched)).handed = true :=
  run_induction (P := fun s => s.handed = true) (fun _ => handed_step) sched rfl

/-- an unbuffered channel cannot take the terminal before somebody reads it, and nobody can read
    before the hand-out: for capacity 0 the hand-out is never refused, under any schedule -/
theorem handout_unbuffered (hot : Bool) (src₀ : List (Notif α)) (sched : List Tid) :
    (run { cap := 0, toChan := true, hot := hot } (init { cap := 0, toChan := true, hot := hot } src₀) sched).handDropped = false :=
  (inv_run { cap := 0, toChan := true, hot := hot } src₀ sched).noDrop rfl rfl

/-- the empty-source race (DESIGN.md C17): for every capacity ≥ 1, when the goroutine runs before
    the hand-out, an empty source completes the destination first and the hand-out is refused —
    the consumer never gets a channel -/
theorem handout_race_witness (c : Nat) (hc : 0 < c) (ctx : Ctx) :
    let cfg : Cfg := { cap := c, toChan := true, hot := false }
    let s := run cfg (init cfg [Notif.complete (α := α) ctx]) [.prod, .prod, .prod, .prod, .ctl]
    s.handDropped = true ∧ s.handed = false ∧ s.destCompleted = true ∧ s.closes = 1 := by
  simp [run, next, step, stepProd, stepCtl, init, afterSend, St.stop, hc]

/-! ### Collect -/

/-- Collect over ObserveOn / SubscribeOn: once both ends are done, the same result -/
theorem collect_detach (h : Inv cfg src₀ s)
    (hd : cfg.toChan = false) (he : early s = true)
    (hp : step cfg s .prod = none) (hc : step cfg s .cons = none) (ht : ending src₀ ≠ .never) :
    some (collectOf s.out) = collect src₀ := by
  rw [(pipe_complete h he (by simp [hd]) hp hc).2 hd]
  unfold collect
  split
  · contradiction
  · rfl

end Ro.Chan
