/-
  RoProofs.Subjects — the subjects' step functions (RoModel/Subjects.lean): what the primitives do
  (subscriber gate, teardown, broadcast, replay) and that each of them keeps every subscriber's
  received trace within the observable grammar (C01(c)); the gate theorem itself, for all five kinds and
  every operation sequence, is `subscriber_grammar` in RoProofs/SubjectsMulti.lean.
-/
import RoModel.Spec.Subjects
import RoProofs.Gate
namespace Ro.Subj
open Ro

variable {α : Type}

theorem State.ext' {s t : State α} (h1 : s.status = t.status) (h2 : s.values = t.values)
    (h3 : s.observers = t.observers) (h4 : s.sub = t.sub) (h5 : s.drops = t.drops) : s = t := by
  cases s; cases t; simp_all

@[simp] theorem modSub_sub (s : State α) (i j : Nat) (f : Sub α → Sub α) :
    (s.modSub i f).sub j = if j = i then f (s.sub j) else s.sub j := rfl
@[simp] theorem modSub_status (s : State α) (i : Nat) (f) : (s.modSub i f).status = s.status := rfl
@[simp] theorem modSub_values (s : State α) (i : Nat) (f) : (s.modSub i f).values = s.values := rfl
@[simp] theorem modSub_observers (s : State α) (i : Nat) (f) : (s.modSub i f).observers = s.observers := rfl
@[simp] theorem modSub_drops (s : State α) (i : Nat) (f) : (s.modSub i f).drops = s.drops := rfl
@[simp] theorem drop_sub (s : State α) (n) : (s.drop n).sub = s.sub := rfl
@[simp] theorem drop_status (s : State α) (n) : (s.drop n).status = s.status := rfl
@[simp] theorem drop_values (s : State α) (n) : (s.drop n).values = s.values := rfl
@[simp] theorem drop_observers (s : State α) (n) : (s.drop n).observers = s.observers := rfl

theorem termCode_ne_zero (n : Notif α) : termCode n ≠ 0 := by cases n <;> simp [termCode]

/-- open subscriber: only values so far; closed subscriber: a grammatical trace -/
def Sub.ok (x : Sub α) : Prop :=
  if x.status = 0 then hasTerm x.got = false else Grammar x.got

def AllOk (s : State α) : Prop := ∀ j, (s.sub j).ok

theorem grammar_of_noTerm (l : List (Notif α)) (h : hasTerm l = false) : Grammar l := by
  have := gate_grammar l
  rwa [gate_of_noTerm l h] at this

theorem hasTerm_snoc_next (l : List (Notif α)) (c : Ctx) (v : α) : hasTerm (l ++ [.next c v]) = hasTerm l := by
  simp [hasTerm]

theorem Sub.ok.grammar {x : Sub α} (h : x.ok) : Grammar x.got := by
  unfold Sub.ok at h
  split at h
  · exact grammar_of_noTerm _ h
  · exact h

theorem ok_default : (({} : Sub α)).ok := by simp [Sub.ok, hasTerm]
theorem ok_fresh : (({ used := true } : Sub α)).ok := by simp [Sub.ok, hasTerm]

theorem allOk_modSub {s : State α} (h : AllOk s) (i : Nat) (f : Sub α → Sub α) (hf : (f (s.sub i)).ok) :
    AllOk (s.modSub i f) := by
  intro j
  by_cases hj : j = i
  · subst hj; simpa using hf
  · simpa [hj] using h j

theorem allOk_of_sub_eq {s t : State α} (h : AllOk s) (e : t.sub = s.sub) : AllOk t := by
  intro j; rw [e]; exact h j

theorem allOk_subNext {s : State α} (h : AllOk s) (i : Nat) (c : Ctx) (v : α) : AllOk (subNext s i c v) := by
  unfold subNext
  split
  · rename_i h0
    apply allOk_modSub h
    have := h i
    simp only [Sub.ok, h0, if_true] at this ⊢
    rw [hasTerm_snoc_next]; exact this
  · exact allOk_of_sub_eq h rfl

theorem allOk_runTeardown {s : State α} (h : AllOk s) (m : TD) (i : Nat) : AllOk (runTeardown m s i) := by
  unfold runTeardown
  split
  · cases m <;>
    · intro j
      have := h j
      by_cases hj : j = i <;> simp [hj, Sub.ok] at this ⊢ <;> exact this
  · exact h

theorem allOk_subTerminal {s : State α} (h : AllOk s) (m : TD) (i : Nat) (n : Notif α) :
    AllOk (subTerminal m s i n) := by
  unfold subTerminal
  apply allOk_runTeardown
  split
  · rename_i h0
    apply allOk_modSub h
    have := h i
    simp only [Sub.ok, h0, if_true] at this
    simp only [Sub.ok, termCode_ne_zero, if_false]
    exact grammar_snoc _ _ this
  · exact allOk_of_sub_eq h rfl

theorem allOk_subUnsubscribe {s : State α} (h : AllOk s) (m : TD) (i : Nat) : AllOk (subUnsubscribe m s i) := by
  unfold subUnsubscribe
  split
  · rename_i h0
    apply allOk_runTeardown
    apply allOk_modSub h
    have := h i
    simp only [Sub.ok, h0, if_true] at this
    simp only [Sub.ok]
    exact grammar_of_noTerm _ this
  · exact h

theorem allOk_fresh {s : State α} (h : AllOk s) (i : Nat) : AllOk (fresh s i) :=
  allOk_modSub h i _ ok_fresh

theorem allOk_register {s : State α} (h : AllOk s) (i : Nat) : AllOk (register s i) := by
  intro j
  have := h j
  by_cases hj : j = i <;> simp [register, hj, Sub.ok] at this ⊢ <;> exact this

theorem allOk_foldl {β : Type} (f : State α → β → State α) (hf : ∀ s b, AllOk s → AllOk (f s b)) :
    ∀ (l : List β) (s : State α), AllOk s → AllOk (l.foldl f s)
  | [], _, h => h
  | b :: l, s, h => allOk_foldl f hf l (f s b) (hf s b h)

theorem allOk_broadcastNext {s : State α} (h : AllOk s) (c : Ctx) (v : α) : AllOk (broadcastNext s c v) :=
  allOk_foldl _ (fun _ i hs => allOk_subNext hs i c v) _ _ h

theorem allOk_broadcastTerminal {s : State α} (h : AllOk s) (n : Notif α) : AllOk (broadcastTerminal s n) :=
  allOk_foldl _ (fun _ i hs => allOk_subTerminal hs .delete i n) _ _ h

theorem allOk_replayTo {s : State α} (h : AllOk s) (i : Nat) (vs : List (Ctx × α)) : AllOk (replayTo s i vs) :=
  allOk_foldl _ (fun _ p hs => allOk_subNext hs i p.1 p.2) _ _ h

theorem allOk_push {s : State α} (h : AllOk s) (cap : Option Nat) (c : Ctx) (v : α) : AllOk (push cap s c v) := by
  unfold push
  cases cap with
  | none => exact allOk_of_sub_eq h rfl
  | some n => dsimp only; split <;> exact allOk_of_sub_eq h rfl

theorem allOk_status {s : State α} (h : AllOk s) (st : Status) : AllOk { s with status := st } :=
  allOk_of_sub_eq h rfl

theorem allOk_unsubscribeAll {s : State α} (h : AllOk s) : AllOk (unsubscribeAll s) := allOk_of_sub_eq h rfl

theorem allOk_drop {s : State α} (h : AllOk s) (n : Notif α) : AllOk (s.drop n) := allOk_of_sub_eq h rfl

theorem allOk_unicastStep (cap : Option Nat) {s : State α} (h : AllOk s) (o : Op α) : AllOk (unicastStep cap s o) := by
  cases o with
  | subscribe i c =>
    simp only [unicastStep]
    split
    · exact h
    · split
      · exact allOk_subTerminal (allOk_fresh h i) _ _ _
      · exact allOk_subTerminal (allOk_fresh h i) _ _ _
      · split
        · exact allOk_subTerminal (allOk_fresh h i) _ _ _
        · have h1 := allOk_replayTo (allOk_fresh h i) i s.values
          intro j
          have := h1 j
          by_cases hj : j = i <;> simp [hj, Sub.ok] at this ⊢ <;> exact this
  | next c v =>
    simp only [unicastStep]
    split
    · split
      · exact allOk_subNext h _ _ _
      · exact allOk_push h _ _ _
    · exact allOk_drop h _
  | error c e =>
    simp only [unicastStep]
    split
    · split
      · apply allOk_subTerminal; exact allOk_of_sub_eq h rfl
      · exact allOk_of_sub_eq h rfl
    · exact allOk_drop h _
  | complete c =>
    simp only [unicastStep]
    split
    · split
      · apply allOk_subTerminal; exact allOk_of_sub_eq h rfl
      · exact allOk_of_sub_eq h rfl
    · exact allOk_drop h _
  | unsubscribe i =>
    simp only [unicastStep]
    split
    · exact allOk_subUnsubscribe h _ _
    · exact h

end Ro.Subj
