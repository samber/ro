/-
  RoProofs.ResubRetry — RetryWithConfig / Retry (C15).
-/
import RoProofs.Resub
namespace Ro.Resub
open Ro Ro.Resub Ro.Resub.Spec

variable (cfg : RetryCfg) (sub : Ctx)

theorem retryLoop_cancelled {cancel : Option Nat} {i : Nat} (h : cancelledBefore cancel i = true) (outs : List Outcome) (r : Nat) :
    retryLoop cfg sub cancel outs i r = .stop [.error sub ctxCanceled] := by
  cases outs <;> simp only [retryLoop, h, if_true]

/-- one round. The `select` on `Done()` during the delay changes nothing in the result: the cancellation it sees would
    be seen by the check at the top of the next round. -/
theorem retryLoop_cons (cancel : Option Nat) (o : Outcome) (rest : List Outcome) (i r : Nat)
    (h : cancelledBefore cancel i = false) :
    retryLoop cfg sub cancel (o :: rest) i r =
      match o.fin with
      | .complete => .after (o.nexts sub ++ [.complete (o.finCtx sub)]) i (.stop [])
      | .error e =>
        if shouldRetry cfg (retriesAfter cfg r o) then
          .after (o.nexts sub) i (retryLoop cfg sub cancel rest (i + 1) (retriesAfter cfg r o))
        else .after (o.nexts sub ++ [.error sub (.user e)]) i (.stop []) := by
  rw [retryLoop, if_neg (by rw [h]; decide)]
  cases o.fin with
  | complete => rfl
  | error e =>
    simp only []
    split
    · split
      · rename_i hd
        rw [retryLoop_cancelled cfg sub (Bool.and_eq_true _ _ ▸ hd).2]
      · rfl
    · rfl

theorem charge_eq (r : Nat) (o : Outcome) : charge cfg.reset r o = retriesAfter cfg r o := rfl

theorem retryStopsFrom_shift (r : Nat) (o : Outcome) (rest : List Outcome) :
    (fun j => retryStopsFrom cfg r (o :: rest) (j + 1)) = retryStopsFrom cfg (retriesAfter cfg r o) rest := by
  funext j
  unfold retryStopsFrom chargedFrom
  rw [failsAt_cons_succ, List.take_succ_cons, List.foldl_cons]
  rfl

theorem retryStopsFrom_zero_fail (r : Nat) (o : Outcome) (rest : List Outcome) (hf : o.fails = true) :
    retryStopsFrom cfg r (o :: rest) 0 = !shouldRetry cfg (retriesAfter cfg r o) := by
  have hc : chargedFrom cfg.reset r ((o :: rest).take (0 + 1)) = retriesAfter cfg r o := rfl
  unfold retryStopsFrom shouldRetry
  rw [hc, failsAt_cons_zero, hf]
  have hd : decide (cfg.maxRetries < retriesAfter cfg r o) = !decide (retriesAfter cfg r o ≤ cfg.maxRetries) := by
    by_cases h : retriesAfter cfg r o ≤ cfg.maxRetries
    · have h' : ¬ cfg.maxRetries < retriesAfter cfg r o := by omega
      simp [h, h']
    · have h' : cfg.maxRetries < retriesAfter cfg r o := by omega
      simp [h, h']
  rw [hd]
  cases h : (cfg.maxRetries == 0) <;> simp [bne, h]

/-- uncancelled: attempts one after another, the terminal is that of the last one — its completion, or its error when
    the retries are spent; their number is the closed form -/
theorem retryLoop_spec (outs : List Outcome) (i r : Nat) :
    Sequential i outs (termAfter outs (retryLoop cfg sub none outs i r).attempts) (retryLoop cfg sub none outs i r) ∧
      (retryLoop cfg sub none outs i r).attempts = firstStop (retryStopsFrom cfg r outs) (outs.length + 1) := by
  induction outs generalizing i r with
  | nil => exact ⟨.last (outs := []) sub (l := [.complete sub]) rfl rfl, rfl⟩
  | cons o rest ih =>
    rw [retryLoop_cons cfg sub none o rest i r rfl]
    cases h : o.fin with
    | complete =>
      exact ⟨.last sub rfl (by exact congrArg some (termAfter_tail (o :: rest) 0 (.inl h)).symm),
        (firstStop_succ_of_stop _ (by simp [retryStopsFrom, not_fails_of_complete h])).symm⟩
    | error e =>
      have hz := retryStopsFrom_zero_fail cfg r o rest (fails_of_error h)
      simp only []
      cases hs : shouldRetry cfg (retriesAfter cfg r o) <;> rw [hs] at hz
      · exact ⟨.last sub rfl (by exact congrArg some (termAfter_one_error (outs := o :: rest) h).symm),
          (firstStop_succ_of_stop _ hz).symm⟩
      · obtain ⟨h1, h2⟩ := ih (i + 1) (retriesAfter cfg r o)
        rw [if_pos rfl]
        refine ⟨?_, by rw [List.length_cons, firstStop_succ_of_go _ hz, retryStopsFrom_shift, ← h2]; rfl⟩
        have hpos : 0 < (retryLoop cfg sub none rest (i + 1) (retriesAfter cfg r o)).attempts := by
          rw [h2]; exact firstStop_pos _ _ (Nat.succ_pos _)
        exact termAfter_tail (o :: rest) _ (.inr hpos) ▸ Sequential.after (outs := o :: rest) sub h1

/-- cancelled during attempt `k`: the uncancelled run cut off after `k` attempts, then the cancellation error — unless
    the loop has ended by itself before -/
theorem retryLoop_cancel (k : Nat) (outs : List Outcome) (i r : Nat) :
    Sequential i outs
        (if k + 1 - i < (retryLoop cfg sub none outs i r).attempts then .error ctxCanceled
          else termAfter outs (retryLoop cfg sub none outs i r).attempts)
        (retryLoop cfg sub (some k) outs i r) ∧
      (retryLoop cfg sub (some k) outs i r).attempts = min (k + 1 - i) (retryLoop cfg sub none outs i r).attempts := by
  have hpos : ∀ outs i r, 0 < (retryLoop cfg sub none outs i r).attempts := fun outs i r => by
    rw [(retryLoop_spec cfg sub outs i r).2]; exact firstStop_pos _ _ (Nat.succ_pos _)
  -- cancelled before this attempt is subscribed
  have early : ∀ outs i r, k < i →
      Sequential i outs
          (if k + 1 - i < (retryLoop cfg sub none outs i r).attempts then .error ctxCanceled
            else termAfter outs (retryLoop cfg sub none outs i r).attempts)
          (retryLoop cfg sub (some k) outs i r) ∧
        (retryLoop cfg sub (some k) outs i r).attempts = min (k + 1 - i) (retryLoop cfg sub none outs i r).attempts := by
    intro outs i r hk
    have h0 : k + 1 - i = 0 := by omega
    rw [retryLoop_cancelled cfg sub (cancel := some k) (by simpa [cancelledBefore] using hk), h0, if_pos (hpos _ _ _)]
    exact ⟨.stop rfl rfl, (Nat.zero_min _).symm⟩
  induction outs generalizing i r with
  | nil =>
    by_cases hk : k < i
    · exact early _ _ _ hk
    · have hc : cancelledBefore (some k) i = false := by simpa [cancelledBefore] using hk
      have e : retryLoop cfg sub (some k) [] i r = retryLoop cfg sub none [] i r := by simp only [retryLoop, hc]; rfl
      have h1 : ¬ k + 1 - i < 1 := by omega
      rw [e]
      exact ⟨if_neg h1 ▸ (retryLoop_spec cfg sub [] i r).1, by show 1 = min _ 1; omega⟩
  | cons o rest ih =>
    by_cases hk : k < i
    · exact early _ _ _ hk
    · have hc : cancelledBefore (some k) i = false := by simpa [cancelledBefore] using hk
      rw [retryLoop_cons cfg sub (some k) o rest i r hc, retryLoop_cons cfg sub none o rest i r rfl]
      have h1 : ¬ k + 1 - i < 1 := by omega
      cases h : o.fin with
      | complete =>
        exact ⟨if_neg h1 ▸ .last sub rfl (by exact congrArg some (termAfter_tail (o :: rest) 0 (.inl h)).symm),
          by show 1 = min _ 1; omega⟩
      | error e =>
        simp only []
        split
        · obtain ⟨h2, h3⟩ := ih (i + 1) (retriesAfter cfg r o)
          have hp := hpos rest (i + 1) (retriesAfter cfg r o)
          have hd : k + 1 - i = k + 1 - (i + 1) + 1 := by omega
          simp only [after_attempts, hd, Nat.add_lt_add_iff_right, Nat.add_min_add_right,
            termAfter_tail (o :: rest) _ (.inr hp)]
          exact ⟨.after (outs := o :: rest) sub h2, congrArg (· + 1) h3⟩
        · exact ⟨if_neg h1 ▸ .last sub rfl (by exact congrArg some (termAfter_one_error (outs := o :: rest) h).symm),
            by show 1 = min _ 1; omega⟩

/-! ### the closed form of the charge -/

theorem chargedFrom_append (reset : Bool) (r : Nat) (pre : List Outcome) (o : Outcome) :
    chargedFrom reset r (pre ++ [o]) = charge reset (chargedFrom reset r pre) o := by
  simp [chargedFrom]

/-- without ResetOnSuccess every failed attempt counts -/
theorem chargedFrom_noReset (r : Nat) (pre : List Outcome) : chargedFrom false r pre = r + pre.length := by
  induction pre generalizing r with
  | nil => rfl
  | cons o rest ih => simp [chargedFrom, charge] at ih ⊢; rw [ih]; omega

/-- with ResetOnSuccess the charge is counted from the last attempt that delivered a value: the
    attempts after it, plus that attempt itself — or all of them if none delivered anything -/
theorem chargedFrom_reset_rev (l : List Outcome) :
    chargedFrom true 0 l.reverse = min l.length ((l.takeWhile (fun o => !o.hasValues)).length + 1) := by
  induction l with
  | nil => rfl
  | cons o l ih =>
    rw [List.reverse_cons, chargedFrom_append, ih]
    unfold charge
    have hle := (List.takeWhile_sublist (l := l) (fun o : Outcome => !o.hasValues)).length_le
    by_cases hv : o.hasValues = true
    · simp [List.takeWhile, hv]
    · have hv' : o.hasValues = false := by simpa using hv
      simp only [List.takeWhile, hv', Bool.not_false, Bool.and_false, Bool.false_eq_true, if_false, List.length_cons]
      omega

end Ro.Resub
