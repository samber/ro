/-
  RoProofs.Precision — the integers FloorWithPrecision / CeilWithPrecision are specified by: the greatest multiple of
  10^(-places) not above x, the least one not below x (x = m / 2^k); they differ by at most one step, and a value that is
  already a multiple is a fixed point of both.
-/
import RoModel.Ops.Precision
namespace Ro.Precision

theorem den_pos (m : Int) (k : Nat) (p : Int) : 0 < (scaled m k p).2 := by
  unfold scaled
  split
  · exact Int.pow_pos (by decide)
  · exact Int.mul_pos (Int.pow_pos (by decide)) (Int.pow_pos (by decide))

/-- floor: `n · den ≤ num < (n + 1) · den` — `n / 10^places` is the greatest multiple of the step that is `≤ x` -/
theorem floorN_spec (m : Int) (k : Nat) (p : Int) :
    floorN m k p * (scaled m k p).2 ≤ (scaled m k p).1 ∧ (scaled m k p).1 < (floorN m k p + 1) * (scaled m k p).2 := by
  have hd := den_pos m k p
  exact ⟨Int.ediv_mul_le _ (by omega), Int.lt_ediv_add_one_mul_self _ hd⟩

/-- ceiling: `(n - 1) · den < num ≤ n · den` — the least multiple of the step that is `≥ x` -/
theorem ceilN_spec (m : Int) (k : Nat) (p : Int) :
    (ceilN m k p - 1) * (scaled m k p).2 < (scaled m k p).1 ∧ (scaled m k p).1 ≤ ceilN m k p * (scaled m k p).2 := by
  have hd := den_pos m k p
  have h1 := Int.ediv_mul_le (-(scaled m k p).1) (show (scaled m k p).2 ≠ 0 by omega)
  have h2 := Int.lt_ediv_add_one_mul_self (-(scaled m k p).1) hd
  unfold ceilN
  simp only [Int.sub_mul, Int.add_mul, Int.neg_mul, Int.one_mul] at h2 ⊢
  omega

/-- floor ≤ ceiling, and they are at most one step apart -/
theorem floor_le_ceil (m : Int) (k : Nat) (p : Int) : floorN m k p ≤ ceilN m k p ∧ ceilN m k p ≤ floorN m k p + 1 := by
  have hd := den_pos m k p
  obtain ⟨f1, f2⟩ := floorN_spec m k p
  obtain ⟨c1, c2⟩ := ceilN_spec m k p
  -- f·d ≤ a ≤ c·d gives f ≤ c; (c-1)·d < a < (f+1)·d gives c - 1 < f + 1
  refine ⟨Int.le_of_mul_le_mul_right (Int.le_trans f1 c2) hd, ?_⟩
  have := Int.lt_of_mul_lt_mul_right (Int.lt_trans c1 f2) (Int.le_of_lt hd)
  omega

/-- a value that is already a multiple of the step is a fixed point of both -/
theorem fixed_point (m : Int) (k : Nat) (p : Int) (n : Int) (h : (scaled m k p).1 = n * (scaled m k p).2) :
    floorN m k p = n ∧ ceilN m k p = n := by
  have hd := den_pos m k p
  have hne : (scaled m k p).2 ≠ 0 := by omega
  unfold floorN ceilN
  rw [h]
  constructor
  · exact Int.mul_ediv_cancel n hne
  · rw [← Int.neg_mul, Int.mul_ediv_cancel _ hne]; omega

-- the documented examples
example : floorN 1234 0 0 = 1234 := by decide
example : floorN 12345 2 (-1) = 308 := by decide        -- 3086.25 → 3080
example : ceilN 12345 2 (-1) = 309 := by decide         -- 3086.25 → 3090
example : floorN 5 2 1 = 12 ∧ ceilN 5 2 1 = 13 := by decide   -- 1.25 → 1.2 / 1.3
example : floorN (-5) 2 1 = -13 ∧ ceilN (-5) 2 1 = -12 := by decide
example : floorN 700 0 (-2) = 7 ∧ ceilN 700 0 (-2) = 7 := by decide

end Ro.Precision
