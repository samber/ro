/-
  RoProofs.Kernel.Eff — `effect` in relational form: one constructor per way a transition can go,
  with the guard it needs and the shared state / thread data it produces, in two groups: the quiet
  transitions (control flow, tests, locks: `EffQ`, with one frame lemma for all of them) and those
  that write data or log an event (`EffL`). Invariant proofs do `cases` on these relations instead of
  unfolding `effect`.
-/
import RoProofs.Kernel.Step
namespace Ro.Kernel

def Thread.x (th : Thread) : Nat := (th.cur.map ApiCall.payload).getD 0
def Thread.f (th : Thread) : FinId := (th.cur.map ApiCall.fin).getD 0

/-- transitions that touch nothing but the lock owners, the control state and the result of the call -/
inductive EffQ (sh : Shared) (t : Tid) (th : Thread) : Head → Bool → Shared → Thread → Prop
  | finishNone (hc : th.cur = none) : EffQ sh t th .finish false sh th
  | pop : EffQ sh t th .pop false sh th
  | deferNo (l : Lck) (hn : sh.noLock l = true) : EffQ sh t th (.runDefer l) false sh th
  | deferRelease (l : Lck) (hn : sh.noLock l = false) : EffQ sh t th (.runDefer l) false (sh.setOwner l none) th
  | unwind : EffQ sh t th .unwind false sh th
  | lockNo (l : Lck) (hn : sh.noLock l = true) : EffQ sh t th (.stmt (.lock l)) true sh th
  | lockTake (l : Lck) (hn : sh.noLock l = false) (hfree : sh.owner l = none) :
      EffQ sh t th (.stmt (.lock l)) true (sh.setOwner l (some t)) th
  | unlockNo (l : Lck) (hn : sh.noLock l = true) : EffQ sh t th (.stmt (.unlock l)) true sh th
  | unlockRelease (l : Lck) (hn : sh.noLock l = false) : EffQ sh t th (.stmt (.unlock l)) true (sh.setOwner l none) th
  | deferUnlock (l : Lck) : EffQ sh t th (.stmt (.deferUnlock l)) true sh th
  | tryNo (l : Lck) (a e : List Stmt) (hn : sh.noLock l = true) : EffQ sh t th (.stmt (.tryLock l a e)) true sh th
  | tryTake (l : Lck) (a e : List Stmt) (hn : sh.noLock l = false) (hfree : sh.owner l = none) :
      EffQ sh t th (.stmt (.tryLock l a e)) true (sh.setOwner l (some t)) th
  | tryFail (l : Lck) (a e : List Stmt) (hn : sh.noLock l = false) (hbusy : sh.owner l ≠ none) :
      EffQ sh t th (.stmt (.tryLock l a e)) false sh th
  | loadEq (fl : Fld) (k : Nat) (a e : List Stmt) : EffQ sh t th (.stmt (.ifLoadEq fl k a e)) (sh.fld fl == k) sh th
  | fldEq (fl : Fld) (k : Nat) (a e : List Stmt) : EffQ sh t th (.stmt (.ifFld fl k a e)) (sh.fld fl == k) sh th
  | casFail (a b : Nat) (x y : List Stmt) (h : sh.status ≠ a) : EffQ sh t th (.stmt (.ifCas .status a b x y)) false sh th
  | isNil (fl : Fld) (a e : List Stmt) : EffQ sh t th (.stmt (.ifNil fl a e)) (sh.isNil fl) sh th
  | callSelf (m : Meth) : EffQ sh t th (.stmt (.callSelf m)) true sh th
  | runTakenNil (h : th.taken = []) : EffQ sh t th (.stmt .runTaken) false sh th
  | raiseNil (h : th.panics = []) : EffQ sh t th (.stmt .raiseJoined) false sh th
  | recv (h : sh.ran.contains th.f = true) : EffQ sh t th (.stmt .recv) true sh th
  | retLoad (fl : Fld) (c : Cmp) (k : Nat) :
      EffQ sh t th (.stmt (.retLoad fl c k)) true sh { th with result := .bool (c.eval (sh.fld fl) k) }
  | retFld (fl : Fld) : EffQ sh t th (.stmt (.retFld fl)) true sh { th with result := .bool (sh.fld fl == 1) }
  | ret : EffQ sh t th (.stmt .ret) true sh th

/-- transitions that write `status`, the subscription's state or the log -/
inductive EffL (sh : Shared) (t : Tid) (th : Thread) : Head → Bool → Shared → Thread → Prop
  | finishCall (c : ApiCall) (hc : th.cur = some c) :
      EffL sh t th .finish false (sh.emit (.ret t c (if th.ctl.panicking then .panicked else th.result)))
        { th with cur := none, result := .unit }
  | casOk (a b : Nat) (x y : List Stmt) (h : sh.status = a) :
      EffL sh t th (.stmt (.ifCas .status a b x y)) true { sh with status := b } th
  | cbBegin (k : Kind) (hi : th.ctl.inside = false) : EffL sh t th (.stmt (.callDest k)) true (sh.emit (.cbBegin t k th.x)) th
  | cbEnd (k : Kind) (hi : th.ctl.inside = true) : EffL sh t th (.stmt (.callDest k)) true (sh.emit (.cbEnd t k th.x)) th
  | drop (k : Kind) : EffL sh t th (.stmt (.drop k)) true (sh.emit (.drop t k th.x)) th
  | setDone : EffL sh t th (.stmt .setDone) true { sh with done := true } th
  | swap : EffL sh t th (.stmt .swapFinalizers) true { sh with finalizers := [] } { th with taken := sh.finalizers, panics := [] }
  | runTakenCons (g : FinId) (gs : List FinId) (h : th.taken = g :: gs) :
      EffL sh t th (.stmt .runTaken) true ({ sh with ran := sh.ran ++ [g] }.emit (.finRun t g))
        { th with taken := gs, panics := if sh.panicky.contains g then th.panics ++ [g] else th.panics }
  | raiseCons (p : FinId) (ps : List FinId) (h : th.panics = p :: ps) :
      EffL sh t th (.stmt .raiseJoined) true (sh.emit (.raised t (p :: ps))) { th with panics := [] }
  | append : EffL sh t th (.stmt .appendFinalizer) true
      ({ sh with finalizers := sh.finalizers ++ [th.f] }.emit (.appended t th.f)) th
  | runNow : EffL sh t th (.stmt .runNow) (sh.panicky.contains th.f)
      ({ sh with ran := sh.ran ++ [th.f] }.emit (.finRun t th.f)) th

def Eff (sh : Shared) (t : Tid) (th : Thread) (hd : Head) (b : Bool) (sh' : Shared) (th0 : Thread) : Prop :=
  EffQ sh t th hd b sh' th0 ∨ EffL sh t th hd b sh' th0

theorem effect_inv {sh sh' : Shared} {t : Tid} {th th0 : Thread} {b : Bool}
    (h : effect sh t th = some (b, sh', th0)) : Eff sh t th th.ctl.head b sh' th0 := by
  unfold effect at h
  generalize th.ctl.head = hd at h ⊢
  cases hd with
  | idle => simp at h
  | finish =>
    cases hc : th.cur with
    | none => simp [hc] at h; obtain ⟨rfl, rfl, rfl⟩ := h; exact .inl (.finishNone hc)
    | some c => simp [hc] at h; obtain ⟨rfl, rfl, rfl⟩ := h; exact .inr (.finishCall c hc)
  | pop => simp at h; obtain ⟨rfl, rfl, rfl⟩ := h; exact .inl .pop
  | runDefer l =>
    cases hn : sh.noLock l <;> simp [hn] at h <;> obtain ⟨rfl, rfl, rfl⟩ := h
    · exact .inl (.deferRelease l hn)
    · exact .inl (.deferNo l hn)
  | unwind => simp at h; obtain ⟨rfl, rfl, rfl⟩ := h; exact .inl .unwind
  | stmt s =>
    cases s with
    | lock l =>
      by_cases hn : sh.noLock l = true
      · simp [hn] at h; obtain ⟨rfl, rfl, rfl⟩ := h; exact .inl (.lockNo l hn)
      · cases ho : sh.owner l with
        | none => simp [hn, ho] at h; obtain ⟨rfl, rfl, rfl⟩ := h; exact .inl (.lockTake l (by simpa using hn) ho)
        | some u => simp [hn, ho] at h
    | unlock l =>
      cases hn : sh.noLock l <;> simp [hn] at h <;> obtain ⟨rfl, rfl, rfl⟩ := h
      · exact .inl (.unlockRelease l hn)
      · exact .inl (.unlockNo l hn)
    | deferUnlock l => simp at h; obtain ⟨rfl, rfl, rfl⟩ := h; exact .inl (.deferUnlock l)
    | tryLock l a e =>
      by_cases hn : sh.noLock l = true
      · simp [hn] at h; obtain ⟨rfl, rfl, rfl⟩ := h; exact .inl (.tryNo l a e hn)
      · cases ho : sh.owner l with
        | none => simp [hn, ho] at h; obtain ⟨rfl, rfl, rfl⟩ := h; exact .inl (.tryTake l a e (by simpa using hn) ho)
        | some u => simp [hn, ho] at h; obtain ⟨rfl, rfl, rfl⟩ := h; exact .inl (.tryFail l a e (by simpa using hn) (by simp [ho]))
    | ifLoadEq fl k a e => simp at h; obtain ⟨rfl, rfl, rfl⟩ := h; exact .inl (.loadEq fl k a e)
    | ifFld fl k a e => simp at h; obtain ⟨rfl, rfl, rfl⟩ := h; exact .inl (.fldEq fl k a e)
    | ifCas fl a c x y =>
      cases fl <;> simp at h
      by_cases hs : sh.status = a
      · simp [hs] at h; obtain ⟨rfl, rfl, rfl⟩ := h; exact hs ▸ .inr (.casOk sh.status c x y rfl)
      · simp [hs] at h; obtain ⟨rfl, rfl, rfl⟩ := h; exact .inl (.casFail a c x y hs)
    | ifNil fl a e => simp at h; obtain ⟨rfl, rfl, rfl⟩ := h; exact .inl (.isNil fl a e)
    | callDest k =>
      cases hi : th.ctl.inside with
      | false => simp [hi] at h; obtain ⟨rfl, rfl, rfl⟩ := h; exact .inr (.cbBegin k hi)
      | true => simp [hi] at h; obtain ⟨rfl, rfl, rfl⟩ := h; exact .inr (.cbEnd k hi)
    | drop k => simp at h; obtain ⟨rfl, rfl, rfl⟩ := h; exact .inr (.drop k)
    | callSelf m => simp at h; obtain ⟨rfl, rfl, rfl⟩ := h; exact .inl (.callSelf m)
    | setDone => simp at h; obtain ⟨rfl, rfl, rfl⟩ := h; exact .inr .setDone
    | swapFinalizers => simp at h; obtain ⟨rfl, rfl, rfl⟩ := h; exact .inr .swap
    | runTaken =>
      cases ht : th.taken with
      | nil => simp [ht] at h; obtain ⟨rfl, rfl, rfl⟩ := h; exact .inl (.runTakenNil ht)
      | cons g gs => simp only [ht, Option.some.injEq, Prod.mk.injEq] at h; obtain ⟨rfl, rfl, rfl⟩ := h; exact .inr (.runTakenCons g gs ht)
    | raiseJoined =>
      cases hp : th.panics with
      | nil => simp [hp] at h; obtain ⟨rfl, rfl, rfl⟩ := h; exact .inl (.raiseNil hp)
      | cons p ps => simp [hp] at h; obtain ⟨rfl, rfl, rfl⟩ := h; exact .inr (.raiseCons p ps hp)
    | appendFinalizer => simp at h; obtain ⟨rfl, rfl, rfl⟩ := h; exact .inr .append
    | runNow => simp only [Option.some.injEq, Prod.mk.injEq] at h; obtain ⟨rfl, rfl, rfl⟩ := h; exact .inr .runNow
    | recv =>
      by_cases hr : sh.ran.contains ((Option.map ApiCall.fin th.cur).getD 0) = true
      · simp only [hr, if_true, Option.some.injEq, Prod.mk.injEq] at h; obtain ⟨rfl, rfl, rfl⟩ := h; exact .inl (.recv hr)
      · simp only [hr, if_false, reduceCtorEq, Bool.false_eq_true] at h
    | retLoad fl c k => simp at h; obtain ⟨rfl, rfl, rfl⟩ := h; exact .inl (.retLoad fl c k)
    | retFld fl => simp at h; obtain ⟨rfl, rfl, rfl⟩ := h; exact .inl (.retFld fl)
    | ret => simp at h; obtain ⟨rfl, rfl, rfl⟩ := h; exact .inl .ret
    | userCb k => simp at h
    | unknown n => simp at h

theorem Shared.setOwner_eq (sh : Shared) (l : Lck) (o : Option Tid) :
    sh.setOwner l o = { sh with mu := if l = .mu then o else sh.mu, subMu := if l = .subMu then o else sh.subMu } := by
  cases l <;> rfl

theorem EffQ.frame {sh sh' : Shared} {t : Tid} {th th0 : Thread} {hd : Head} {b : Bool}
    (h : EffQ sh t th hd b sh' th0) :
    sh' = { sh with mu := sh'.mu, subMu := sh'.subMu } ∧ th0 = { th with result := th0.result } := by
  cases h
  all_goals first
    | exact ⟨rfl, rfl⟩
    | exact ⟨by rw [Shared.setOwner_eq], rfl⟩

theorem Eff.ctl {sh sh' : Shared} {t : Tid} {th th0 : Thread} {hd : Head} {b : Bool}
    (h : Eff sh t th hd b sh' th0) : th0.ctl = th.ctl := by
  obtain h | h := h
  · rw [h.frame.2]
  · cases h <;> rfl

theorem effect_ctl {sh sh' : Shared} {t : Tid} {th th0 : Thread} {b : Bool}
    (h : effect sh t th = some (b, sh', th0)) : th0.ctl = th.ctl :=
  (effect_inv h).ctl

theorem eff_mode {sh sh' : Shared} {t : Tid} {th th0 : Thread} {hd : Head} {b : Bool}
    (h : Eff sh t th hd b sh' th0) : sh'.mode = sh.mode ∧ sh'.destNil = sh.destNil ∧ sh'.panicky = sh.panicky := by
  obtain h | h := h
  · rw [h.frame.1]; exact ⟨rfl, rfl, rfl⟩
  · cases h <;> exact ⟨rfl, rfl, rfl⟩

theorem eff_loadEq {sh sh' : Shared} {t : Tid} {th th0 : Thread} {b : Bool} {fl : Fld} {k : Nat} {x y : List Stmt}
    (h : Eff sh t th (.stmt (.ifLoadEq fl k x y)) b sh' th0) : b = (sh.fld fl == k) := by
  obtain h | h := h <;> cases h; rfl

theorem eff_fldEq {sh sh' : Shared} {t : Tid} {th th0 : Thread} {b : Bool} {fl : Fld} {k : Nat} {x y : List Stmt}
    (h : Eff sh t th (.stmt (.ifFld fl k x y)) b sh' th0) : b = (sh.fld fl == k) ∧ sh' = sh ∧ th0 = th := by
  obtain h | h := h <;> cases h; exact ⟨rfl, rfl, rfl⟩

theorem eff_isNil {sh sh' : Shared} {t : Tid} {th th0 : Thread} {b : Bool} {fl : Fld} {x y : List Stmt}
    (h : Eff sh t th (.stmt (.ifNil fl x y)) b sh' th0) : b = sh.isNil fl := by
  obtain h | h := h <;> cases h; rfl

theorem eff_cas {sh sh' : Shared} {t : Tid} {th th0 : Thread} {b : Bool} {fl : Fld} {a v : Nat} {x y : List Stmt}
    (h : Eff sh t th (.stmt (.ifCas fl a v x y)) b sh' th0) :
    (b = true ∧ sh.status = a ∧ sh'.status = v) ∨ (b = false ∧ sh.status ≠ a ∧ sh'.status = sh.status) := by
  obtain h | h := h <;> cases h
  · exact Or.inr ⟨rfl, ‹_›, rfl⟩
  · exact Or.inl ⟨rfl, ‹_›, rfl⟩

theorem eff_finish {sh sh' : Shared} {t : Tid} {th th0 : Thread} {b : Bool} (h : Eff sh t th .finish b sh' th0) :
    (th.cur = none ∧ sh' = sh) ∨
      ∃ c, th.cur = some c ∧ sh' = sh.emit (.ret t c (if th.ctl.panicking then .panicked else th.result)) := by
  obtain h | h := h <;> cases h
  · exact Or.inl ⟨‹_›, rfl⟩
  · exact Or.inr ⟨_, ‹_›, rfl⟩

/-- the two kinds of transition of a thread: a new API call starts, or the head of its stack is executed -/
theorem step_cases {progs : Meth → Prog} {s s' : St} {t : Tid} (h : step progs s t = some s') :
    ∃ th, s.threads[t]? = some th ∧
      ((th.ctl.stack = [] ∧ ∃ c cs, th.script = c :: cs ∧
          s' = ⟨s.sh.emit (.call t c), s.threads.set t { th with ctl := Ctl.entry progs c, cur := some c, script := cs }⟩) ∨
       (th.ctl.stack ≠ [] ∧ ∃ b sh' th0, Eff s.sh t th th.ctl.head b sh' th0 ∧
          s' = ⟨sh', s.threads.set t { th0 with ctl := nextCtl progs th.ctl b }⟩)) := by
  obtain ⟨th, sh', th', hth, hst, rfl⟩ := step_some h
  refine ⟨th, hth, ?_⟩
  rcases stepT_cases hst with ⟨hidle, c, cs, hsc, rfl, rfl⟩ | ⟨hne, b, th0, he, rfl⟩
  · exact Or.inl ⟨hidle, c, cs, hsc, rfl⟩
  · exact Or.inr ⟨hne, b, sh', th0, effect_inv he, rfl⟩

theorem step_mode {progs : Meth → Prog} {s s' : St} {t : Tid} (h : step progs s t = some s') :
    s'.sh.mode = s.sh.mode ∧ s'.sh.destNil = s.sh.destNil ∧ s'.sh.panicky = s.sh.panicky := by
  obtain ⟨th, hth, hcase⟩ := step_cases h
  rcases hcase with ⟨_, c, cs, _, rfl⟩ | ⟨_, b, sh', th0, hE, rfl⟩
  · exact ⟨rfl, rfl, rfl⟩
  · exact eff_mode hE

end Ro.Kernel
