/-
  RoProofs.Kernel.Overlap — C02(a) on the log: scanning the history, a callback begins only when
  none is running (`noOverlapLog`, the predicate the harness evaluates on the recorded log).
  Invariant: the number of callbacks running at the end of the log = the number of threads inside.
-/
import RoProofs.Kernel.Producer
namespace Ro.Kernel

/-- running callbacks after scanning `log` starting with `d` running -/
def depthL : Nat → List Ev → Nat
  | d, [] => d
  | d, .cbBegin _ _ _ :: r => depthL (d + 1) r
  | d, .cbEnd _ _ _ :: r => depthL (d - 1) r
  | d, _ :: r => depthL d r

def Ev.isEnd : Ev → Bool
  | .cbEnd _ _ _ => true
  | _ => false

theorem depthL_snoc (d : Nat) (l : List Ev) (e : Ev) :
    depthL d (l ++ [e]) = if e.isBegin then depthL d l + 1 else if e.isEnd then depthL d l - 1 else depthL d l := by
  induction l generalizing d with
  | nil => cases e <;> simp [depthL, Ev.isBegin, Ev.isEnd]
  | cons x r ih => cases x <;> simp [depthL, ih]

theorem noOverlapFrom_snoc (d : Nat) (l : List Ev) (e : Ev) :
    noOverlapFrom d (l ++ [e]) = (noOverlapFrom d l && (!e.isBegin || depthL d l == 0)) := by
  induction l generalizing d with
  | nil => cases e <;> simp [noOverlapFrom, depthL, Ev.isBegin]
  | cons x r ih => cases x <;> simp [noOverlapFrom, depthL, ih, Bool.and_assoc]

def insideCount (ths : List Thread) : Nat := sumT (fun th => if th.ctl.inside then 1 else 0) ths

structure OvInv (s : St) : Prop where
  ok : noOverlapLog s.sh.log = true
  depth : depthL 0 s.sh.log = insideCount s.threads

theorem OvInv.init (mode : Mode) (destNil : Bool) (panicky : List FinId) (scripts : List (List ApiCall)) :
    OvInv (init mode destNil panicky scripts) := by
  constructor
  · simp [Ro.Kernel.init, noOverlapLog, noOverlapFrom]
  · simp only [Ro.Kernel.init, depthL, insideCount]
    symm
    apply sumT_zero
    intro t th h
    simp at h
    obtain ⟨sc, _, rfl⟩ := h
    rfl

def Head.isCall : Head → Bool
  | .stmt (.callDest _) => true
  | _ => false

theorem eff_depth {sh sh' : Shared} {t : Tid} {th th0 : Thread} {hd : Head} {b : Bool}
    (h : Eff sh t th hd b sh' th0) :
    (∃ k, hd = .stmt (.callDest k) ∧ th.ctl.inside = false ∧ sh'.log = sh.log ++ [.cbBegin t k th.x]) ∨
    (∃ k, hd = .stmt (.callDest k) ∧ th.ctl.inside = true ∧ sh'.log = sh.log ++ [.cbEnd t k th.x]) ∨
    (hd.isCall = false ∧
      (sh'.log = sh.log ∨ ∃ e, sh'.log = sh.log ++ [e] ∧ e.isBegin = false ∧ e.isEnd = false)) := by
  obtain h | h := h
  · exact Or.inr (Or.inr ⟨by cases h <;> rfl, Or.inl (by rw [h.frame.1])⟩)
  · cases h
    case cbBegin k hi => exact Or.inl ⟨k, rfl, hi, rfl⟩
    case cbEnd k hi => exact Or.inr (Or.inl ⟨k, rfl, hi, rfl⟩)
    all_goals first
      | exact Or.inr (Or.inr ⟨rfl, Or.inl rfl⟩)
      | exact Or.inr (Or.inr ⟨rfl, Or.inr ⟨_, rfl, rfl, rfl⟩⟩)

theorem OvInv.step {s s' : St} {t : Tid} (hl : LockInv s) (hex : Excl s) (hi : OvInv s)
    (h : step P s t = some s') : OvInv s' := by
  obtain ⟨th, hth, hcase⟩ := step_cases h
  have hr := hl.inReach t th hth
  have hset := fun th' => sumT_set (g := fun th : Thread => if th.ctl.inside then 1 else 0) (th' := th') hth
  rcases hcase with ⟨hidle, c, cs, hsc, rfl⟩ | ⟨hne, b, sh', th0, hE, rfl⟩
  · have hin : th.ctl.inside = false := by
      have := lfArmedHolds_ok hr
      cases hi' : th.ctl.inside with
      | false => rfl
      | true =>
        simp only [lfArmedHolds, hi', Bool.true_or, Bool.not_true, Bool.false_or] at this
        simp [Ctl.holds, hidle] at this
    constructor
    · show noOverlapFrom 0 (s.sh.log ++ [.call t c]) = true
      rw [noOverlapFrom_snoc]; simp [Ev.isBegin]; exact hi.ok
    · show depthL 0 (s.sh.log ++ [.call t c]) = _
      rw [depthL_snoc]
      simp only [Ev.isBegin, Ev.isEnd, Bool.false_eq_true, if_false, hi.depth, insideCount]
      have := hset { th with ctl := Ctl.entry P c, cur := some c, script := cs }
      simp only [hin, entry_inside, Bool.false_eq_true, if_false] at this
      show _ = sumT _ (s.threads.set t _)
      omega
  · have hli := lfInside_ok hr b
    unfold lfInside at hli
    have hs' := hset { th0 with ctl := nextCtl P th.ctl b }
    simp only at hs'
    rcases eff_depth hE with ⟨k, hk, hin, hlog⟩ | ⟨k, hk, hin, hlog⟩ | ⟨hnc, hlog⟩
    · -- begin: nobody is inside
      rw [hk] at hli
      simp only [hin, Bool.not_false, beq_iff_eq] at hli
      have hzero : insideCount s.threads = 0 := by
        apply sumT_zero
        intro u thu hu
        cases hiu : thu.ctl.inside with
        | false => rfl
        | true =>
          exfalso
          have : t = u := hex t u th thu hth hu (by simp [Ctl.armed, hin, hk]) (by simp [hiu])
          subst this
          rw [hth] at hu
          obtain rfl := Option.some.inj hu
          rw [hin] at hiu; cases hiu
      constructor
      · show noOverlapFrom 0 sh'.log = true
        rw [hlog, noOverlapFrom_snoc]
        simp only [Ev.isBegin, Bool.not_true, Bool.false_or, Bool.and_eq_true, beq_iff_eq]
        exact ⟨hi.ok, by rw [hi.depth]; exact hzero⟩
      · show depthL 0 sh'.log = _
        rw [hlog, depthL_snoc]
        simp only [Ev.isBegin, if_true, hi.depth]
        simp only [hin, hli, Bool.false_eq_true, if_false, if_true, insideCount] at hs' ⊢
        omega
    · rw [hk] at hli
      simp only [hin, Bool.not_true, beq_iff_eq] at hli
      have hpos : 1 ≤ insideCount s.threads := by
        have := sumT_mem_le (g := fun th : Thread => if th.ctl.inside then 1 else 0) hth
        simpa [hin, insideCount] using this
      constructor
      · show noOverlapFrom 0 sh'.log = true
        rw [hlog, noOverlapFrom_snoc]; simp [Ev.isBegin]; exact hi.ok
      · show depthL 0 sh'.log = _
        rw [hlog, depthL_snoc]
        simp only [Ev.isBegin, Ev.isEnd, Bool.false_eq_true, if_false, if_true, hi.depth]
        simp only [hin, hli, Bool.false_eq_true, if_false, if_true, insideCount] at hs' hpos ⊢
        omega
    · have hsame : (nextCtl P th.ctl b).inside = th.ctl.inside := by
        split at hli
        · rename_i k hh; rw [hh] at hnc; cases hnc
        · simpa using hli
      have hcount : insideCount (s.threads.set t { th0 with ctl := nextCtl P th.ctl b }) = insideCount s.threads := by
        simp only [hsame, insideCount] at hs' ⊢
        omega
      rcases hlog with hlog | ⟨e, hlog, hb, hend⟩
      · exact ⟨by show noOverlapLog sh'.log = true; rw [hlog]; exact hi.ok,
               by show depthL 0 sh'.log = _; rw [hlog, hi.depth, hcount]⟩
      · constructor
        · show noOverlapFrom 0 sh'.log = true
          rw [hlog, noOverlapFrom_snoc]; simp [hb]; exact hi.ok
        · show depthL 0 sh'.log = _
          rw [hlog, depthL_snoc]
          simp only [hb, hend, Bool.false_eq_true, if_false, hi.depth, hcount]

end Ro.Kernel
