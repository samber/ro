/-
  RoProofs.Kernel.Main2 — the history-level and liveness invariants bundled and lifted to runs.
-/
import RoProofs.Kernel.LogPreds
import RoProofs.Kernel.Ending
import RoProofs.Kernel.Live
namespace Ro.Kernel

structure XInv (B : FinId → Nat) (s : St) : Prop where
  k : KInv B s
  late : LateInv s
  wr : WRInv s
  own : OwnerInv s

theorem xinv_reachable (mode : Mode) (destNil : Bool) (panicky : List FinId) (scripts : List (List ApiCall))
    (sched : List Tid) : XInv (idBound scripts) (run P (init mode destNil panicky scripts) sched) :=
  run_inv (XInv (idBound scripts))
    (fun _ _ _ hi h => ⟨hi.k.step h, hi.late.step hi.k h, hi.wr.step hi.k h, hi.own.step h⟩) sched _
    ⟨KInv.init .., LateInv.init .., WRInv.init .., OwnerInv.init mode destNil panicky scripts⟩

structure EInv (B : FinId → Nat) (s : St) : Prop where
  k : KInv B s
  serial : Serial s.sh
  ending : EndInv s

theorem einv_reachable (mode : Mode) (hm : mode ≠ .unsafeMode) (destNil : Bool) (panicky : List FinId)
    (scripts : List (List ApiCall)) (sched : List Tid) :
    EInv (idBound scripts) (run P (init mode destNil panicky scripts) sched) :=
  run_inv (EInv (idBound scripts))
    (fun _ _ _ hi h => ⟨hi.k.step h, hi.serial.step h,
      hi.ending.step hi.k.lock hi.k.closed hi.serial h⟩) sched _
    ⟨KInv.init .., hm, EndInv.init ..⟩

theorem not_inside_terminal {c : Ctl} (h : c.termPending = false) (hin : c.inside = true) (k : Kind)
    (hh : c.head = .stmt (.callDest k)) : k.isTerminal = false := by
  simpa [Ctl.termPending, Ctl.pendingKind, hin, hh] using h

end Ro.Kernel
