/-
  RoProofs.Kernel.WellLockedSound — soundness of the lock-discipline checker for ARBITRARY program
  tables: if `wellLocked table`, then in safe / eventually-safe mode, for every number of threads,
  scripts and schedule, in every reachable state of `run (lookup table)` at most one thread is inside a
  callback, and a thread about to run a teardown or to re-raise the teardowns' panics does not hold `mu`.

  Invariant: every thread's stack is typable from the lock state "mu names this thread the owner":
  the top frame's body checks from that state to not-held, the callers' frames from not-held to
  not-held, no frame defers an unlock of `mu`, a thread inside a callback has the `callDest` at its
  head (which only checks when held), an unwinding thread has an empty top body.
-/
import RoModel.Kernel.WellLocked
import RoProofs.Kernel.Eff
namespace Ro.Kernel

theorem chkL_append (h : Bool) (a k : List Stmt) : chkL h (a ++ k) = (chkL h a).bind fun h' => chkL h' k := by
  induction a generalizing h with
  | nil => simp [chkL, Out.bind]
  | cons s r ih =>
    simp only [List.cons_append, chkL]
    cases chkS h s <;> simp [Out.bind, ih]

theorem Out.ok_join_left {oa ob : Out} {f : Bool → Out} (h : ((oa.join ob).bind f).ok = true) : (oa.bind f).ok = true := by
  cases oa with
  | err => cases ob <;> simp [Out.join, Out.bind, Out.ok] at h
  | ret => simp [Out.bind, Out.ok]
  | fall a =>
    cases ob with
    | err => simp [Out.join, Out.bind, Out.ok] at h
    | ret => simpa [Out.join, Out.bind] using h
    | fall b =>
      by_cases hab : a = b
      · simpa [Out.join, Out.bind, hab] using h
      · simp [Out.join, Out.bind, hab, Out.ok] at h

theorem Out.ok_join_right {oa ob : Out} {f : Bool → Out} (h : ((oa.join ob).bind f).ok = true) : (ob.bind f).ok = true := by
  cases ob with
  | err => cases oa <;> simp [Out.join, Out.bind, Out.ok] at h
  | ret => simp [Out.bind, Out.ok]
  | fall b =>
    cases oa with
    | err => simp [Out.join, Out.bind, Out.ok] at h
    | ret => simpa [Out.join, Out.bind] using h
    | fall a =>
      by_cases hab : a = b
      · subst hab; simpa [Out.join, Out.bind] using h
      · simp [Out.join, Out.bind, hab, Out.ok] at h

def frameOk (h : Bool) (fr : Frame) : Bool := (chkL h fr.body).ok && !fr.defers.contains .mu

def atCall : List Stmt → Bool
  | .callDest _ :: _ => true
  | _ => false

/-- the stack of a thread is typable from lock state `h` -/
def Ctl.wl (h : Bool) (c : Ctl) : Bool :=
  match c.stack with
  | [] => !h && !c.inside
  | fr :: rest =>
    frameOk h fr && rest.all (frameOk false) &&
    (!c.inside || atCall fr.body) &&
    (!c.panicking || fr.body.isEmpty)

def WL (s : St) : Prop :=
  ∀ (t : Tid) (th : Thread), s.threads[t]? = some th → th.ctl.wl (decide (s.sh.mu = some t)) = true

def ProgsOk (progs : Meth → Prog) : Prop := ∀ m, Meth.interpreted.contains m = true → (chkL false (progs m)).ok = true

theorem entry_interpreted (c : ApiCall) : Meth.interpreted.contains c.entry = true := by
  cases c <;> simp only [ApiCall.entry] <;> decide

theorem WL.update {s : St} {t : Tid} {th th' : Thread} {sh' : Shared} (hi : WL s) (hth : s.threads[t]? = some th)
    (hother : ∀ u, u ≠ t → decide (sh'.mu = some u) = decide (s.sh.mu = some u))
    (hself : th'.ctl.wl (decide (sh'.mu = some t)) = true) :
    WL { sh := sh', threads := s.threads.set t th' } := by
  intro u thu hu
  rcases threads_after hth hu with ⟨rfl, rfl⟩ | ⟨hne, hu'⟩
  · exact hself
  · show thu.ctl.wl (decide (sh'.mu = some u)) = true
    rw [hother u hne]
    exact hi u thu hu'

theorem setOwner_mu_sub (sh : Shared) (o : Option Tid) : (sh.setOwner .subMu o).mu = sh.mu := rfl
theorem setOwner_mu_mu (sh : Shared) (o : Option Tid) : (sh.setOwner .mu o).mu = o := rfl

/-- the lock state ("this thread owns `mu`") after a transition at head `hd` with outcome `b`, from lock state `h` -/
def Head.muAfter (hd : Head) (h b : Bool) : Bool :=
  match hd with
  | .stmt (.lock .mu) => true
  | .stmt (.unlock .mu) | .runDefer .mu => false
  | .stmt (.tryLock .mu _ _) => h || b
  | _ => h

theorem wl_mk {h : Bool} {k : List Stmt} {defers : List Lck} {rest : List Frame} {pan : Bool}
    (hk : (chkL h k).ok = true) (hdf : defers.contains .mu = false) (hrest : rest.all (frameOk false) = true)
    (hpan : pan = true → k = []) : Ctl.wl h ⟨⟨k, defers⟩ :: rest, false, pan⟩ = true := by
  simp only [Ctl.wl, frameOk, hk, hdf, hrest, Bool.not_false, Bool.true_or, Bool.and_true, Bool.true_and]
  cases pan
  · rfl
  · rw [hpan rfl]; rfl

/-- Subject reduction for a statement at the head of the top frame: `hok` says that the body `s :: k` checks from `h`;
    the successor's body is `k`, a branch followed by `k`, or empty, and checks from the lock state after `s`. -/
theorem wl_stmt {progs : Meth → Prog} (hp : ProgsOk progs) {h b ins : Bool} {s : Stmt} {k : List Stmt} {defers : List Lck}
    {rest : List Frame} (hok : ((chkS h s).bind fun h' => chkL h' k).ok = true) (hdf : defers.contains .mu = false)
    (hrest : rest.all (frameOk false) = true) (hins : ins = true → atCall (s :: k) = true) :
    (nextCtl progs ⟨⟨s :: k, defers⟩ :: rest, ins, false⟩ b).wl ((Head.stmt s).muAfter h b) = true := by
  cases s
  case callDest kd =>
    cases h
    · cases hok
    · cases ins
      · show Ctl.wl true ⟨⟨.callDest kd :: k, defers⟩ :: rest, true, false⟩ = true
        have : (chkL true (.callDest kd :: k)).ok = true := hok
        simp only [Ctl.wl, frameOk, this, hdf, hrest, atCall]; rfl
      · exact wl_mk (k := k) hok hdf hrest nofun
  all_goals obtain rfl : ins = false := by cases ins <;> first | rfl | cases hins rfl
  case lock l | unlock l =>
    refine wl_mk (k := k) ?_ hdf hrest nofun
    cases l <;> cases h <;> first | exact hok | cases hok
  case drop | setDone | swapFinalizers | appendFinalizer | recv => exact wl_mk (k := k) hok hdf hrest nofun
  case deferUnlock l =>
    cases l
    · cases hok
    · exact wl_mk (k := k) hok (by simpa using hdf) hrest nofun
  case tryLock l t e =>
    refine wl_mk (k := (if b then t else e) ++ k) ?_ hdf hrest nofun
    rw [chkL_append]
    cases l <;> cases h <;> cases b <;> first | cases hok | exact Out.ok_join_left hok | exact Out.ok_join_right hok
  case ifLoadEq _ _ t e | ifFld _ _ t e | ifCas _ _ _ t e | ifNil _ t e =>
    refine wl_mk (k := (if b then t else e) ++ k) ?_ hdf hrest nofun
    rw [chkL_append]
    cases b
    · exact Out.ok_join_right hok
    · exact Out.ok_join_left hok
  case callSelf m =>
    cases h
    · cases hm : Meth.interpreted.contains m <;> simp only [chkS, hm] at hok
      · cases hok
      · have hk : (chkL false k).ok = true := hok
        refine wl_mk (k := progs m) (hp m hm) rfl ?_ nofun
        simp only [List.all_cons, frameOk, hk, hdf, hrest]; rfl
    · cases hok
  case runTaken =>
    cases h
    · cases b
      · exact wl_mk (k := k) hok hdf hrest nofun
      · exact wl_mk (k := .runTaken :: k) hok hdf hrest nofun
    · cases hok
  case raiseJoined | runNow =>
    cases h
    · cases b
      · exact wl_mk (k := k) hok hdf hrest nofun
      · exact wl_mk (k := []) rfl hdf hrest (fun _ => rfl)
    · cases hok
  case ret | retLoad | retFld =>
    cases h
    · exact wl_mk (k := []) rfl hdf hrest nofun
    · cases hok
  case userCb | unknown => cases hok

theorem wl_cons {h ins pan : Bool} {body : List Stmt} {defers : List Lck} {rest : List Frame}
    (hw : Ctl.wl h ⟨⟨body, defers⟩ :: rest, ins, pan⟩ = true) :
    (chkL h body).ok = true ∧ defers.contains .mu = false ∧ rest.all (frameOk false) = true ∧
      (ins = true → atCall body = true) ∧ (pan = true → body = []) := by
  simp only [Ctl.wl, frameOk, Bool.and_eq_true, Bool.or_eq_true, Bool.not_eq_true', List.isEmpty_iff] at hw
  obtain ⟨⟨⟨⟨h1, h2⟩, h3⟩, h4⟩, h5⟩ := hw
  exact ⟨h1, h2, h3, fun hi => h4.resolve_left (by simp [hi]), fun hp => h5.resolve_left (by simp [hp])⟩

/-- subject reduction: the successor control state is typable from the lock state after the transition -/
theorem Ctl.wl_next {progs : Meth → Prog} (hp : ProgsOk progs) {c : Ctl} {h : Bool} (hw : c.wl h = true) (b : Bool) :
    (nextCtl progs c b).wl (c.head.muAfter h b) = true := by
  rcases c with ⟨_ | ⟨⟨body, defers⟩, rest⟩, ins, pan⟩
  · exact hw
  obtain ⟨hok, hdf, hrest, hins, hpan⟩ := wl_cons hw
  rcases body with _ | ⟨s, k⟩
  · -- the frame is exhausted: it falls through, so `mu` is not held
    obtain rfl : ins = false := by cases ins <;> first | rfl | cases hins rfl
    obtain rfl : h = false := by cases h <;> first | rfl | cases hok
    rcases defers with _ | ⟨l, ds⟩
    · rcases rest with _ | ⟨⟨gb, gd⟩, gs⟩
      · rfl
      · obtain ⟨hg, hgs⟩ : frameOk false ⟨gb, gd⟩ = true ∧ gs.all (frameOk false) = true := by
          simpa only [List.all_cons, Bool.and_eq_true] using hrest
        simp only [frameOk, Bool.and_eq_true, Bool.not_eq_true'] at hg
        cases pan
        · exact wl_mk (k := gb) hg.1 hg.2 hgs nofun
        · exact wl_mk (k := []) rfl hg.2 hgs (fun _ => rfl)
    · cases l
      · simp at hdf
      · exact wl_mk (k := []) rfl (by simpa using hdf) hrest (fun _ => rfl)
  · cases pan
    · exact wl_stmt hp hok hdf hrest hins
    · cases hpan rfl

/-- the statement at the head is accepted from the thread's lock state; no frame releases `mu` by a deferred unlock -/
theorem Ctl.wl_head {c : Ctl} {h : Bool} (hw : c.wl h = true) :
    (∀ s, c.head = .stmt s → chkS h s ≠ .err) ∧ c.head ≠ .runDefer .mu := by
  rcases c with ⟨_ | ⟨⟨body, defers⟩, rest⟩, ins, pan⟩
  · exact ⟨fun _ hh => (by cases hh), fun hh => (by cases hh)⟩
  obtain ⟨hok, hdf, _, _, hpan⟩ := wl_cons hw
  rcases body with _ | ⟨s, k⟩
  · rcases defers with _ | ⟨l, ds⟩
    · rcases rest with _ | _ <;> exact ⟨fun _ hh => (by cases hh), fun hh => (by cases hh)⟩
    · refine ⟨fun _ hh => (by cases hh), fun hh => ?_⟩
      cases hh
      simp at hdf
  · cases pan
    · refine ⟨fun s' hh he => ?_, fun hh => (by cases hh)⟩
      cases hh
      rw [chkL, he] at hok
      cases hok
    · cases hpan rfl

theorem Eff.mu_step {sh sh' : Shared} {t : Tid} {th th0 : Thread} {hd : Head} {b : Bool}
    (hE : Eff sh t th hd b sh' th0) (hnl : ∀ l, sh.noLock l = false)
    (hrel : hd = .stmt (.unlock .mu) ∨ hd = .runDefer .mu → sh.mu = some t) :
    decide (sh'.mu = some t) = hd.muAfter (decide (sh.mu = some t)) b ∧
      ∀ u, u ≠ t → decide (sh'.mu = some u) = decide (sh.mu = some u) := by
  have hfree : sh.mu = none → (true = (decide (sh.mu = some t) || true)) ∧
      ∀ u, u ≠ t → decide (some t = some u) = decide (sh.mu = some u) := fun h0 =>
    ⟨by simp, fun u hu => by simp [h0, Ne.symm hu]⟩
  have hheld : sh.mu = some t → ∀ u, u ≠ t → decide ((none : Option Tid) = some u) = decide (sh.mu = some u) :=
    fun h0 u hu => by simp [h0, Ne.symm hu]
  obtain hE | hE := hE <;> cases hE
  case lockNo l hn | tryNo l _ _ hn => rw [hnl] at hn; cases hn
  case lockTake l _ h0 | tryTake l _ _ _ h0 =>
    cases l
    · exact ⟨by simp [Head.muAfter, setOwner_mu_mu], (hfree h0).2⟩
    · exact ⟨rfl, fun _ _ => rfl⟩
  case unlockNo l hn | deferNo l hn => rw [hnl] at hn; cases hn
  case unlockRelease l _ | deferRelease l _ =>
    cases l
    · exact ⟨by simp [Head.muAfter, setOwner_mu_mu], hheld (hrel (by simp))⟩
    · exact ⟨rfl, fun _ _ => rfl⟩
  case tryFail l _ _ _ _ => cases l <;> exact ⟨by simp [Head.muAfter], fun _ _ => rfl⟩
  all_goals exact ⟨rfl, fun _ _ => rfl⟩

theorem WL.step {progs : Meth → Prog} (hp : ProgsOk progs) {s s' : St} {t : Tid} (hm : s.sh.mode ≠ .unsafeMode)
    (hi : WL s) (h : step progs s t = some s') : WL s' := by
  obtain ⟨th, hth, hcase⟩ := step_cases h
  have hwl := hi t th hth
  rcases hcase with ⟨hidle, c, cs, hsc, rfl⟩ | ⟨hne, b, sh', th0, hE, rfl⟩
  · refine hi.update hth (fun _ _ => rfl) ?_
    have h0 : decide (s.sh.mu = some t) = false := by
      simp only [Ctl.wl, hidle, Bool.and_eq_true, Bool.not_eq_true'] at hwl
      exact hwl.1
    show (Ctl.entry progs c).wl (decide (s.sh.mu = some t)) = true
    rw [h0]
    exact wl_mk (hp _ (entry_interpreted c)) rfl rfl nofun
  · have hnl : ∀ l, s.sh.noLock l = false := by
      intro l; cases l <;> simp [Shared.noLock]; exact hm
    have hrel : th.ctl.head = .stmt (.unlock .mu) ∨ th.ctl.head = .runDefer .mu → s.sh.mu = some t := by
      rintro (hh | hh)
      · by_cases hmu : s.sh.mu = some t
        · exact hmu
        · exact absurd (by simp [chkS, hmu]) ((Ctl.wl_head hwl).1 _ hh)
      · exact absurd hh (Ctl.wl_head hwl).2
    obtain ⟨hself, hother⟩ := hE.mu_step hnl hrel
    refine hi.update hth hother ?_
    show (nextCtl progs th.ctl b).wl (decide (sh'.mu = some t)) = true
    rw [hself]
    exact Ctl.wl_next hp hwl b

theorem progsOk_of_wellLocked {table : List (Meth × Prog)} (hw : wellLocked table = true) : ProgsOk (lookup table) := by
  intro m hm
  simp only [wellLocked, List.all_eq_true] at hw
  exact hw m (by simpa using hm)

theorem wl_inside {h : Bool} {c : Ctl} (hw : c.wl h = true) (hin : c.inside = true) : h = true := by
  rcases c with ⟨_ | ⟨⟨body, defers⟩, rest⟩, ins, pan⟩
  · simp [Ctl.wl, show ins = true from hin] at hw
  · obtain ⟨hok, _, _, hins, _⟩ := wl_cons hw
    have hc := hins hin
    rcases body with _ | ⟨s, k⟩
    · cases hc
    · cases s <;> first | cases hc | skip
      cases h
      · cases hok
      · rfl

theorem wellLocked_reachable (table : List (Meth × Prog)) (hw : wellLocked table = true)
    (mode : Mode) (hm : mode ≠ .unsafeMode) (destNil : Bool) (panicky : List FinId)
    (scripts : List (List ApiCall)) (sched : List Tid) :
    WL (run (lookup table) (init mode destNil panicky scripts) sched) := by
  have hinv : (fun s : St => s.sh.mode ≠ .unsafeMode ∧ WL s) (run (lookup table) (init mode destNil panicky scripts) sched) := by
    apply run_inv (progs := lookup table) (fun s : St => s.sh.mode ≠ .unsafeMode ∧ WL s)
    · intro s t s' ⟨hmode, hwl⟩ hstep
      exact ⟨by rw [(step_mode hstep).1]; exact hmode, hwl.step (progsOk_of_wellLocked hw) hmode hstep⟩
    · refine ⟨hm, ?_⟩
      intro t th h
      obtain ⟨sc, _, rfl⟩ := init_threads h
      simp [Ctl.wl, Ro.Kernel.init]
  exact hinv.2

/-- C02(a) for ARBITRARY programs accepted by the lock-discipline checker: in safe /
    eventually-safe mode at most one thread is inside a callback, for every number of threads,
    scripts and schedule. -/
theorem wellLocked_sound (table : List (Meth × Prog)) (hw : wellLocked table = true)
    (mode : Mode) (hm : mode ≠ .unsafeMode) (destNil : Bool) (panicky : List FinId)
    (scripts : List (List ApiCall)) (sched : List Tid) (t u : Tid) (th thu : Thread)
    (ht : (run (lookup table) (init mode destNil panicky scripts) sched).threads[t]? = some th)
    (hu : (run (lookup table) (init mode destNil panicky scripts) sched).threads[u]? = some thu)
    (h1 : th.ctl.inside = true) (h2 : thu.ctl.inside = true) : t = u := by
  have hwl := wellLocked_reachable table hw mode hm destNil panicky scripts sched
  have a1 := of_decide_eq_true (wl_inside (hwl t th ht) h1)
  have a2 := of_decide_eq_true (wl_inside (hwl u thu hu) h2)
  rw [a1] at a2
  exact Option.some.inj a2

/-- C06 / C03 for ARBITRARY programs accepted by the checker: a thread that is about to run a teardown
    (one of the taken finalizers in Unsubscribe's loop, or the teardown that Add runs at once on a disposed
    subscription) or to re-raise the joined panics does NOT hold the producer lock — so a teardown that waits
    for another producer of the same subscriber (stop the goroutine, wait until it has left) cannot deadlock
    on `mu`, whatever the schedule. -/
theorem wellLocked_teardowns_outside_mu (table : List (Meth × Prog)) (hw : wellLocked table = true)
    (mode : Mode) (hm : mode ≠ .unsafeMode) (destNil : Bool) (panicky : List FinId)
    (scripts : List (List ApiCall)) (sched : List Tid) (t : Tid) (th : Thread)
    (ht : (run (lookup table) (init mode destNil panicky scripts) sched).threads[t]? = some th)
    (hh : th.ctl.head = .stmt .runTaken ∨ th.ctl.head = .stmt .runNow ∨ th.ctl.head = .stmt .raiseJoined) :
    (run (lookup table) (init mode destNil panicky scripts) sched).sh.mu ≠ some t := by
  have hwl := wellLocked_reachable table hw mode hm destNil panicky scripts sched t th ht
  intro hmu
  rcases hh with hh | hh | hh <;> exact (Ctl.wl_head hwl).1 _ hh (by simp [chkS, hmu])

end Ro.Kernel
