/-
  RoProofs.Kernel.Teardown — C03 for the expected programs: every finalizer is a token that moves
  script → current Add call → `finalizers` → a thread's `taken` → `ran` (or straight to `ran` when
  the subscription is already done) and is never duplicated; `done` is set before anything runs;
  Wait returns only after its own finalizer ran.
-/
import RoProofs.Kernel.Closed
namespace Ro.Kernel

/-- the finalizer a call hands to the subscription -/
def finOf : ApiCall → Option FinId
  | .add f => some f
  | .wait f => some f
  | _ => none

def Thread.pendCur (th : Thread) : List FinId :=
  match th.cur.bind finOf with
  | some f => if th.ctl.unconsumed then [f] else []
  | none => []

/-- finalizers this thread has not handed over yet: the one of the current call, those of the calls to come -/
def Thread.pend (th : Thread) : List FinId := th.pendCur ++ th.script.filterMap finOf

def Thread.tokens (f : FinId) (th : Thread) : Nat := th.taken.count f + th.pend.count f

def sumT (g : Thread → Nat) (ths : List Thread) : Nat := (ths.map g).sum

theorem sumT_set {g : Thread → Nat} {ths : List Thread} {t : Tid} {th th' : Thread} (h : ths[t]? = some th) :
    sumT g (ths.set t th') + g th = sumT g ths + g th' := by
  induction ths generalizing t with
  | nil => simp at h
  | cons x r ih =>
    cases t with
    | zero =>
      simp at h
      subst h
      simp [sumT]
      omega
    | succ n =>
      simp at h
      have := ih h
      simp [sumT] at this ⊢
      omega

theorem sumT_mem_le {g : Thread → Nat} {ths : List Thread} {t : Tid} {th : Thread} (h : ths[t]? = some th) :
    g th ≤ sumT g ths := by
  induction ths generalizing t with
  | nil => simp at h
  | cons x r ih =>
    cases t with
    | zero => simp at h; subst h; simp [sumT]
    | succ n => simp at h; have := ih h; simp [sumT] at this ⊢; omega

theorem sumT_zero {g : Thread → Nat} {ths : List Thread} (h : ∀ (t : Nat) (th : Thread), ths[t]? = some th → g th = 0) : sumT g ths = 0 := by
  induction ths with
  | nil => rfl
  | cons x r ih =>
    have h0 := h 0 x (by simp)
    have hr := ih (fun t th ht => h (t + 1) th (by simpa using ht))
    simp [sumT] at hr ⊢
    omega

/-- the weight of finalizer `f` in a state: each place it can be -/
def total (f : FinId) (s : St) : Nat :=
  s.sh.ran.count f + s.sh.finalizers.count f + sumT (Thread.tokens f) s.threads

def Head.tearSpecial : Head → Bool
  | .stmt .setDone | .stmt .swapFinalizers | .stmt .appendFinalizer | .stmt .runNow => true
  | _ => false

theorem appendedFins_append (l l' : List Ev) : appendedFins (l ++ l') = appendedFins l ++ appendedFins l' := by
  induction l with
  | nil => rfl
  | cons x r ih => cases x <;> simp only [List.cons_append, appendedFins, ih]

theorem appendedFins_call (sh : Shared) (t : Tid) (c : ApiCall) :
    appendedFins (sh.emit (.call t c)).log = appendedFins sh.log := by
  simp [Shared.emit, appendedFins_append, appendedFins]

theorem finRuns_append (l l' : List Ev) : finRuns (l ++ l') = finRuns l ++ finRuns l' := by
  induction l with
  | nil => rfl
  | cons x r ih => cases x <;> simp only [List.cons_append, finRuns, ih]

theorem eff_tear {sh sh' : Shared} {t : Tid} {th th0 : Thread} {hd : Head} {b : Bool}
    (h : Eff sh t th hd b sh' th0) :
    (hd.tearSpecial = false ∧ sh'.ran = sh.ran ∧ sh'.finalizers = sh.finalizers ∧ sh'.done = sh.done ∧
        th0.taken = th.taken ∧ (th0.panics = th.panics ∨ th0.panics = []) ∧
        appendedFins sh'.log = appendedFins sh.log ∧ finRuns sh'.log = finRuns sh.log ∧
        th0.script = th.script ∧ (th0.cur = th.cur ∨ th0.cur = none) ∧
        (hd = .stmt .runTaken → b = false ∧ th.taken = []) ∧ sh'.panicky = sh.panicky) ∨
    (hd = .stmt .setDone ∧ sh' = { sh with done := true } ∧ th = th0) ∨
    (hd = .stmt .swapFinalizers ∧ sh' = { sh with finalizers := [] } ∧ th0 = { th with taken := sh.finalizers, panics := [] }) ∨
    (∃ g gs, hd = .stmt .runTaken ∧ b = true ∧ th.taken = g :: gs ∧
        sh' = ({ sh with ran := sh.ran ++ [g] }.emit (.finRun t g)) ∧
        th0 = { th with taken := gs, panics := if sh.panicky.contains g then th.panics ++ [g] else th.panics }) ∨
    (hd = .stmt .appendFinalizer ∧ sh' = ({ sh with finalizers := sh.finalizers ++ [th.f] }.emit (.appended t th.f)) ∧ th = th0) ∨
    (hd = .stmt .runNow ∧ sh' = ({ sh with ran := sh.ran ++ [th.f] }.emit (.finRun t th.f)) ∧ th = th0 ∧ b = sh.panicky.contains th.f) := by
  -- an event that is neither `appended` nor `finRun` leaves both projections of the log alone
  have hlog : ∀ e : Ev, appendedFins [e] = [] → appendedFins (sh.emit e).log = appendedFins sh.log ∧
      (finRuns [e] = [] → finRuns (sh.emit e).log = finRuns sh.log) := fun e h1 =>
    ⟨by rw [Shared.emit, appendedFins_append, h1, List.append_nil],
     fun h2 => by rw [Shared.emit, finRuns_append, h2, List.append_nil]⟩
  obtain h | h := h
  · left
    have hsp : hd.tearSpecial = false ∧ (hd = .stmt .runTaken → b = false ∧ th.taken = []) := by
      cases h
      case runTakenNil ht => exact ⟨rfl, fun _ => ⟨rfl, ht⟩⟩
      all_goals exact ⟨rfl, nofun⟩
    obtain ⟨hs, ht⟩ := h.frame
    rw [hs, ht]
    exact ⟨hsp.1, rfl, rfl, rfl, rfl, Or.inl rfl, rfl, rfl, rfl, Or.inl rfl, hsp.2, rfl⟩
  · cases h
    case setDone => exact Or.inr (Or.inl ⟨rfl, rfl, rfl⟩)
    case swap => exact Or.inr (Or.inr (Or.inl ⟨rfl, rfl, rfl⟩))
    case runTakenCons g gs ht => exact Or.inr (Or.inr (Or.inr (Or.inl ⟨g, gs, rfl, rfl, ht, rfl, rfl⟩)))
    case append => exact Or.inr (Or.inr (Or.inr (Or.inr (Or.inl ⟨rfl, rfl, rfl⟩))))
    case runNow => exact Or.inr (Or.inr (Or.inr (Or.inr (Or.inr ⟨rfl, rfl, rfl, rfl⟩))))
    case casOk => exact Or.inl ⟨rfl, rfl, rfl, rfl, rfl, Or.inl rfl, rfl, rfl, rfl, Or.inl rfl, nofun, rfl⟩
    all_goals left
    case raiseCons p ps hp =>
      exact ⟨rfl, rfl, rfl, rfl, rfl, Or.inr rfl, (hlog _ rfl).1, (hlog _ rfl).2 rfl, rfl, Or.inl rfl, nofun, rfl⟩
    case finishCall c hc =>
      exact ⟨rfl, rfl, rfl, rfl, rfl, Or.inl rfl, (hlog _ rfl).1, (hlog _ rfl).2 rfl, rfl, Or.inr rfl, nofun, rfl⟩
    all_goals
      exact ⟨rfl, rfl, rfl, rfl, rfl, Or.inl rfl, (hlog _ rfl).1, (hlog _ rfl).2 rfl, rfl, Or.inl rfl, nofun, rfl⟩

structure TearInv (B : FinId → Nat) (s : St) : Prop where
  once : ∀ f, total f s ≤ B f
  doneKnown : ∀ (t : Tid) (th : Thread), s.threads[t]? = some th → th.ctl.doneKnown = true → s.sh.done = true
  takenDone : ∀ (t : Tid) (th : Thread), s.threads[t]? = some th → th.taken ≠ [] → s.sh.done = true ∧ th.ctl.afterSwap = true
  ranDone : s.sh.ran ≠ [] → s.sh.done = true
  notDone : ∀ (t : Tid) (th : Thread), s.threads[t]? = some th → th.ctl.head = .stmt .appendFinalizer → s.sh.done = false
  owner : s.sh.done = true → s.sh.finalizers = [] ∨ ∃ (t : Tid) (th : Thread), s.threads[t]? = some th ∧ th.ctl.owning = true
  stored : ∀ f, (appendedFins s.sh.log).count f ≤
      s.sh.ran.count f + s.sh.finalizers.count f + sumT (fun th => th.taken.count f) s.threads
  waiting : ∀ (t : Tid) (th : Thread) (f : FinId), s.threads[t]? = some th → th.cur = some (.wait f) →
      th.ctl.waitOpen = true ∨ f ∈ s.sh.ran
  finRuns : finRuns s.sh.log = s.sh.ran
  panics : ∀ (t : Tid) (th : Thread), s.threads[t]? = some th → ∀ p ∈ th.panics, p ∈ s.sh.ran

theorem TearInv.taken_nil {B : FinId → Nat} {s : St} (hi : TearInv B s) {t : Tid} {th : Thread}
    (hth : s.threads[t]? = some th) (h : th.ctl.afterSwap = false) : th.taken = [] := by
  cases ht : th.taken with
  | nil => rfl
  | cons g gs =>
    have := (hi.takenDone t th hth (by simp [ht])).2
    rw [h] at this; cases this

/-- the swap is executed outside the finalizer loop, with nothing taken -/
theorem TearInv.taken_nil_at_swap {B : FinId → Nat} {s : St} (hi : TearInv B s) (hl : LockInv s) {t : Tid} {th : Thread}
    (hth : s.threads[t]? = some th) (hh : th.ctl.head = .stmt .swapFinalizers) : th.taken = [] :=
  hi.taken_nil hth (by have := lfAfterSwap_ok (hl.inReach t th hth) true; simp [lfAfterSwap, hh] at this; exact this.2)

theorem total_le {s : St} {t : Tid} {th th' : Thread} {sh' : Shared} (hth : s.threads[t]? = some th) (f : FinId)
    (h : sh'.ran.count f + sh'.finalizers.count f + th'.tokens f ≤
          s.sh.ran.count f + s.sh.finalizers.count f + th.tokens f) :
    total f { sh := sh', threads := s.threads.set t th' } ≤ total f s := by
  have := sumT_set (g := Thread.tokens f) (th' := th') hth
  simp only [total]
  omega

theorem stored_le {s : St} {t : Tid} {th th' : Thread} {sh' : Shared} (hth : s.threads[t]? = some th) (f : FinId)
    (hs : (appendedFins s.sh.log).count f ≤
      s.sh.ran.count f + s.sh.finalizers.count f + sumT (fun th => th.taken.count f) s.threads)
    (h : (appendedFins sh'.log).count f + (s.sh.ran.count f + s.sh.finalizers.count f + th.taken.count f) ≤
          (appendedFins s.sh.log).count f + (sh'.ran.count f + sh'.finalizers.count f + th'.taken.count f)) :
    (appendedFins sh'.log).count f ≤
      sh'.ran.count f + sh'.finalizers.count f + sumT (fun th => th.taken.count f) (s.threads.set t th') := by
  have := sumT_set (g := fun th => th.taken.count f) (th' := th') hth
  omega

theorem pendCur_le {th th' : Thread}
    (h : (th'.cur = th.cur ∧ (th'.ctl.unconsumed = true → th.ctl.unconsumed = true)) ∨ th'.cur = none) (f : FinId) :
    th'.pendCur.count f ≤ th.pendCur.count f := by
  rcases h with ⟨h1, h2⟩ | h1
  · unfold Thread.pendCur
    rw [h1]
    cases th.cur.bind finOf with
    | none => simp
    | some g =>
      cases hu' : th'.ctl.unconsumed with
      | false => simp
      | true => simp [h2 hu']
  · simp [Thread.pendCur, h1]

/-- `appendFinalizer`, `runNow`, `recv` only occur in Add and Wait calls, whose finalizer is `th.f` -/
theorem add_call_of_head {s : St} {t : Tid} {th : Thread} (hc : ClosedInv s) (hth : s.threads[t]? = some th)
    (hne : th.ctl.stack ≠ [])
    (hh : th.ctl.head = .stmt .appendFinalizer ∨ th.ctl.head = .stmt .runNow ∨ th.ctl.head = .stmt .recv) :
    ∃ c, th.cur = some c ∧ finOf c = some th.f ∧ (c = .add th.f ∨ c = .wait th.f) := by
  cases hcur : th.cur with
  | none =>
    have := hc.idle t th hth hcur
    rw [this] at hne
    exact absurd rfl hne
  | some c =>
    have hlc := lfCall_ok true c (hc.busy t th c hth hcur)
    refine ⟨c, rfl, ?_⟩
    cases c with
    | add f => simp [finOf, Thread.f, hcur, ApiCall.fin]
    | wait f => simp [finOf, Thread.f, hcur, ApiCall.fin]
    | _ => rcases hh with h | h | h <;> simp [lfCall, ApiCall.entry, lfNoAdd, h] at hlc

theorem eff_tear_mono {sh sh' : Shared} {t : Tid} {th th0 : Thread} {hd : Head} {b : Bool}
    (h : Eff sh t th hd b sh' th0) :
    (sh.done = true → sh'.done = true) ∧ (∀ f ∈ sh.ran, f ∈ sh'.ran) := by
  rcases eff_tear h with ⟨_, h1, _, h2, _⟩ | ⟨_, rfl, _⟩ | ⟨_, rfl, _⟩ | ⟨g, gs, _, _, _, rfl, _⟩ | ⟨_, rfl, _⟩ | ⟨_, rfl, _⟩
  · rw [h1, h2]; exact ⟨id, fun _ h => h⟩
  · exact ⟨fun _ => rfl, fun _ h => h⟩
  · exact ⟨id, fun _ h => h⟩
  · exact ⟨id, fun f h => by simp [Shared.emit, h]⟩
  · exact ⟨id, fun _ h => h⟩
  · exact ⟨id, fun f h => by simp [Shared.emit, h]⟩

theorem sumT_init (f : FinId) (scripts : List (List ApiCall)) :
    sumT (Thread.tokens f) (scripts.map fun sc => ({ script := sc } : Thread)) = ((scripts.flatten).filterMap finOf).count f := by
  induction scripts with
  | nil => simp [sumT]
  | cons sc r ih =>
    simp only [sumT, List.map_cons, List.sum_cons, List.flatten_cons, List.filterMap_append, List.count_append] at ih ⊢
    rw [ih]
    simp [Thread.tokens, Thread.pend, Thread.pendCur]

theorem TearInv.init (mode : Mode) (destNil : Bool) (panicky : List FinId) (scripts : List (List ApiCall)) :
    TearInv (fun f => ((scripts.flatten).filterMap finOf).count f) (init mode destNil panicky scripts) := by
  constructor
  · intro f
    have : sumT (Thread.tokens f) (Ro.Kernel.init mode destNil panicky scripts).threads
        = ((scripts.flatten).filterMap finOf).count f := sumT_init f scripts
    simp only [total, this]
    simp [Ro.Kernel.init]
  · intro t th h hd
    obtain ⟨sc, _, rfl⟩ := init_threads h
    simp [Ctl.doneKnown, Ctl.head] at hd
  · intro t th h hd
    obtain ⟨sc, _, rfl⟩ := init_threads h
    simp at hd
  · simp [Ro.Kernel.init]
  · intro t th h hd
    obtain ⟨sc, _, rfl⟩ := init_threads h
    simp [Ctl.head] at hd
  · simp [Ro.Kernel.init]
  · intro f; simp [Ro.Kernel.init, appendedFins]
  · intro t th f h hc
    obtain ⟨sc, _, rfl⟩ := init_threads h
    simp at hc
  · simp [Ro.Kernel.init, Ro.Kernel.finRuns]
  · intro t th h p hp
    obtain ⟨sc, _, rfl⟩ := init_threads h
    simp at hp

theorem pendCur_nil {th : Thread} (h : th.ctl.unconsumed = false) : th.pendCur = [] := by
  unfold Thread.pendCur
  cases th.cur.bind finOf <;> simp [h]

theorem idle_flags {c : Ctl} (h : c.stack = []) :
    c.unconsumed = false ∧ c.afterSwap = false ∧ c.owning = false ∧ c.doneKnown = false ∧ c.waitOpen = false := by
  simp [Ctl.unconsumed, Ctl.afterSwap, Ctl.owning, Ctl.doneKnown, Ctl.waitOpen, Ctl.head, h]

theorem TearInv.step_call {s : St} {t : Tid} {th : Thread} {c : ApiCall} {cs : List ApiCall} {B : FinId → Nat} (hi : TearInv B s)
    (hth : s.threads[t]? = some th) (hidle : th.ctl.stack = []) (hsc : th.script = c :: cs) :
    TearInv B ({ sh := s.sh.emit (.call t c),
                 threads := s.threads.set t { th with ctl := Ctl.entry P c, cur := some c, script := cs } } : St) := by
  obtain ⟨hf1, hf2, hf3, hf4, hf5⟩ := idle_flags hidle
  have hent := entry_tear c
  simp only [lfEntry, Bool.and_eq_true, Bool.not_eq_true'] at hent
  obtain ⟨⟨⟨he1, he2⟩, he3⟩, he4⟩ := hent
  have htk : th.taken = [] := hi.taken_nil hth hf2
  have hlogF : Ro.Kernel.finRuns (s.sh.emit (.call t c)).log = Ro.Kernel.finRuns s.sh.log := by
    simp [Shared.emit, finRuns_append, Ro.Kernel.finRuns]
  constructor
  · intro f
    refine Nat.le_trans (total_le hth f ?_) (hi.once f)
    show (s.sh.emit (.call t c)).ran.count f + (s.sh.emit (.call t c)).finalizers.count f + _ ≤ _
    simp only [Shared.emit, Thread.tokens, Thread.pend, pendCur_nil hf1, hsc, List.nil_append]
    simp only [Thread.pendCur, Option.bind_some]
    cases hfo : finOf c with
    | none => simp [hfo]
    | some g =>
      cases (Ctl.entry P c).unconsumed <;> simp [hfo, List.count_cons] <;> omega
  · refine threads_set_forall hth hi.doneKnown fun hd => ?_
    rw [show ({ th with ctl := Ctl.entry P c, cur := some c, script := cs } : Thread).ctl = Ctl.entry P c from rfl, he1] at hd
    cases hd
  · exact threads_set_forall hth hi.takenDone fun hd => absurd htk hd
  · exact hi.ranDone
  · refine threads_set_forall hth hi.notDone fun hd => ?_
    rw [show ({ th with ctl := Ctl.entry P c, cur := some c, script := cs } : Thread).ctl = Ctl.entry P c from rfl] at hd
    rw [hd] at he4; cases he4
  · intro hd
    rcases hi.owner hd with h | ⟨u, thu, hu, ho⟩
    · exact Or.inl h
    · right
      by_cases hut : u = t
      · subst hut
        rw [hth] at hu
        obtain rfl := Option.some.inj hu
        rw [hf3] at ho; cases ho
      · exact ⟨u, thu, by rw [threads_set_other hut]; exact hu, ho⟩
  · intro f
    refine stored_le hth f (hi.stored f) ?_
    rw [appendedFins_call]
    show _ ≤ _ + ((s.sh.emit (.call t c)).ran.count f + (s.sh.emit (.call t c)).finalizers.count f + _)
    simp [Shared.emit]
  · intro u thu f hu hc
    rcases threads_after hth hu with ⟨rfl, rfl⟩ | ⟨_, hu'⟩
    · simp only [Option.some.injEq] at hc
      subst hc
      left
      exact entry_waitOpen f
    · exact hi.waiting u thu f hu' hc
  · rw [hlogF]; exact hi.finRuns
  · exact threads_set_forall hth hi.panics (hi.panics t th hth)

theorem tearSpecial_isStore {hd : Head} (h : hd.tearSpecial = false) : hd.isStore = false := by
  cases hd with
  | stmt s => cases s <;> simp [Head.tearSpecial] at h <;> rfl
  | _ => rfl

section step
variable {s : St} {t : Tid} {th th0 : Thread} {sh' : Shared} {b : Bool}

abbrev after (th th0 : Thread) (b : Bool) : Thread := { th0 with ctl := nextCtl P th.ctl b }

theorem once_step (hl : LockInv s) (hc : ClosedInv s) {B : FinId → Nat} (hi : TearInv B s) (hth : s.threads[t]? = some th)
    (hne : th.ctl.stack ≠ []) (hE : Eff s.sh t th th.ctl.head b sh' th0) (f : FinId) :
    total f { sh := sh', threads := s.threads.set t (after th th0 b) } ≤ B f := by
  refine Nat.le_trans (total_le hth f ?_) (hi.once f)
  have hr := hl.inReach t th hth
  have hlp := lfPend_ok hr b
  simp only [lfPend, Bool.and_eq_true] at hlp
  obtain ⟨hlp, _⟩ := hlp
  have hpend : th0.cur = th.cur ∨ th0.cur = none → th.ctl.head.isStore = false →
      (after th th0 b).pendCur.count f ≤ th.pendCur.count f := by
    intro hcur hst
    apply pendCur_le
    rcases hcur with h | h
    · left
      refine ⟨h, ?_⟩
      intro hu
      simp only [hst, Bool.false_eq_true, if_false, Bool.or_eq_true, Bool.not_eq_true'] at hlp
      rcases hlp with h1 | h1
      · rw [show (after th th0 b).ctl = nextCtl P th.ctl b from rfl, h1] at hu
        cases hu
      · exact h1
    · right; exact h
  -- `appendFinalizer` and `runNow` take the pending finalizer of this Add / Wait call
  have hstore : th.ctl.head = .stmt .appendFinalizer ∨ th.ctl.head = .stmt .runNow →
      th.pendCur = [th.f] ∧ (after th th b).pendCur = [] := by
    intro hh
    obtain ⟨c, hcur, hfo, _⟩ := add_call_of_head hc hth hne (hh.imp_right Or.inl)
    have hst : th.ctl.head.isStore = true := by rcases hh with h | h <;> rw [h] <;> rfl
    simp only [hst, if_true, Bool.and_eq_true, Bool.not_eq_true'] at hlp
    exact ⟨by simp [Thread.pendCur, hcur, hfo, hlp.1], pendCur_nil hlp.2⟩
  rcases eff_tear hE with ⟨hts, h1, h2, _, h4, _, _, _, h8, h9, _, _⟩ | ⟨hh, rfl, rfl⟩ | ⟨hh, rfl, rfl⟩ |
      ⟨g, gs, hh, _, htk, rfl, rfl⟩ | ⟨hh, rfl, rfl⟩ | ⟨hh, rfl, rfl, _⟩
  · have := hpend h9 (tearSpecial_isStore hts)
    simp only [Thread.tokens, Thread.pend, List.count_append, h1, h2, h4, h8] at this ⊢
    omega
  · have := hpend (Or.inl rfl) (by rw [hh]; rfl)
    simp only [Thread.tokens, Thread.pend, List.count_append] at this ⊢
    omega
  · have := hpend (Or.inl rfl) (by rw [hh]; rfl)
    have htk := hi.taken_nil_at_swap hl hth hh
    simp only [Thread.tokens, Thread.pend, List.count_append, htk, List.count_nil] at this ⊢
    omega
  · have := hpend (Or.inl rfl) (by rw [hh]; rfl)
    simp only [Thread.tokens, Thread.pend, List.count_append, htk, Shared.emit, List.count_cons, List.count_nil] at this ⊢
    omega
  · -- … to `finalizers`
    obtain ⟨h1, h2⟩ := hstore (Or.inl hh)
    simp only [Thread.tokens, Thread.pend, List.count_append, h1, h2, Shared.emit, List.count_cons, List.count_nil]
    omega
  · -- … to `ran`
    obtain ⟨h1, h2⟩ := hstore (Or.inr hh)
    simp only [Thread.tokens, Thread.pend, List.count_append, h1, h2, Shared.emit, List.count_cons, List.count_nil]
    omega

theorem doneKnown_step (hl : LockInv s) {B : FinId → Nat} (hi : TearInv B s) (hth : s.threads[t]? = some th)
    (hE : Eff s.sh t th th.ctl.head b sh' th0) :
    ∀ (u : Tid) (thu : Thread), (s.threads.set t (after th th0 b))[u]? = some thu → thu.ctl.doneKnown = true →
      sh'.done = true := by
  have hmono := (eff_tear_mono hE).1
  refine threads_set_forall hth (fun u thu hu' hd => hmono (hi.doneKnown u thu hu' hd)) fun hd => ?_
  have hld := lfDoneKnown_ok (hl.inReach t th hth) b
  rw [show (after th th0 b).ctl = nextCtl P th.ctl b from rfl] at hd
  simp only [lfDoneKnown, hd, Bool.not_true, Bool.false_or, Bool.or_eq_true] at hld
  rcases hld with h1 | h1
  · exact hmono (hi.doneKnown t th hth h1)
  · split at h1
    · rename_i hh; rw [hh] at hE; obtain hE | hE := hE <;> cases hE; rfl
    · rename_i x y hh
      rw [hh] at hE
      obtain ⟨rfl, rfl, _⟩ := eff_fldEq hE
      simp only [Shared.fld, beq_iff_eq] at h1
      split at h1
      · assumption
      · cases h1
    · cases h1

theorem takenDone_step (hl : LockInv s) {B : FinId → Nat} (hi : TearInv B s) (hth : s.threads[t]? = some th)
    (hE : Eff s.sh t th th.ctl.head b sh' th0) :
    ∀ (u : Tid) (thu : Thread), (s.threads.set t (after th th0 b))[u]? = some thu → thu.taken ≠ [] →
      sh'.done = true ∧ thu.ctl.afterSwap = true := by
  have hmono := (eff_tear_mono hE).1
  have hr := hl.inReach t th hth
  have hla := lfAfterSwap_ok hr b
  refine threads_set_forall hth (fun u thu hu' hd => (hi.takenDone u thu hu' hd).imp_left hmono) fun hd => ?_
  rw [show (after th th0 b).ctl = nextCtl P th.ctl b from rfl]
  rcases eff_tear hE with ⟨hts, _, _, _, h4, _, _, _, _, _, h10, _⟩ | ⟨hh, rfl, rfl⟩ | ⟨hh, rfl, rfl⟩ |
      ⟨g, gs, hh, rfl, htk, rfl, rfl⟩ | ⟨hh, rfl, rfl⟩ | ⟨hh, rfl, rfl, _⟩
  · rw [show (after th th0 b).taken = th0.taken from rfl, h4] at hd
    obtain ⟨h1, h2⟩ := hi.takenDone t th hth hd
    refine ⟨hmono h1, ?_⟩
    -- inside the region only `unlock` and the loop itself occur
    unfold lfAfterSwap at hla
    split at hla
    · rename_i hh; rw [hh] at hts; cases hts
    · rename_i hh; exact absurd (h10 hh).2 hd
    · simp only [beq_iff_eq] at hla; rw [hla]; exact h2
    · simp [h2] at hla
    · simp [h2] at hla
  · obtain ⟨h1, h2⟩ := hi.takenDone t th hth hd
    simp [lfAfterSwap, hh, h2] at hla
  · refine ⟨hi.doneKnown t th hth (by simp [Ctl.doneKnown, hh]), ?_⟩
    simp only [lfAfterSwap, hh, Bool.and_eq_true] at hla
    exact hla.1
  · obtain ⟨h1, h2⟩ := hi.takenDone t th hth (by simp [htk])
    refine ⟨h1, ?_⟩
    simp only [lfAfterSwap, hh, h2, Bool.true_and, Bool.true_or, Bool.not_true, Bool.false_or] at hla
    exact hla
  · obtain ⟨h1, h2⟩ := hi.takenDone t th hth hd
    simp [lfAfterSwap, hh, h2] at hla
  · obtain ⟨h1, h2⟩ := hi.takenDone t th hth hd
    simp [lfAfterSwap, hh, h2] at hla

theorem ranDone_step {B : FinId → Nat} (hi : TearInv B s) (hth : s.threads[t]? = some th)
    (hE : Eff s.sh t th th.ctl.head b sh' th0) (hd : sh'.ran ≠ []) : sh'.done = true := by
  have hmono := (eff_tear_mono hE).1
  rcases eff_tear hE with ⟨_, h1, _, h3, _⟩ | ⟨hh, rfl, rfl⟩ | ⟨hh, rfl, rfl⟩ |
      ⟨g, gs, hh, rfl, htk, rfl, rfl⟩ | ⟨hh, rfl, rfl⟩ | ⟨hh, rfl, rfl, _⟩
  · rw [h1] at hd; exact hmono (hi.ranDone hd)
  · rfl
  · exact hi.ranDone hd
  · exact (hi.takenDone t th hth (by simp [htk])).1
  · exact hi.ranDone hd
  · exact hi.doneKnown t th hth (by simp [Ctl.doneKnown, hh])

theorem notDone_step (hl : LockInv s) {B : FinId → Nat} (hi : TearInv B s) (hth : s.threads[t]? = some th)
    (hE : Eff s.sh t th th.ctl.head b sh' th0) (u : Tid) (thu : Thread)
    (hu : (s.threads.set t (after th th0 b))[u]? = some thu) (hd : thu.ctl.head = .stmt .appendFinalizer) :
    sh'.done = false := by
  have hr := hl.inReach t th hth
  rcases threads_after hth hu with ⟨rfl, rfl⟩ | ⟨hne, hu'⟩
  · have hla := lfAppend_ok hr b
    rw [show (after th th0 b).ctl = nextCtl P th.ctl b from rfl] at hd
    simp only [lfAppend, hd, Head.isAppend, Bool.not_true, Bool.false_or, Bool.or_eq_true, Bool.and_eq_true,
      Bool.not_eq_true'] at hla
    rcases hla with ⟨h1, rfl⟩ | h1
    · obtain ⟨x, y, hh⟩ := Head.exists_of_isDoneTest h1
      rw [hh] at hE
      obtain ⟨hb, rfl, _⟩ := eff_fldEq hE
      simp only [Shared.fld] at hb
      cases hdn : s.sh.done with
      | false => rfl
      | true => simp [hdn] at hb
    · have hh := Head.isAppend_iff.mp h1
      have := hi.notDone u th hth hh
      rw [hh] at hE
      obtain hE | hE := hE <;> cases hE
      exact this
  · -- another thread sits at `appendFinalizer` holding subMu: t cannot be executing `setDone`
    have h0 := hi.notDone u thu hu' hd
    rcases eff_tear hE with ⟨_, _, _, h3, _⟩ | ⟨hh, rfl, rfl⟩ | ⟨hh, rfl, rfl⟩ |
        ⟨g, gs, hh, rfl, htk, rfl, rfl⟩ | ⟨hh, rfl, rfl⟩ | ⟨hh, rfl, rfl, _⟩
    · rw [h3]; exact h0
    · exfalso
      have h1 := lfSubHeld_ok hr
      have h2 := lfSubHeld_ok (hl.inReach u thu hu')
      simp only [lfSubHeld, hh] at h1
      simp only [lfSubHeld, hd] at h2
      have hn : s.sh.noLock .subMu = false := rfl
      have o1 := (hl.own .subMu t th hth hn).mp h1
      have o2 := (hl.own .subMu u thu hu' hn).mp h2
      rw [o1] at o2
      exact hne (Option.some.inj o2).symm
    · exact h0
    · exact h0
    · exact h0
    · exact h0

theorem owner_step (hl : LockInv s) {B : FinId → Nat} (hi : TearInv B s) (hth : s.threads[t]? = some th)
    (hE : Eff s.sh t th th.ctl.head b sh' th0) (hd : sh'.done = true) :
    sh'.finalizers = [] ∨ ∃ (u : Tid) (thu : Thread), (s.threads.set t (after th th0 b))[u]? = some thu ∧ thu.ctl.owning = true := by
  have hr := hl.inReach t th hth
  have hlo := lfOwning_ok hr b
  simp only [lfOwning, Bool.and_eq_true] at hlo
  obtain ⟨hlo, hlk⟩ := hlo
  -- a witness other than t survives; the cases below are about t being the witness
  have keep : s.sh.done = true → sh'.finalizers = s.sh.finalizers →
      (th.ctl.owning = true → sh'.finalizers = [] ∨ (nextCtl P th.ctl b).owning = true) →
      sh'.finalizers = [] ∨ ∃ (u : Tid) (thu : Thread), (s.threads.set t (after th th0 b))[u]? = some thu ∧ thu.ctl.owning = true := by
    intro hdn hfin hself
    rcases hi.owner hdn with h | ⟨u, thu, hu, ho⟩
    · left; rw [hfin]; exact h
    · by_cases hut : u = t
      · subst hut
        rw [hth] at hu
        obtain rfl := Option.some.inj hu
        rcases hself ho with h | h
        · exact Or.inl h
        · exact Or.inr ⟨u, _, threads_set_self hth, h⟩
      · exact Or.inr ⟨u, thu, by rw [threads_set_other hut]; exact hu, ho⟩
  rcases eff_tear hE with ⟨hts, _, h2, h3, _⟩ | ⟨hh, rfl, rfl⟩ | ⟨hh, rfl, rfl⟩ |
      ⟨g, gs, hh, rfl, htk, rfl, rfl⟩ | ⟨hh, rfl, rfl⟩ | ⟨hh, rfl, rfl, _⟩
  · refine keep (by rw [← h3]; exact hd) h2 ?_
    intro ho
    -- t owns and is not at the swap: it is at `if len(finalizers) == 0`
    unfold Ctl.owning at ho
    split at ho
    · rename_i x y hh
      rw [hh] at hE hlo
      obtain ⟨hb, rfl, _⟩ := eff_fldEq hE
      simp only [Bool.or_eq_true] at hlo
      rcases hlo with h | h
      · left
        rw [h] at hb
        simp only [Shared.fld] at hb
        exact List.eq_nil_of_length_eq_zero (by simpa using hb.symm)
      · right; exact h
    · rename_i hh; rw [hh] at hts; cases hts
    · cases ho
  · right
    simp only [hh] at hlo
    exact ⟨t, _, threads_set_self hth, hlo⟩
  · left; rfl
  · refine keep hd rfl ?_
    intro ho; simp [Ctl.owning, hh] at ho
  · have := hi.notDone t th hth hh
    simp only [Shared.emit] at hd
    rw [this] at hd; cases hd
  · refine keep hd rfl ?_
    intro ho; simp [Ctl.owning, hh] at ho

theorem stored_step (hl : LockInv s) {B : FinId → Nat} (hi : TearInv B s) (hth : s.threads[t]? = some th)
    (hE : Eff s.sh t th th.ctl.head b sh' th0) (f : FinId) :
    (appendedFins sh'.log).count f ≤
      sh'.ran.count f + sh'.finalizers.count f + sumT (fun th => th.taken.count f) (s.threads.set t (after th th0 b)) := by
  refine stored_le hth f (hi.stored f) ?_
  rcases eff_tear hE with ⟨_, h1, h2, _, h4, _, h6, _⟩ | ⟨hh, rfl, rfl⟩ | ⟨hh, rfl, rfl⟩ |
      ⟨g, gs, hh, rfl, htk, rfl, rfl⟩ | ⟨hh, rfl, rfl⟩ | ⟨hh, rfl, rfl, _⟩
  · rw [h6, h1, h2, show (after th th0 b).taken = th0.taken from rfl, h4]; omega
  · show _ ≤ _; simp
  · simp [hi.taken_nil_at_swap hl hth hh]
  · simp [Shared.emit, appendedFins_append, appendedFins, htk, List.count_cons] <;> omega
  · simp [Shared.emit, appendedFins_append, appendedFins, List.count_cons] <;> omega
  · simp [Shared.emit, appendedFins_append, appendedFins, List.count_cons] <;> omega

theorem eff_cur {sh sh' : Shared} {t : Tid} {th th0 : Thread} {hd : Head} {b : Bool}
    (h : Eff sh t th hd b sh' th0) : th0.cur = th.cur ∨ th0.cur = none := by
  rcases eff_log h with ⟨_, h1⟩ | ⟨_, _, _, h1, _⟩ | ⟨_, _, _, h1, _⟩
  · exact Or.inl h1
  · exact Or.inl h1
  · exact Or.inr h1

theorem waiting_step (hc : ClosedInv s) {B : FinId → Nat} (hi : TearInv B s) (hth : s.threads[t]? = some th)
    (hE : Eff s.sh t th th.ctl.head b sh' th0) (u : Tid) (thu : Thread) (f : FinId)
    (hu : (s.threads.set t (after th th0 b))[u]? = some thu) (hcur : thu.cur = some (.wait f)) :
    thu.ctl.waitOpen = true ∨ f ∈ sh'.ran := by
  have hmono := (eff_tear_mono hE).2
  rcases threads_after hth hu with ⟨rfl, rfl⟩ | ⟨_, hu'⟩
  · have hcur0 : th.cur = some (.wait f) := by
      rcases eff_cur hE with h | h
      · rw [← h]; exact hcur
      · rw [show (after th th0 b).cur = th0.cur from rfl, h] at hcur; cases hcur
    rcases hi.waiting u th f hth hcur0 with hw | hw
    · cases hw' : (nextCtl P th.ctl b).waitOpen with
      | true => left; rfl
      | false =>
        right
        have hlw := lfCall_ok b _ (hc.busy u th _ hth hcur0)
        simp only [lfCall, ApiCall.entry, lfWait, hw, hw', Bool.not_false, Bool.and_self, Bool.not_true, Bool.false_or, Bool.and_eq_true] at hlw
        have hf : th.f = f := by simp [Thread.f, hcur0, ApiCall.fin]
        obtain ⟨⟨⟨hlw, _⟩, _⟩, _⟩ := hlw
        split at hlw
        · rename_i hh
          rw [hh] at hE
          obtain hE | hE := hE <;> cases hE
          rename_i hg
          rw [hf] at hg
          simpa using hg
        · rename_i hh
          rw [hh] at hE
          obtain hE | hE := hE <;> cases hE
          simp [Shared.emit, hf]
        · cases hlw
    · right; exact hmono f hw
  · rcases hi.waiting u thu f hu' hcur with hw | hw
    · exact Or.inl hw
    · exact Or.inr (hmono f hw)

theorem finRuns_step {B : FinId → Nat} (hi : TearInv B s) (hE : Eff s.sh t th th.ctl.head b sh' th0) :
    Ro.Kernel.finRuns sh'.log = sh'.ran := by
  rcases eff_tear hE with ⟨_, h1, _, _, _, _, _, h7, _⟩ | ⟨hh, rfl, rfl⟩ | ⟨hh, rfl, rfl⟩ |
      ⟨g, gs, hh, rfl, htk, rfl, rfl⟩ | ⟨hh, rfl, rfl⟩ | ⟨hh, rfl, rfl, _⟩
  · rw [h7, h1]; exact hi.finRuns
  · exact hi.finRuns
  · exact hi.finRuns
  · simp [Shared.emit, finRuns_append, Ro.Kernel.finRuns, hi.finRuns]
  · simp [Shared.emit, finRuns_append, Ro.Kernel.finRuns, hi.finRuns]
  · simp [Shared.emit, finRuns_append, Ro.Kernel.finRuns, hi.finRuns]

theorem panics_step {B : FinId → Nat} (hi : TearInv B s) (hth : s.threads[t]? = some th)
    (hE : Eff s.sh t th th.ctl.head b sh' th0) :
    ∀ (u : Tid) (thu : Thread), (s.threads.set t (after th th0 b))[u]? = some thu → ∀ p ∈ thu.panics, p ∈ sh'.ran := by
  have hmono := (eff_tear_mono hE).2
  refine threads_set_forall hth (fun u thu hu' p hp => hmono p (hi.panics u thu hu' p hp)) fun p hp => ?_
  rw [show (after th th0 b).panics = th0.panics from rfl] at hp
  rcases eff_tear hE with ⟨_, _, _, _, _, h5, _⟩ | ⟨hh, rfl, rfl⟩ | ⟨hh, rfl, rfl⟩ |
      ⟨g, gs, hh, rfl, htk, rfl, rfl⟩ | ⟨hh, rfl, rfl⟩ | ⟨hh, rfl, rfl, _⟩
  · rcases h5 with h | h
    · rw [h] at hp; exact hmono p (hi.panics t th hth p hp)
    · rw [h] at hp; cases hp
  · exact hi.panics t th hth p hp
  · cases hp
  · simp only [Shared.emit, List.mem_append, List.mem_singleton]
    split at hp
    · simp only [List.mem_append, List.mem_singleton] at hp
      rcases hp with h | h
      · exact Or.inl (hi.panics t th hth p h)
      · exact Or.inr h
    · exact Or.inl (hi.panics t th hth p hp)
  · exact hmono p (hi.panics t th hth p hp)
  · exact hmono p (hi.panics t th hth p hp)

end step

theorem TearInv.step {s s' : St} {t : Tid} (hl : LockInv s) (hc : ClosedInv s) {B : FinId → Nat} (hi : TearInv B s)
    (h : Ro.Kernel.step P s t = some s') : TearInv B s' := by
  obtain ⟨th, hth, hcase⟩ := step_cases h
  rcases hcase with ⟨hidle, c, cs, hsc, rfl⟩ | ⟨hne, b, sh', th0, hE, rfl⟩
  · exact hi.step_call hth hidle hsc
  · exact {
      once := once_step hl hc hi hth hne hE
      doneKnown := doneKnown_step hl hi hth hE
      takenDone := takenDone_step hl hi hth hE
      ranDone := ranDone_step hi hth hE
      notDone := notDone_step hl hi hth hE
      owner := owner_step hl hi hth hE
      stored := stored_step hl hi hth hE
      waiting := waiting_step hc hi hth hE
      finRuns := finRuns_step hi hE
      panics := panics_step hi hth hE }

end Ro.Kernel
