/-
  RoProofs.Kernel.Producer — who can reach the destination: only a thread whose current call is
  Next / Error / Complete. Hence with a single producer thread at most one thread is ever inside a
  callback or armed, whatever the mutex is (the unsafe-mode half of C01(b) / C02(a)).
-/
import RoProofs.Kernel.Main
namespace Ro.Kernel

theorem eff_script {sh sh' : Shared} {t : Tid} {th th0 : Thread} {hd : Head} {b : Bool}
    (h : Eff sh t th hd b sh' th0) : th0.script = th.script := by
  obtain h | h := h
  · rw [h.frame.2]
  · cases h <;> rfl

structure ProdInv (scripts : List (List ApiCall)) (s : St) : Prop where
  orig : ∀ (t : Tid) (th : Thread), s.threads[t]? = some th → ∀ c, (th.cur = some c ∨ c ∈ th.script) →
            ∃ sc, scripts[t]? = some sc ∧ c ∈ sc
  deliver : ∀ (t : Tid) (th : Thread), s.threads[t]? = some th → th.ctl.canDeliver = true →
            ∃ c, th.cur = some c ∧ c.produces = true

theorem ProdInv.init (mode : Mode) (destNil : Bool) (panicky : List FinId) (scripts : List (List ApiCall)) :
    ProdInv scripts (init mode destNil panicky scripts) := by
  constructor
  · intro t th h c hc
    obtain ⟨sc, h1, rfl⟩ := init_threads h
    simp at hc
    exact ⟨sc, h1, hc⟩
  · intro t th h hd
    obtain ⟨sc, h1, rfl⟩ := init_threads h
    simp [Ctl.canDeliver] at hd

theorem ProdInv.step {scripts : List (List ApiCall)} {s s' : St} {t : Tid} (hl : LockInv s) (hi : ProdInv scripts s)
    (h : step P s t = some s') : ProdInv scripts s' := by
  obtain ⟨th, hth, hcase⟩ := step_cases h
  have hr := hl.inReach t th hth
  rcases hcase with ⟨hidle, c, cs, hsc, rfl⟩ | ⟨hne, b, sh', th0, hE, rfl⟩
  · constructor
    · intro u thu hu c' hc'
      rcases threads_after hth hu with ⟨rfl, rfl⟩ | ⟨_, hu'⟩
      · apply hi.orig u th hth c'
        right
        rw [hsc]
        rcases hc' with h1 | h1
        · simp only [Option.some.injEq] at h1; subst h1; simp
        · simp [h1]
      · exact hi.orig u thu hu' c' hc'
    · intro u thu hu hd
      rcases threads_after hth hu with ⟨rfl, rfl⟩ | ⟨_, hu'⟩
      · exact ⟨c, rfl, entry_canDeliver c hd⟩
      · exact hi.deliver u thu hu' hd
  · have hsc := eff_script hE
    have hcur := eff_cur hE
    constructor
    · intro u thu hu c' hc'
      rcases threads_after hth hu with ⟨rfl, rfl⟩ | ⟨_, hu'⟩
      · apply hi.orig u th hth c'
        rcases hc' with h1 | h1
        · left
          rcases hcur with h2 | h2
          · rw [← h2]; exact h1
          · rw [show ({ th0 with ctl := nextCtl P th.ctl b } : Thread).cur = th0.cur from rfl, h2] at h1; cases h1
        · right; rw [← hsc]; exact h1
      · exact hi.orig u thu hu' c' hc'
    · intro u thu hu hd
      rcases threads_after hth hu with ⟨rfl, rfl⟩ | ⟨_, hu'⟩
      · have hld := lfDeliver_ok hr b
        rw [show ({ th0 with ctl := nextCtl P th.ctl b } : Thread).ctl = nextCtl P th.ctl b from rfl] at hd
        simp only [lfDeliver, hd, Bool.not_true, Bool.false_or, Bool.and_eq_true] at hld
        obtain ⟨c, hc, hp⟩ := hi.deliver u th hth hld.1
        refine ⟨c, ?_, hp⟩
        rcases eff_log hE with ⟨_, h2⟩ | ⟨_, _, _, h2, _⟩ | ⟨_, hf, _, _, _⟩
        · rw [← hc, ← h2]
        · rw [← hc, ← h2]
        · exfalso
          have := lfFinish_ok hr b
          simp only [lfFinish, hf, Head.isFinish, Bool.not_true, Bool.false_or] at this
          rw [Ctl.beq_eq this] at hd
          simp [Ctl.canDeliver, Ctl.idle] at hd
      · exact hi.deliver u thu hu' hd

/-- at most one thread of the scripts issues Next / Error / Complete -/
def SingleProducer (scripts : List (List ApiCall)) : Prop :=
  ∀ (t u : Tid) (sct scu : List ApiCall), scripts[t]? = some sct → scripts[u]? = some scu →
    (∃ c ∈ sct, c.produces = true) → (∃ c ∈ scu, c.produces = true) → t = u

theorem ProdInv.excl {scripts : List (List ApiCall)} {s : St} (hl : LockInv s) (hi : ProdInv scripts s)
    (hsp : SingleProducer scripts) : Excl s := by
  intro t u th thu ht hu h1 h2
  have d1 := lfDeliver_ok (hl.inReach t th ht) true
  have d2 := lfDeliver_ok (hl.inReach u thu hu) true
  simp only [lfDeliver, h1, h2, Bool.not_true, Bool.false_or, Bool.and_eq_true] at d1 d2
  obtain ⟨c1, hc1, hp1⟩ := hi.deliver t th ht d1.2
  obtain ⟨c2, hc2, hp2⟩ := hi.deliver u thu hu d2.2
  obtain ⟨sc1, hs1, hm1⟩ := hi.orig t th ht c1 (Or.inl hc1)
  obtain ⟨sc2, hs2, hm2⟩ := hi.orig u thu hu c2 (Or.inl hc2)
  exact hsp t u sc1 sc2 hs1 hs2 ⟨c1, hm1, hp1⟩ ⟨c2, hm2, hp2⟩

/-- the invariants for any mode under the single-producer hypothesis -/
structure UInv (scripts : List (List ApiCall)) (s : St) : Prop where
  k : KInv (idBound scripts) s
  prod : ProdInv scripts s
  gram : GramInv s

theorem UInv.step {scripts : List (List ApiCall)} (hsp : SingleProducer scripts) {s s' : St} {t : Tid}
    (hi : UInv scripts s) (h : step P s t = some s') : UInv scripts s' :=
  ⟨hi.k.step h, hi.prod.step hi.k.lock h, hi.gram.step hi.k.lock (hi.prod.excl hi.k.lock hsp) h⟩

theorem uinv_reachable (mode : Mode) (destNil : Bool) (panicky : List FinId) (scripts : List (List ApiCall))
    (hsp : SingleProducer scripts) (sched : List Tid) :
    UInv scripts (run P (init mode destNil panicky scripts) sched) :=
  run_inv (UInv scripts) (fun _ _ _ hi h => hi.step hsp h) sched _
    ⟨KInv.init .., ProdInv.init .., GramInv.init ..⟩

end Ro.Kernel
