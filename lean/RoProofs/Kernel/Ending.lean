/-
  RoProofs.Kernel.Ending — C06, "when the stream ends by itself the terminal callback has returned
  before `done` is set" (safe / eventually-safe mode): in every reachable state with `done`, no
  thread is inside, or about to begin, a terminal callback. Hence a Wait (which returns only when
  `done`) returns only after the terminal callback has returned.

  Why: `done` is set by a thread that is past its gate — an Unsubscribe that won its CAS (then the
  status was 0, so no terminal callback had been armed, and none can be armed afterwards), or an
  Error / Complete that has released `mu` (whoever is inside or armed holds `mu`, so nobody was, and
  `status ≠ 0` from its own CAS onwards).
-/
import RoProofs.Kernel.Cut
namespace Ro.Kernel

structure EndInv (s : St) : Prop where
  pend : ∀ (t : Tid) (th : Thread), s.threads[t]? = some th → th.ctl.termPending = true → s.sh.status ≠ 0
  gate : ∀ (u : Tid) (thu : Thread), s.threads[u]? = some thu → thu.ctl.pastGate = true →
          ∀ (t : Tid) (th : Thread), s.threads[t]? = some th → th.ctl.termPending = false
  done : s.sh.done = true → s.sh.status ≠ 0 ∧ ∀ (t : Tid) (th : Thread), s.threads[t]? = some th → th.ctl.termPending = false

theorem EndInv.init (mode : Mode) (destNil : Bool) (panicky : List FinId) (scripts : List (List ApiCall)) :
    EndInv (init mode destNil panicky scripts) := by
  have hth : ∀ (t : Tid) (th : Thread), (Ro.Kernel.init mode destNil panicky scripts).threads[t]? = some th →
      th.ctl = Ctl.idle := by
    intro t th h
    obtain ⟨sc, _, rfl⟩ := init_threads h
    rfl
  constructor
  · intro t th h hp; rw [hth t th h] at hp; simp [Ctl.termPending, Ctl.pendingKind, Ctl.idle, Ctl.armed, Ctl.head] at hp
  · intro u thu h hp; rw [hth u thu h] at hp; simp [Ctl.pastGate, Ctl.unsubAhead, Ctl.idle] at hp
  · simp [Ro.Kernel.init]

/-- a thread past its gate is in a closing call that has done its CAS: `status ≠ 0` -/
theorem pastGate_status {s : St} (hl : LockInv s) (hc : ClosedInv s) {u : Tid} {thu : Thread}
    (hu : s.threads[u]? = some thu) (hp : thu.ctl.pastGate = true) : s.sh.status ≠ 0 := by
  have hg := lfGate_ok (hl.inReach u thu hu) true
  simp only [lfGate, Bool.and_eq_true, Bool.or_eq_true, Bool.not_eq_true'] at hg
  have hbc : thu.ctl.beforeCas = false := by
    rcases hg.1.2 with h | h
    · rw [hp] at h; cases h
    · exact h
  cases hcur : thu.cur with
  | none =>
    have := hc.idle u thu hu hcur
    rw [this] at hp
    simp [Ctl.pastGate, Ctl.unsubAhead, Ctl.idle] at hp
  | some c =>
    have hlc := lfCall_ok true c (hc.busy u thu c hu hcur)
    cases c with
    | error e => exact hc.past u thu _ hu hcur rfl hbc
    | complete => exact hc.past u thu _ hu hcur rfl hbc
    | unsubscribe => exact hc.past u thu _ hu hcur rfl hbc
    | _ => simp [lfCall, ApiCall.entry, hp] at hlc

theorem eff_done {sh sh' : Shared} {t : Tid} {th th0 : Thread} {hd : Head} {b : Bool}
    (h : Eff sh t th hd b sh' th0) : sh'.done = sh.done ∨ (hd = .stmt .setDone ∧ sh'.done = true) := by
  obtain h | h := h
  · exact Or.inl (by rw [h.frame.1])
  · cases h
    case setDone => exact Or.inr ⟨rfl, rfl⟩
    all_goals exact Or.inl rfl

theorem EndInv.step {s s' : St} {t : Tid} (hl : LockInv s) (hc : ClosedInv s) (hs : Serial s.sh) (hi : EndInv s)
    (h : step P s t = some s') : EndInv s' := by
  have hmono := fun hs0 => status_mono hl h hs0
  obtain ⟨th, hth, hcase⟩ := step_cases h
  have hr := hl.inReach t th hth
  rcases hcase with ⟨hidle, c, cs, hsc, rfl⟩ | ⟨hne, b, sh', th0, hE, rfl⟩
  · -- a new call: the entry state is neither pending nor past a gate
    obtain ⟨hg, hp⟩ := entry_gate c
    constructor
    · refine threads_set_forall hth hi.pend fun hpu => ?_
      rw [show ({ th with ctl := Ctl.entry P c, cur := some c, script := cs } : Thread).ctl = Ctl.entry P c from rfl, hp] at hpu
      cases hpu
    · intro u thu hu hpu v thv hv
      have hu0 : u ≠ t := by
        intro h0; subst h0
        rw [threads_set_self hth] at hu
        obtain rfl := Option.some.inj hu
        rw [show ({ th with ctl := Ctl.entry P c, cur := some c, script := cs } : Thread).ctl = Ctl.entry P c from rfl, hg] at hpu
        cases hpu
      rw [threads_set_other hu0] at hu
      exact threads_set_forall hth (hi.gate u thu hu hpu) hp v thv hv
    · intro hd
      obtain ⟨h1, h2⟩ := hi.done hd
      exact ⟨h1, threads_set_forall hth h2 hp⟩
  · have hg := lfGate_ok hr b
    have hlc := lfCas_ok hr
    simp only [lfGate, Bool.and_eq_true, Bool.or_eq_true, Bool.not_eq_true', Bool.and_eq_false_iff] at hg
    obtain ⟨⟨⟨⟨⟨⟨g1, g2⟩, g3⟩, g4⟩, g5⟩, g6⟩, g7⟩ := hg
    have hctl : ({ th0 with ctl := nextCtl P th.ctl b } : Thread).ctl = nextCtl P th.ctl b := rfl
    -- a status CAS at the head that succeeds: the status was 0 and becomes non-zero
    have hcas : th.ctl.head.isStatusCas = true → b = true → s.sh.status = 0 ∧ sh'.status ≠ 0 := by
      intro h1 h2
      cases hh : th.ctl.head with
      | stmt st =>
        unfold lfCas at hlc
        rw [hh] at h1 hE hlc
        cases st <;> simp [Head.isStatusCas, Stmt.isStatusCas] at h1
        rename_i fl a v x y
        cases fl <;> simp at h1
        simp only [Bool.and_eq_true, beq_iff_eq, bne_iff_ne] at hlc
        obtain ⟨⟨_, rfl⟩, hv⟩ := hlc
        rcases eff_cas hE with ⟨_, hs0, hsv⟩ | ⟨hb, _⟩
        · exact ⟨hs0, hsv ▸ hv⟩
        · rw [h2] at hb; cases hb
      | _ => rw [hh] at h1; simp [Head.isStatusCas] at h1
    -- whether the stepping thread is (newly) pending afterwards
    have hnewPend : (nextCtl P th.ctl b).termPending = true → th.ctl.termPending = false →
        s.sh.status = 0 ∧ sh'.status ≠ 0 := by
      intro h1 h2
      rcases g4 with h | h
      · rcases h with h | h
        · rw [h1] at h; cases h
        · rw [h2] at h; cases h
      · exact hcas h.1 h.2
    have hstat : s.sh.status ≠ 0 → sh'.status ≠ 0 := fun h0 => by
      rw [show sh'.status = s.sh.status from hmono h0]; exact h0
    constructor
    · refine threads_set_forall hth (fun u thu hu' hpu => hstat (hi.pend u thu hu' hpu)) fun hpu => ?_
      rw [hctl] at hpu
      cases hold : th.ctl.termPending with
      | true => exact hstat (hi.pend t th hth hold)
      | false => exact (hnewPend hpu hold).2
    · intro u thu hu hpu v thv hv
      cases hvp : thv.ctl.termPending with
      | false => rfl
      | true =>
        exfalso
        rcases threads_after hth hu with ⟨rfl, rfl⟩ | ⟨hut, hu'⟩
        · rw [hctl] at hpu
          rcases threads_after hth hv with ⟨_, rfl⟩ | ⟨hvt, hv'⟩
          · -- the same thread: past the gate and pending at once
            rw [hctl] at hvp
            have := lfGate_ok (reach_next hr b) b
            simp only [lfGate, Bool.and_eq_true, Bool.or_eq_true, Bool.not_eq_true', Bool.and_eq_false_iff] at this
            rcases this.1.1.1.1.2 with h0 | h0
            · rw [hvp] at h0; cases h0
            · rw [hpu] at h0; cases h0
          · -- u steps and is past the gate afterwards; v ≠ u is pending (unchanged)
            cases hold : th.ctl.pastGate with
            | true =>
              have := hi.gate u th hth hold v thv hv'
              rw [hvp] at this; cases this
            | false =>
              rcases g2 with h0 | h0
              · rcases h0 with h0 | h0
                · rcases h0 with h0 | h0
                  · rw [hpu] at h0; cases h0
                  · rw [hold] at h0; cases h0
                · -- won the CAS: status was 0, but a pending thread has status ≠ 0
                  exact hi.pend v thv hv' hvp (hcas h0.1 h0.2).1
              · -- releases mu: it holds mu, and so would the pending thread
                have hv5 := lfGate_ok (hl.inReach v thv hv') true
                simp only [lfGate, Bool.and_eq_true, Bool.or_eq_true, Bool.not_eq_true', Bool.and_eq_false_iff] at hv5
                have hia : (thv.ctl.inside || thv.ctl.armed.isSome) = true := by
                  rcases hv5.1.1.2 with h1 | h1
                  · rcases h1 with h1 | h1
                    · rw [hvp] at h1; cases h1
                    · simp [h1]
                  · simp [h1]
                have a2 := lfArmedHolds_ok (hl.inReach v thv hv')
                simp only [lfArmedHolds, hia, Bool.not_true, Bool.false_or] at a2
                exact hvt (hl.mu_unique hs hth hv' (g7.resolve_left (by simp [h0])) a2).symm
        · rcases threads_after hth hv with ⟨rfl, rfl⟩ | ⟨_, hv'⟩
          · -- another thread is past the gate; the stepping thread is pending afterwards
            rw [hctl] at hvp
            cases hold : th.ctl.termPending with
            | true =>
              have := hi.gate u thu hu' hpu v th hth
              rw [hold] at this; cases this
            | false => exact pastGate_status hl hc hu' hpu (hnewPend hvp hold).1
          · have := hi.gate u thu hu' hpu v thv hv'
            rw [hvp] at this; cases this
    · intro hd
      have hbefore : s.sh.status ≠ 0 ∧ ∀ (v : Tid) (thv : Thread), s.threads[v]? = some thv → thv.ctl.termPending = false := by
        rcases eff_done hE with h0 | ⟨hh, _⟩
        · exact hi.done (by rw [← h0]; exact hd)
        · have hpg : th.ctl.pastGate = true := by
            rcases g1 with h0 | h0
            · rw [hh] at h0; simp [Head.isSetDone] at h0
            · exact h0
          exact ⟨pastGate_status hl hc hth hpg, hi.gate t th hth hpg⟩
      refine ⟨hstat hbefore.1, threads_set_forall hth hbefore.2 ?_⟩
      cases hvp : (nextCtl P th.ctl b).termPending with
      | false => rfl
      | true => exact absurd (hnewPend hvp (hbefore.2 t th hth)).1 hbefore.1

end Ro.Kernel
