/-
  RoProofs.Kernel.Step — shape lemmas about `step` / `stepT` / `run` that every invariant proof uses:
  a step changes the shared part and exactly one thread; invariants lift from `step` to `run`.
-/
import RoModel.Kernel.Conc
namespace Ro.Kernel

theorem step_some {progs : Meth → Prog} {s s' : St} {t : Tid} (h : step progs s t = some s') :
    ∃ th sh' th', s.threads[t]? = some th ∧ stepT progs s.sh t th = some (sh', th') ∧
      s' = { sh := sh', threads := s.threads.set t th' } := by
  unfold step at h
  cases hth : s.threads[t]? with
  | none => simp [hth] at h
  | some th =>
    simp only [hth] at h
    cases hst : stepT progs s.sh t th with
    | none => simp [hst] at h
    | some r =>
      obtain ⟨sh', th'⟩ := r
      simp only [hst, Option.some.injEq] at h
      exact ⟨th, sh', th', rfl, hst, h.symm⟩

theorem stepT_cases {progs : Meth → Prog} {sh sh' : Shared} {t : Tid} {th th' : Thread}
    (h : stepT progs sh t th = some (sh', th')) :
    (th.ctl.stack = [] ∧ ∃ c cs, th.script = c :: cs ∧ sh' = sh.emit (.call t c) ∧
        th' = { th with ctl := Ctl.entry progs c, cur := some c, script := cs }) ∨
    (th.ctl.stack ≠ [] ∧ ∃ b th0, effect sh t th = some (b, sh', th0) ∧
        th' = { th0 with ctl := nextCtl progs th.ctl b }) := by
  unfold stepT at h
  split at h
  · rename_i hs
    split at h
    · simp at h
    · rename_i c cs hsc
      simp only [Option.some.injEq, Prod.mk.injEq] at h
      exact Or.inl ⟨hs, c, cs, hsc, h.1.symm, h.2.symm⟩
  · rename_i fr rest hs
    split at h
    · simp at h
    · rename_i b sh0 th0 he
      simp only [Option.some.injEq, Prod.mk.injEq] at h
      refine Or.inr ⟨by simp [hs], b, th0, ?_, h.2.symm⟩
      rw [he, h.1]

theorem threads_set_self {ths : List Thread} {t : Tid} {th th' : Thread} (h : ths[t]? = some th) :
    (ths.set t th')[t]? = some th' := by
  have : t < ths.length := by
    rcases Nat.lt_or_ge t ths.length with hlt | hge
    · exact hlt
    · simp [List.getElem?_eq_none hge] at h
  simp [this]

theorem threads_set_other {ths : List Thread} {t u : Tid} {th' : Thread} (h : u ≠ t) :
    (ths.set t th')[u]? = ths[u]? := by
  simp [Ne.symm h]

theorem threads_after {ths : List Thread} {t u : Tid} {th th' thu : Thread} (h : ths[t]? = some th)
    (hu : (ths.set t th')[u]? = some thu) : (u = t ∧ thu = th') ∨ (u ≠ t ∧ ths[u]? = some thu) := by
  by_cases hut : u = t
  · subst hut
    rw [threads_set_self h] at hu
    exact Or.inl ⟨rfl, (Option.some.inj hu).symm⟩
  · rw [threads_set_other hut] at hu
    exact Or.inr ⟨hut, hu⟩

theorem threads_set_forall {ths : List Thread} {t : Tid} {th th' : Thread} {p : Tid → Thread → Prop}
    (h : ths[t]? = some th) (hall : ∀ u thu, ths[u]? = some thu → p u thu) (hnew : p t th') :
    ∀ u thu, (ths.set t th')[u]? = some thu → p u thu := by
  intro u thu hu
  rcases threads_after h hu with ⟨rfl, rfl⟩ | ⟨_, hu'⟩
  · exact hnew
  · exact hall u thu hu'

theorem run_inv {progs : Meth → Prog} (Inv : St → Prop)
    (hstep : ∀ s t s', Inv s → step progs s t = some s' → Inv s') :
    ∀ (sched : List Tid) (s : St), Inv s → Inv (run progs s sched) := by
  intro sched
  induction sched with
  | nil => intro s h; exact h
  | cons t ts ih =>
    intro s h
    unfold run
    cases hs : step progs s t with
    | none => simpa using ih s h
    | some s' => simpa using ih s' (hstep s t s' h hs)

theorem run_append (progs : Meth → Prog) (s : St) (a b : List Tid) :
    run progs s (a ++ b) = run progs (run progs s a) b := by
  induction a generalizing s with
  | nil => rfl
  | cons t ts ih => simp [run, ih]

theorem init_threads {mode : Mode} {destNil : Bool} {panicky : List FinId} {scripts : List (List ApiCall)} {t : Tid}
    {th : Thread} (h : (init mode destNil panicky scripts).threads[t]? = some th) :
    ∃ sc, scripts[t]? = some sc ∧ th = { script := sc } := by
  simp only [init, List.getElem?_map, Option.map_eq_some_iff] at h
  obtain ⟨sc, h1, rfl⟩ := h
  exact ⟨sc, h1, rfl⟩

end Ro.Kernel
