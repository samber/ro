/-
  RoProofs.Kernel.LogPreds — the C06 / C03 predicates of `Kernel.Preds` on the WHOLE history, for
  every schedule: `cutLog` (once a closing call has returned, no call whose call event is later
  logs a callback-begin), `isClosedLog` (… and every later-called IsClosed returns true), `waitLog`
  (a Wait's return is preceded by the run of its finalizer), `raiseLog` (the joined panic is
  preceded by the runs of the finalizers it names).
-/
import RoProofs.Kernel.Cut
namespace Ro.Kernel

/-- A scan that checks each event against a state and then moves the state on: extending the log by
    one event adds the check of that event against the state the scan has reached. -/
theorem scan_snoc {σ : Type} {scan : σ → List Ev → Bool} {next : σ → Ev → σ} {chk : σ → Ev → Bool}
    (hnil : ∀ st, scan st [] = true) (hcons : ∀ st x r, scan st (x :: r) = (chk st x && scan (next st x) r))
    (st : σ) (log : List Ev) (e : Ev) : scan st (log ++ [e]) = (scan st log && chk (log.foldl next st) e) := by
  induction log generalizing st with
  | nil => simp [hcons, hnil]
  | cons x r ih => simp only [List.cons_append, hcons, ih, List.foldl_cons, Bool.and_assoc]

/-! ### the scanning state of `cutFrom` / `closedFrom` -/

def scanStep (st : Bool × List Tid) : Ev → Bool × List Tid
  | .ret t c _ => (st.1 || c.closes, st.2.erase t)
  | .call t _ => (st.1, if st.1 then t :: st.2 else st.2)
  | _ => st

def scanSt (st : Bool × List Tid) (log : List Ev) : Bool × List Tid := log.foldl scanStep st

theorem scanSt_snoc (st : Bool × List Tid) (log : List Ev) (e : Ev) : scanSt st (log ++ [e]) = scanStep (scanSt st log) e := by
  simp [scanSt, List.foldl_append]

theorem scanStep_other (st : Bool × List Tid) {e : Ev} (hr : e.isRet = false) (hc : e.isCall = false) :
    scanStep st e = st := by
  cases e <;> first | rfl | contradiction

def cutChk (st : Bool × List Tid) : Ev → Bool
  | .cbBegin t _ _ => !st.2.contains t
  | _ => true

def closedChk (st : Bool × List Tid) : Ev → Bool
  | .ret t c res => !(st.2.contains t && c == .isClosed) || res == .bool true
  | _ => true

theorem closedChk_other (st : Bool × List Tid) {e : Ev} (hr : e.isRet = false) : closedChk st e = true := by
  cases e <;> first | rfl | contradiction

theorem cutLog_snoc (log : List Ev) (e : Ev) :
    cutLog (log ++ [e]) = (cutLog log && cutChk (scanSt (false, []) log) e) :=
  scan_snoc (scan := fun st : Bool × List Tid => cutFrom st.1 st.2) (next := scanStep) (chk := cutChk) (fun _ => rfl)
    (fun st x r => by cases x <;> rfl) (false, []) log e

theorem isClosedLog_snoc (log : List Ev) (e : Ev) :
    isClosedLog (log ++ [e]) = (isClosedLog log && closedChk (scanSt (false, []) log) e) :=
  scan_snoc (scan := fun st : Bool × List Tid => closedFrom st.1 st.2) (next := scanStep) (chk := closedChk) (fun _ => rfl)
    (fun st x r => by cases x <;> rfl) (false, []) log e

/-! ### the invariant tying the scanning state to the threads -/

structure LateInv (s : St) : Prop where
  stEq : (scanSt (false, []) s.sh.log).1 = closedLog s.sh.log
  nodup : (scanSt (false, []) s.sh.log).2.Nodup
  mem : ∀ u ∈ (scanSt (false, []) s.sh.log).2, ∃ thu, s.threads[u]? = some thu ∧ After s.sh thu ∧ thu.ctl.stack ≠ []
  cutOk : cutLog s.sh.log = true
  closedOk : isClosedLog s.sh.log = true

theorem LateInv.init (mode : Mode) (destNil : Bool) (panicky : List FinId) (scripts : List (List ApiCall)) :
    LateInv (init mode destNil panicky scripts) :=
  ⟨rfl, .nil, nofun, rfl, rfl⟩

theorem step_log {s s' : St} {t : Tid} (h : step P s t = some s') :
    s'.sh.log = s.sh.log ∨ ∃ e, s'.sh.log = s.sh.log ++ [e] := by
  obtain ⟨th, _, ⟨_, c, cs, _, rfl⟩ | ⟨_, b, sh', th0, hE, rfl⟩⟩ := step_cases h
  · exact Or.inr ⟨_, rfl⟩
  · rcases eff_log hE with ⟨h1, _⟩ | ⟨e, h1, _⟩ | ⟨c, _, _, _, h1, _⟩
    · exact Or.inl h1
    · exact Or.inr ⟨e, h1⟩
    · exact Or.inr ⟨_, h1⟩

theorem LateInv.step {B : FinId → Nat} {s s' : St} {t : Tid} (hk : KInv B s) (hi : LateInv s)
    (h : step P s t = some s') : LateInv s' := by
  -- every late thread stays `After`, and the events of the step are fine for it
  have hafter : ∀ u ∈ (scanSt (false, []) s.sh.log).2, ∃ thu', s'.threads[u]? = some thu' ∧ After s'.sh thu' ∧
      ∃ evs, s'.sh.log = s.sh.log ++ evs ∧ ∀ e ∈ evs, EvOk u e := by
    intro u hu
    obtain ⟨thu, h1, h2, _⟩ := hi.mem u hu
    exact after_step hk.lock hk.closed h h1 h2
  have hclosedStatus : (scanSt (false, []) s.sh.log).1 = true → s.sh.status ≠ 0 := by
    intro hc; rw [hi.stEq] at hc; exact hk.closed.closed hc
  obtain ⟨th, sh', th', hth, hst, rfl⟩ := step_some h
  have hr := hk.lock.inReach t th hth
  generalize hst0 : scanSt (false, []) s.sh.log = st at hi hafter hclosedStatus
  obtain ⟨closed, late⟩ := st
  have hiStEq := hi.stEq; have hiNd := hi.nodup; have hiMem := hi.mem
  rw [hst0] at hiStEq hiNd hiMem
  simp only at hiStEq hiNd hiMem hafter hclosedStatus
  -- a late thread other than t is untouched, a late t keeps a non-empty stack unless it returns
  have hstack : ∀ u ∈ late, u ≠ t → ∃ thu, (s.threads.set t th')[u]? = some thu ∧ After sh' thu ∧ thu.ctl.stack ≠ [] := by
    intro u hu hne
    obtain ⟨thu, h1, _, h3⟩ := hiMem u hu
    obtain ⟨thu', h1', h2', _⟩ := hafter u hu
    have : (s.threads.set t th')[u]? = some thu := by rw [threads_set_other hne]; exact h1
    have heq : thu' = thu := by
      have := h1'.symm.trans this
      exact Option.some.inj this
    exact ⟨thu, this, heq ▸ h2', h3⟩
  rcases stepT_cases hst with ⟨hidle, c, cs, hsc, rfl, rfl⟩ | ⟨hne, b, th0, he, rfl⟩
  · -- a call event
    have htl : t ∉ late := by
      intro hm
      obtain ⟨thu, h1, _, h3⟩ := hiMem t hm
      rw [hth] at h1; obtain rfl := Option.some.inj h1
      exact h3 hidle
    have hlog : (s.sh.emit (.call t c)).log = s.sh.log ++ [.call t c] := rfl
    have hst' : scanSt (false, []) (s.sh.emit (.call t c)).log = (closed, if closed then t :: late else late) := by
      rw [hlog, scanSt_snoc, hst0]; rfl
    constructor
    · rw [hst', hlog, closedLog_append, ← hiStEq]; exact (Bool.or_false _).symm
    · rw [hst']
      cases closed <;> simp [hiNd, htl]
    · rw [hst']
      intro u hu
      have hu' : u = t ∧ closed = true ∨ u ∈ late := by
        cases closed <;> simp at hu ⊢
        · exact hu
        · exact hu
      rcases hu' with ⟨rfl, hc⟩ | hu'
      · refine ⟨_, threads_set_self hth, ⟨hclosedStatus hc, entry_armed c, ?_⟩, ?_⟩
        · intro hc'
          simp only [Option.some.injEq] at hc'
          subst hc'
          left; rfl
        · simp [Ctl.entry]
      · exact hstack u hu' (fun h => htl (h ▸ hu'))
    · rw [hlog, cutLog_snoc, hi.cutOk]; rfl
    · rw [hlog, isClosedLog_snoc, hi.closedOk]; rfl
  · have hE := effect_inv he
    -- facts about t itself when it is late
    have hself : t ∈ late → ∃ evs, sh'.log = s.sh.log ++ evs ∧ (∀ e ∈ evs, EvOk t e) ∧
        After sh' { th0 with ctl := nextCtl P th.ctl b } := by
      intro hm
      obtain ⟨thu', h1', h2', evs, h3', h4'⟩ := hafter t hm
      have : thu' = { th0 with ctl := nextCtl P th.ctl b } := by
        have := h1'.symm.trans (threads_set_self hth)
        exact Option.some.inj this
      exact ⟨evs, h3', h4', this ▸ h2'⟩
    -- unless the call of t returns, the late threads stay late
    have hmem : th.ctl.head.isFinish = false → ∀ u ∈ late, ∃ thu,
        (s.threads.set t { th0 with ctl := nextCtl P th.ctl b })[u]? = some thu ∧ After sh' thu ∧ thu.ctl.stack ≠ [] := by
      intro hnf u hu
      by_cases hut : u = t
      · subst hut
        obtain ⟨_, _, _, ha⟩ := hself hu
        refine ⟨_, threads_set_self hth, ha, ?_⟩
        have hl := lfNonEmpty_ok hr b
        simp only [lfNonEmpty, hnf, Bool.or_false, Bool.or_eq_true, Bool.not_eq_true', List.isEmpty_iff] at hl
        rcases hl with hl | hl
        · intro h
          rw [show (nextCtl P th.ctl b).stack = [] from h] at hl
          cases hl
        · exact absurd hl hne
      · exact hstack u hu hut
    -- the end of a call logs its return: a thread that runs is in a call
    have hnf : (∀ c r, sh'.log ≠ s.sh.log ++ [.ret t c r]) → th.ctl.head.isFinish = false := by
      intro hno
      cases hh : th.ctl.head <;> try rfl
      rw [hh] at hE
      rcases eff_finish hE with ⟨hcn, _⟩ | ⟨c, _, rfl⟩
      · exact absurd (hk.closed.idle t th hth hcn) (fun h => hne (by rw [h]; rfl))
      · exact absurd rfl (hno c _)
    rcases eff_log hE with ⟨h1, hcur⟩ | ⟨e, h1, htid, hcur, ⟨hnr, hnc⟩, hbeg⟩ | ⟨c', hf, hc', hcur, h1, _⟩
    · -- no event
      have hst' : scanSt (false, []) sh'.log = (closed, late) := by rw [h1]; exact hst0
      replace hnf := hnf fun c r h' => by rw [h1] at h'; simp at h'
      constructor
      · rw [hst', h1]; exact hiStEq
      · rw [hst']; exact hiNd
      · rw [hst']; exact hmem hnf
      · show cutLog sh'.log = true; rw [h1]; exact hi.cutOk
      · show isClosedLog sh'.log = true; rw [h1]; exact hi.closedOk
    · -- one event of t that is neither a call nor a return
      have hst' : scanSt (false, []) sh'.log = (closed, late) := by rw [h1, scanSt_snoc, hst0, scanStep_other _ hnr hnc]
      replace hnf := hnf fun c r h' => by rw [h1] at h'; cases List.append_cancel_left h'; cases hnr
      constructor
      · rw [hst', h1, closedLog_append]
        rw [Ev.closingRet_eq_false hnr, Bool.or_false]; exact hiStEq
      · rw [hst']; exact hiNd
      · rw [hst']; exact hmem hnf
      · rw [h1, cutLog_snoc, hst0, Bool.and_eq_true]
        refine ⟨hi.cutOk, ?_⟩
        cases e <;> simp [cutChk]
        rename_i t' k x
        simp only [Ev.tid] at htid
        subst htid
        intro hm
        obtain ⟨evs, hl, hok, _⟩ := hself hm
        rw [h1] at hl
        have : evs = [.cbBegin t' k x] := (List.append_cancel_left hl).symm
        have := hok (.cbBegin t' k x) (by rw [this]; simp)
        exact this.1 ⟨rfl, rfl⟩
      · rw [h1, isClosedLog_snoc, hst0, Bool.and_eq_true]
        exact ⟨hi.closedOk, closedChk_other _ hnr⟩
    · -- the call of t returns
      have hst' : scanSt (false, []) sh'.log = (closed || c'.closes, late.erase t) := by
        rw [h1, scanSt_snoc, hst0]; rfl
      constructor
      · rw [hst', h1, closedLog_append, ← hiStEq]; rfl
      · rw [hst']; exact hiNd.erase t
      · rw [hst']
        intro u hu
        have hu' : u ∈ late := List.mem_of_mem_erase hu
        have hut : u ≠ t := by
          intro h; subst h
          exact (List.Nodup.mem_erase_iff hiNd).mp hu |>.1 rfl
        exact hstack u hu' hut
      · rw [h1, cutLog_snoc, hi.cutOk]; rfl
      · rw [h1, isClosedLog_snoc, hst0, Bool.and_eq_true]
        refine ⟨hi.closedOk, ?_⟩
        simp only [closedChk, Bool.or_eq_true, Bool.not_eq_true', Bool.and_eq_false_iff, beq_iff_eq]
        by_cases hm : t ∈ late
        · by_cases hic : c' = .isClosed
          · right
            obtain ⟨evs, hl, hok, _⟩ := hself hm
            rw [h1] at hl
            have hev := (List.append_cancel_left hl).symm
            have := hok (Ev.ret t c' (if th.ctl.panicking then .panicked else th.result)) (by rw [hev]; simp)
            subst hic
            exact this.2 _ rfl
          · left; right; simpa using hic
        · left; left; simpa using hm

def waitChk (ran : List FinId) : Ev → Bool
  | .ret _ (.wait f) res => res == .panicked || ran.contains f
  | _ => true

def raiseChk (ran : List FinId) : Ev → Bool
  | .raised _ fs => fs.all ran.contains
  | _ => true

def ranStep (ran : List FinId) : Ev → List FinId
  | .finRun _ f => f :: ran
  | _ => ran

theorem foldl_ranStep (acc : List FinId) (log : List Ev) : log.foldl ranStep acc = (finRuns log).reverse ++ acc := by
  induction log generalizing acc with
  | nil => rfl
  | cons x r ih =>
    cases x <;> try exact ih acc
    simp [ranStep, finRuns, ih]

theorem waitLog_snoc (log : List Ev) (e : Ev) :
    waitLog (log ++ [e]) = (waitLog log && waitChk (finRuns log).reverse e) :=
  (foldl_ranStep [] log).trans (List.append_nil _) ▸ scan_snoc (scan := waitFrom) (fun _ => rfl)
    (fun st x r => by cases x <;> try (rename_i c _; cases c) <;> rfl) [] log e

theorem raiseLog_snoc (log : List Ev) (e : Ev) :
    raiseLog (log ++ [e]) = (raiseLog log && raiseChk (finRuns log).reverse e) :=
  (foldl_ranStep [] log).trans (List.append_nil _) ▸ scan_snoc (scan := raiseFrom) (fun _ => rfl)
    (fun st x r => by cases x <;> rfl) [] log e

structure WRInv (s : St) : Prop where
  wait : waitLog s.sh.log = true
  raise : raiseLog s.sh.log = true

theorem WRInv.init (mode : Mode) (destNil : Bool) (panicky : List FinId) (scripts : List (List ApiCall)) :
    WRInv (init mode destNil panicky scripts) :=
  ⟨rfl, rfl⟩

theorem WRInv.step {B : FinId → Nat} {s s' : St} {t : Tid} (hk : KInv B s) (hi : WRInv s)
    (h : step P s t = some s') : WRInv s' := by
  rcases step_log h with hl | ⟨e, hl⟩
  · exact ⟨by rw [hl]; exact hi.wait, by rw [hl]; exact hi.raise⟩
  · have hfr := hk.tear.finRuns
    constructor
    · rw [hl, waitLog_snoc, Bool.and_eq_true]
      refine ⟨hi.wait, ?_⟩
      cases e <;> try rfl
      rename_i u c r
      cases c <;> try rfl
      rename_i f
      have := (wait_returns_when_done hk h hl).1
      simp [waitChk, hfr, this]
    · rw [hl, raiseLog_snoc, Bool.and_eq_true]
      refine ⟨hi.raise, ?_⟩
      cases e <;> try rfl
      rename_i u fs
      have := (raise_after_loop hk h hl).2.2
      simp only [raiseChk, List.all_eq_true, hfr]
      intro p hp
      simpa using this p hp

end Ro.Kernel
