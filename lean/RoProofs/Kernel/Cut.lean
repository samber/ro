/-
  RoProofs.Kernel.Cut — C06 over whole runs: from a state in which `status ≠ 0` (e.g. after a
  closing call has returned), a thread that is not armed produces no callback-begin in any
  continuation, and its IsClosed calls answer true.
-/
import RoProofs.Kernel.Events
namespace Ro.Kernel

theorem after_run {B : FinId → Nat} (sched : List Tid) : ∀ {s : St}, KInv B s → ∀ {u : Tid} {thu : Thread},
    s.threads[u]? = some thu → After s.sh thu →
    ∃ thu', (run P s sched).threads[u]? = some thu' ∧ After (run P s sched).sh thu' ∧
      ∃ evs, (run P s sched).sh.log = s.sh.log ++ evs ∧ ∀ e ∈ evs, EvOk u e := by
  induction sched with
  | nil => intro s _ u thu hu ha; exact ⟨thu, hu, ha, [], by simp [run], by simp⟩
  | cons t ts ih =>
    intro s hk u thu hu ha
    unfold run
    cases hs : step P s t with
    | none => simpa using ih hk hu ha
    | some s' =>
      simp only [Option.getD_some]
      obtain ⟨thu1, hu1, ha1, evs1, hl1, he1⟩ := after_step hk.lock hk.closed hs hu ha
      obtain ⟨thu2, hu2, ha2, evs2, hl2, he2⟩ := ih (hk.step hs) hu1 ha1
      refine ⟨thu2, hu2, ha2, evs1 ++ evs2, by rw [hl2, hl1, List.append_assoc], ?_⟩
      intro e he
      rcases List.mem_append.mp he with h | h
      · exact he1 e h
      · exact he2 e h

theorem idle_not_armed {c : Ctl} (h : c.stack = []) : c.armed = none := by
  simp [Ctl.armed, Ctl.head, h]

/-- in a state where a closing call has returned, every thread that is not armed and not in an IsClosed call is `After` -/
theorem after_of_closed {B : FinId → Nat} {s : St} (hk : KInv B s) (hc : closedLog s.sh.log = true)
    {thu : Thread} (hq : thu.ctl.armed = none) (hcur : thu.cur ≠ some .isClosed) : After s.sh thu :=
  ⟨hk.closed.closed hc, hq, fun h => absurd h hcur⟩

end Ro.Kernel
