/-
  RoProofs.Kernel.Locks — the lock invariant of the concurrent kernel running the expected programs:
  every thread's control state is in `reach`, and a thread's control state says "holds l" exactly
  when the shared state names it the owner of `l` (for `mu` only when the mutex is a real one).
-/
import RoProofs.Kernel.Flags
import RoProofs.Kernel.Eff
namespace Ro.Kernel

@[simp] theorem Shared.emit_owner (sh : Shared) (e : Ev) (l : Lck) : (sh.emit e).owner l = sh.owner l := by cases l <;> rfl
@[simp] theorem Shared.emit_noLock (sh : Shared) (e : Ev) (l : Lck) : (sh.emit e).noLock l = sh.noLock l := rfl
@[simp] theorem Shared.setOwner_noLock (sh : Shared) (l l' : Lck) (o : Option Tid) :
    (sh.setOwner l o).noLock l' = sh.noLock l' := by cases l <;> rfl
@[simp] theorem Shared.setOwner_owner (sh : Shared) (l : Lck) (o : Option Tid) : (sh.setOwner l o).owner l = o := by
  cases l <;> rfl
@[simp] theorem Shared.setOwner_owner_other (sh : Shared) (l : Lck) (o : Option Tid) :
    (sh.setOwner l o).owner l.other = sh.owner l.other := by cases l <;> rfl
theorem Lck.eq_or_other (l l' : Lck) : l' = l ∨ l' = l.other := by cases l <;> cases l' <;> simp [Lck.other]

structure LockInv (s : St) : Prop where
  inReach : ∀ (t : Tid) (th : Thread), s.threads[t]? = some th → th.ctl ∈ reach
  own : ∀ (l : Lck) (t : Tid) (th : Thread), s.threads[t]? = some th → s.sh.noLock l = false →
          (th.ctl.holds l = true ↔ s.sh.owner l = some t)

theorem LockInv.init (mode : Mode) (destNil : Bool) (panicky : List FinId) (scripts : List (List ApiCall)) :
    LockInv (init mode destNil panicky scripts) := by
  constructor
  · intro t th h
    obtain ⟨sc, _, rfl⟩ := init_threads h
    exact reach_idle
  · intro l t th h _
    obtain ⟨sc, _, rfl⟩ := init_threads h
    cases l <;> simp [Ctl.holds, Shared.owner, Ro.Kernel.init]

/-- a lock whose `holds` the stepping thread leaves alone keeps its clause of `own`, as long as its owner stays -/
theorem LockInv.own_other {s : St} {t u : Tid} {th th' thu : Thread} (hi : LockInv s) (hth : s.threads[t]? = some th)
    (hu : (s.threads.set t th')[u]? = some thu) {l : Lck} (hn : s.sh.noLock l = false)
    (h2 : th'.ctl.holds l = th.ctl.holds l) : thu.ctl.holds l = true ↔ s.sh.owner l = some u := by
  rcases threads_after hth hu with ⟨rfl, rfl⟩ | ⟨_, hu'⟩
  · rw [h2]; exact hi.own l u th hth hn
  · exact hi.own l u thu hu' hn

/-- the shape of the argument for every transition that leaves ownership and `holds` alone -/
theorem LockInv.keep {s : St} {t : Tid} {th th' : Thread} {sh' : Shared} (hi : LockInv s)
    (hth : s.threads[t]? = some th) (hr : th'.ctl ∈ reach)
    (hown : ∀ l, sh'.owner l = s.sh.owner l) (hno : ∀ l, sh'.noLock l = s.sh.noLock l)
    (hh : ∀ l, s.sh.noLock l = false → th'.ctl.holds l = th.ctl.holds l) :
    LockInv { sh := sh', threads := s.threads.set t th' } := by
  constructor
  · exact threads_set_forall hth hi.inReach hr
  · intro l u thu hu hn
    simp only [hown, hno] at hn ⊢
    exact hi.own_other hth hu hn (hh l hn)

theorem LockInv.acquire {s : St} {t : Tid} {th th' : Thread} (hi : LockInv s)
    (hth : s.threads[t]? = some th) (hr : th'.ctl ∈ reach) (l : Lck)
    (hfree : s.sh.owner l = none)
    (h1 : th'.ctl.holds l = true) (h2 : th'.ctl.holds l.other = th.ctl.holds l.other) :
    LockInv { sh := s.sh.setOwner l (some t), threads := s.threads.set t th' } := by
  constructor
  · exact threads_set_forall hth hi.inReach hr
  · intro l' u thu hu hn
    simp only [Shared.setOwner_noLock] at hn
    rcases Lck.eq_or_other l l' with rfl | rfl
    · simp only [Shared.setOwner_owner]
      rcases threads_after hth hu with ⟨rfl, rfl⟩ | ⟨hne, hu'⟩
      · simp [h1]
      · have := hi.own l' u thu hu' hn
        rw [hfree] at this
        simp only [reduceCtorEq, iff_false] at this
        simp [this, Ne.symm hne]
    · simp only [Shared.setOwner_owner_other]
      exact hi.own_other hth hu hn h2

theorem LockInv.release {s : St} {t : Tid} {th th' : Thread} (hi : LockInv s)
    (hth : s.threads[t]? = some th) (hr : th'.ctl ∈ reach) (l : Lck)
    (hheld : th.ctl.holds l = true)
    (h1 : th'.ctl.holds l = false) (h2 : th'.ctl.holds l.other = th.ctl.holds l.other) :
    LockInv { sh := if s.sh.noLock l then s.sh else s.sh.setOwner l none, threads := s.threads.set t th' } := by
  constructor
  · exact threads_set_forall hth hi.inReach hr
  · intro l' u thu hu hn
    by_cases hnl : s.sh.noLock l = true
    · simp only [hnl, if_true] at hn ⊢
      rcases Lck.eq_or_other l l' with rfl | rfl
      · simp [hnl] at hn
      · exact hi.own_other hth hu hn h2
    · simp only [hnl, if_false, Bool.false_eq_true] at hn ⊢
      simp only [Shared.setOwner_noLock] at hn
      rcases Lck.eq_or_other l l' with rfl | rfl
      · simp only [Shared.setOwner_owner]
        have hown := (hi.own l' t th hth hn).mp hheld
        rcases threads_after hth hu with ⟨rfl, rfl⟩ | ⟨hne, hu'⟩
        · simp [h1]
        · have := hi.own l' u thu hu' hn
          rw [hown] at this
          simp only [Option.some.injEq] at this
          simp only [reduceCtorEq, iff_false, Bool.not_eq_true]
          cases hq : Ctl.holds l' thu.ctl
          · rfl
          · exact absurd (this.mp hq).symm hne
      · simp only [Shared.setOwner_owner_other]
        exact hi.own_other hth hu hn h2

theorem eff_noLock {sh sh' : Shared} {t : Tid} {th th0 : Thread} {hd : Head} {b : Bool}
    (h : Eff sh t th hd b sh' th0) (l : Lck) : sh'.noLock l = sh.noLock l := by
  simp only [Shared.noLock, (eff_mode h).1]

/-- what a transition does to the lock owners, by the lock operation of its head -/
theorem Eff.owners {sh sh' : Shared} {t : Tid} {th th0 : Thread} {hd : Head} {b : Bool}
    (h : Eff sh t th hd b sh' th0) :
    match hd.releases, hd.acquires b with
    | some l, _ => sh' = if sh.noLock l then sh else sh.setOwner l none
    | none, some l => (sh.noLock l = true ∧ ∀ l', sh'.owner l' = sh.owner l') ∨
        (sh.owner l = none ∧ sh' = sh.setOwner l (some t))
    | none, none => ∀ l', sh'.owner l' = sh.owner l' := by
  obtain h | h := h
  · cases h
    case deferRelease l hn | unlockRelease l hn | deferNo l hn | unlockNo l hn => simp [Head.releases, hn]
    case lockTake l hn hfree | tryTake l a e hn hfree => exact Or.inr ⟨hfree, rfl⟩
    case lockNo l hn | tryNo l a e hn => exact Or.inl ⟨hn, fun _ => rfl⟩
    all_goals exact fun _ => rfl
  · cases h <;> exact fun l' => by cases l' <;> rfl

theorem LockInv.step {s s' : St} {t : Tid} (hi : LockInv s) (h : step P s t = some s') : LockInv s' := by
  obtain ⟨th, hth, ⟨hidle, c, cs, hsc, rfl⟩ | ⟨hne, b, sh', th0, hE, rfl⟩⟩ := step_cases h
  · refine hi.keep hth (reach_entry c) (by simp) (by simp) ?_
    intro l _
    show (Ctl.entry P c).holds l = th.ctl.holds l
    rw [entry_holds]
    simp [Ctl.holds, hidle]
  · have hr := hi.inReach t th hth
    have hr' : nextCtl P th.ctl b ∈ reach := reach_next hr b
    have hl := lfLock_ok hr b
    have ho := hE.owners
    unfold lfLock at hl
    cases hrel : th.ctl.head.releases with
    | some l =>
      simp only [hrel, Bool.and_eq_true, Bool.not_eq_true', beq_iff_eq] at hl ho
      rw [ho]
      exact hi.release hth hr' l hl.1.1 hl.1.2 hl.2
    | none =>
      cases hacq : th.ctl.head.acquires b with
      | some l =>
        simp only [hrel, hacq, Bool.and_eq_true, Bool.not_eq_true', beq_iff_eq] at hl ho
        rcases ho with ⟨hn, ho⟩ | ⟨hfree, rfl⟩
        · refine hi.keep hth hr' ho (eff_noLock hE) ?_
          intro l' hn'
          rcases Lck.eq_or_other l l' with rfl | rfl
          · rw [hn] at hn'; cases hn'
          · exact hl.2
        · exact hi.acquire hth hr' l hfree hl.1.2 hl.2
      | none =>
        simp only [hrel, hacq, Bool.and_eq_true, beq_iff_eq] at hl ho
        exact hi.keep hth hr' ho (eff_noLock hE) fun l _ => by cases l; exact hl.1; exact hl.2

end Ro.Kernel
