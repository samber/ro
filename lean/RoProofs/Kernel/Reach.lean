/-
  RoProofs.Kernel.Reach — the control states a thread can be in when it runs the expected programs.

  A thread's control state (`Ctl`: stack of frames, inside / panicking flags) carries no data, so
  for the fixed table `Expected.progs` only finitely many are reachable. `reach` computes them by
  closing the entry states under `nextCtl` (both outcomes); that the result is closed (the fuel of
  `expand` sufficed) follows from the work-list invariant of `expand` once the kernel has run it to
  an empty work list (`expand_closed`, `reach_done`). Every fact about control flow that
  the invariants need ("whoever is about to call the destination holds `mu`", "after `setDone` comes
  the swap", …) is then a Boolean predicate evaluated over `reach` (RoProofs.Kernel.Flags), instead
  of a hand-written type system. `reachM m` is the same closure from the entry state of one method.
-/
import RoModel.Kernel.Expected
import RoProofs.Kernel.Beq
namespace Ro.Kernel

def Frame.beq (a b : Frame) : Bool := Stmt.beqL a.body b.body && a.defers == b.defers

def framesBeq : List Frame → List Frame → Bool
  | [], [] => true
  | x :: xs, y :: ys => x.beq y && framesBeq xs ys
  | _, _ => false

def Ctl.beq (a b : Ctl) : Bool := framesBeq a.stack b.stack && a.inside == b.inside && a.panicking == b.panicking

theorem Frame.beq_eq {a b : Frame} (h : a.beq b = true) : a = b := by
  cases a; cases b
  simp [Frame.beq] at h
  simp [Stmt.beqL_eq _ _ h.1, h.2]

theorem framesBeq_eq : ∀ {a b : List Frame}, framesBeq a b = true → a = b
  | [], [], _ => rfl
  | x :: xs, y :: ys, h => by
      simp [framesBeq] at h
      rw [Frame.beq_eq h.1, framesBeq_eq h.2]
  | [], _ :: _, h => by simp [framesBeq] at h
  | _ :: _, [], h => by simp [framesBeq] at h

theorem Ctl.beq_eq {a b : Ctl} (h : a.beq b = true) : a = b := by
  cases a; cases b
  simp [Ctl.beq] at h
  simp [framesBeq_eq h.1.1, h.1.2, h.2]

abbrev P := Expected.progs

/-- the control state in which each kind of API call starts, and the idle state -/
def entries : List Ctl :=
  [Ctl.idle, Ctl.entry P (.next 0), Ctl.entry P (.error 0), Ctl.entry P .complete, Ctl.entry P .unsubscribe,
   Ctl.entry P (.add 0), Ctl.entry P (.wait 0), Ctl.entry P .isClosed]

def expand : Nat → List Ctl → List Ctl → List Ctl
  | 0, _, seen => seen
  | _, [], seen => seen
  | n + 1, c :: todo, seen =>
    if seen.any (Ctl.beq c) then expand n todo seen
    else expand n (nextCtl P c true :: nextCtl P c false :: todo) (c :: seen)

/-- every control state reachable from an entry state (both outcomes of every statement).
    The fuel 2000 is any value for which `reach_done` and `reachM_done` evaluate to true; correctness
    never depends on it, by `expand_closed`. -/
def reach : List Ctl := expand 2000 entries []

/-- `expand`'s recursion again, telling whether the work list was emptied before the fuel ran out -/
def expandDone : Nat → List Ctl → List Ctl → Bool
  | _, [], _ => true
  | 0, _ :: _, _ => false
  | n + 1, c :: todo, seen =>
    if seen.any (Ctl.beq c) then expandDone n todo seen
    else expandDone n (nextCtl P c true :: nextCtl P c false :: todo) (c :: seen)

theorem mem_of_any_beq {c : Ctl} {l : List Ctl} (h : l.any (Ctl.beq c) = true) : c ∈ l := by
  rw [List.any_eq_true] at h
  obtain ⟨c', hm, hb⟩ := h
  rw [Ctl.beq_eq hb]
  exact hm

/-- The work-list invariant: the successors of everything in `seen` are in `seen` or still in `todo`.
    So when the list is emptied the result contains both arguments and is closed under `nextCtl`. -/
theorem expand_closed : ∀ (n : Nat) (todo seen : List Ctl), expandDone n todo seen = true →
    (∀ c ∈ seen, ∀ b, nextCtl P c b ∈ seen ∨ nextCtl P c b ∈ todo) →
    (∀ c, c ∈ seen ∨ c ∈ todo → c ∈ expand n todo seen) ∧
      ∀ c ∈ expand n todo seen, ∀ b, nextCtl P c b ∈ expand n todo seen
  | n, [], seen, _, hi => by
    have : expand n [] seen = seen := by cases n <;> rfl
    rw [this]
    exact ⟨fun c h => h.elim id nofun, fun c hc b => (hi c hc b).elim id nofun⟩
  | 0, _ :: _, _, hd, _ => by cases hd
  | n + 1, c :: todo, seen, hd, hi => by
    rw [expand]
    rw [expandDone] at hd
    by_cases hs : seen.any (Ctl.beq c) = true
    · rw [if_pos hs] at hd ⊢
      have drop : ∀ x, x ∈ seen ∨ x ∈ c :: todo → x ∈ seen ∨ x ∈ todo := fun x hx =>
        hx.elim Or.inl fun h => (List.mem_cons.mp h).elim (fun e => Or.inl (e ▸ mem_of_any_beq hs)) Or.inr
      obtain ⟨h1, h2⟩ := expand_closed n todo seen hd fun x hx b => drop _ (hi x hx b)
      exact ⟨fun x hx => h1 x (drop x hx), h2⟩
    · rw [if_neg hs] at hd ⊢
      have move : ∀ x, x ∈ seen ∨ x ∈ c :: todo →
          x ∈ c :: seen ∨ x ∈ nextCtl P c true :: nextCtl P c false :: todo := by
        intro x hx
        simp only [List.mem_cons] at hx ⊢
        rcases hx with h | h | h
        · exact Or.inl (Or.inr h)
        · exact Or.inl (Or.inl h)
        · exact Or.inr (Or.inr (Or.inr h))
      obtain ⟨h1, h2⟩ := expand_closed n _ (c :: seen) hd fun x hx b => by
        rcases List.mem_cons.mp hx with rfl | hx
        · cases b <;> simp
        · exact move _ (hi x hx b)
      exact ⟨fun x hx => h1 x (move x hx), h2⟩

theorem reach_done : expandDone 2000 entries [] = true := by decide +kernel

theorem reach_next {c : Ctl} (h : c ∈ reach) (b : Bool) : nextCtl P c b ∈ reach :=
  (expand_closed 2000 entries [] reach_done nofun).2 c h b

theorem reach_of_entries {c : Ctl} (h : c ∈ entries) : c ∈ reach :=
  (expand_closed 2000 entries [] reach_done nofun).1 c (Or.inr h)

theorem reach_idle : Ctl.idle ∈ reach := reach_of_entries (List.mem_cons_self ..)

def entryMeths : List Meth := [.subNext, .subError, .subComplete, .subUnsubscribe, .snAdd, .snWait, .subIsClosed]

theorem entry_meth_mem (c : ApiCall) : c.entry ∈ entryMeths := by cases c <;> simp [entryMeths, ApiCall.entry]

/-- the control state in which a call entering at method `m` starts -/
abbrev Ctl.start (m : Meth) : Ctl := { stack := [{ body := P m }] }

-- `entries` unfolds to `Ctl.idle :: entryMeths.map Ctl.start`: `Ctl.entry` looks only at `c.entry`, not at the payload
theorem start_mem {m : Meth} (hm : m ∈ entryMeths) : Ctl.start m ∈ entries :=
  List.mem_cons_of_mem _ (List.mem_map_of_mem hm)

theorem entry_mem (c : ApiCall) : Ctl.entry P c ∈ entries := start_mem (entry_meth_mem c)

theorem reach_entry (c : ApiCall) : Ctl.entry P c ∈ reach := reach_of_entries (entry_mem c)

/-- a decided fact about the entry states holds of the entry state of every call -/
theorem entry_fact {Q : Ctl → Bool} (h : entries.all Q = true) (c : ApiCall) : Q (Ctl.entry P c) = true :=
  List.all_eq_true.mp h _ (entry_mem c)

/-- the control states of a thread while it executes a call entering at method `m` -/
def reachM (m : Meth) : List Ctl := expand 2000 [{ stack := [{ body := P m }] }] []

theorem reachM_done : entryMeths.all (fun m => expandDone 2000 [Ctl.start m] []) = true := by decide +kernel

theorem reachM_next {m : Meth} (hm : m ∈ entryMeths) {c : Ctl} (h : c ∈ reachM m) (b : Bool) :
    nextCtl P c b ∈ reachM m :=
  (expand_closed 2000 _ [] (List.all_eq_true.mp reachM_done m hm) nofun).2 c h b

theorem reachM_entry (c : ApiCall) : Ctl.entry P c ∈ reachM c.entry :=
  (expand_closed 2000 _ [] (List.all_eq_true.mp reachM_done _ (entry_meth_mem c)) nofun).1 _
    (Or.inr (List.mem_singleton_self _))

/-- `expand` stays inside any set that contains its arguments and is closed under `nextCtl` -/
theorem expand_sub {R : List Ctl} (hR : ∀ c ∈ R, ∀ b, nextCtl P c b ∈ R) :
    ∀ (n : Nat) (todo seen : List Ctl), (∀ c ∈ todo, c ∈ R) → (∀ c ∈ seen, c ∈ R) → ∀ c ∈ expand n todo seen, c ∈ R
  | 0, _, _, _, hs => by rw [expand]; exact hs
  | _ + 1, [], _, _, hs => by rw [expand]; exact hs; exact Nat.succ_ne_zero _
  | n + 1, c :: todo, seen, ht, hs => by
    have hc := ht c (List.mem_cons_self ..)
    have ht' := fun x hx => ht x (List.mem_cons_of_mem _ hx)
    rw [expand]
    split
    · exact expand_sub hR n todo seen ht' hs
    · refine expand_sub hR n _ _ ?_ ?_
      · intro x hx
        rcases List.mem_cons.mp hx with rfl | hx
        · exact hR c hc true
        rcases List.mem_cons.mp hx with rfl | hx
        · exact hR c hc false
        · exact ht' x hx
      · intro x hx
        rcases List.mem_cons.mp hx with rfl | hx
        · exact hc
        · exact hs x hx

theorem reachM_reach {m : Meth} (hm : m ∈ entryMeths) {c : Ctl} (h : c ∈ reachM m) : c ∈ reach :=
  expand_sub (fun _ hc b => reach_next hc b) 2000 _ _
    (fun _ hx => List.mem_singleton.mp hx ▸ reach_of_entries (start_mem hm)) (fun _ hx => absurd hx List.not_mem_nil) c h

end Ro.Kernel
