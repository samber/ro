/-
  RoProofs.Kernel.Events — what holds at the moment particular events are logged: a Wait returns
  only after its finalizer ran (so `done` holds); the joined panic is raised after the loop; an Add
  returns only after its teardown was stored or run.
-/
import RoProofs.Kernel.Terminal
namespace Ro.Kernel

/-- the transition of `t` from `s` to `s'` logs exactly the event `e` -/
def Logs (s s' : St) (e : Ev) : Prop := s'.sh.log = s.sh.log ++ [e]

theorem ret_event {s s' : St} {t u : Tid} {c : ApiCall} {r : Res} (h : step P s t = some s')
    (hlog : Logs s s' (.ret u c r)) :
    u = t ∧ ∃ th, s.threads[t]? = some th ∧ th.ctl.head = .finish ∧ th.cur = some c ∧ th.ctl.stack ≠ [] ∧
      r = (if th.ctl.panicking then .panicked else th.result) := by
  obtain ⟨th, hth, hcase⟩ := step_cases h
  unfold Logs at hlog
  rcases hcase with ⟨_, c', cs, _, rfl⟩ | ⟨hne, b, sh', th0, hE, rfl⟩
  · simp [Shared.emit] at hlog
  · rcases eff_log hE with ⟨h1, _⟩ | ⟨e, h1, _, _, h2, _⟩ | ⟨c', hf, hc', _, h1, _⟩
    · rw [h1] at hlog; simp at hlog
    · rw [h1] at hlog
      simp only [List.append_cancel_left_eq, List.cons.injEq, and_true] at hlog
      rw [hlog] at h2; simp [Ev.isRet] at h2
    · rw [h1] at hlog
      simp only [List.append_cancel_left_eq, List.cons.injEq, and_true, Ev.ret.injEq] at hlog
      obtain ⟨rfl, rfl, rfl⟩ := hlog
      exact ⟨rfl, th, hth, hf, hc', hne, rfl⟩

/-- C06: when a Wait call returns, its own finalizer has run and the subscription is done -/
theorem wait_returns_when_done {B : FinId → Nat} {s s' : St} {t u : Tid} {f : FinId} {r : Res} (hi : KInv B s)
    (h : step P s t = some s') (hlog : Logs s s' (.ret u (.wait f) r)) : f ∈ s.sh.ran ∧ s.sh.done = true := by
  obtain ⟨rfl, th, hth, hf, hcur, _, _⟩ := ret_event h hlog
  have hlw := lfCall_ok true _ (hi.closed.busy u th _ hth hcur)
  simp only [lfCall, ApiCall.entry, lfWait, hf, Head.isFinish, Bool.not_true, Bool.false_or, Bool.and_eq_true, Bool.not_eq_true'] at hlw
  rcases hi.tear.waiting u th f hth hcur with hw | hw
  · rw [hlw.1.1.2] at hw; cases hw
  · exact ⟨hw, hi.tear.ranDone (List.ne_nil_of_mem hw)⟩

/-- C03: the joined panic is raised only after the loop: the thread has nothing left to run and
    every finalizer named in the panic has run -/
theorem raise_after_loop {B : FinId → Nat} {s s' : St} {t u : Tid} {fs : List FinId} (hi : KInv B s)
    (h : step P s t = some s') (hlog : Logs s s' (.raised u fs)) :
    u = t ∧ (∃ th, s.threads[t]? = some th ∧ th.taken = [] ∧ th.panics = fs) ∧ ∀ p ∈ fs, p ∈ s.sh.ran := by
  obtain ⟨th, hth, hcase⟩ := step_cases h
  unfold Logs at hlog
  rcases hcase with ⟨_, c', cs, _, rfl⟩ | ⟨hne, b, sh', th0, hE, rfl⟩
  · simp [Shared.emit] at hlog
  · generalize hh : th.ctl.head = hd at hE
    obtain hE | hE := hE
    · rw [hE.frame.1] at hlog; simp at hlog
    cases hE
    case raiseCons p ps hp =>
      simp only [Shared.emit, List.append_cancel_left_eq, List.cons.injEq, and_true, Ev.raised.injEq] at hlog
      obtain ⟨rfl, rfl⟩ := hlog
      have hlr := lfRaise_ok (hi.lock.inReach t th hth)
      simp only [lfRaise, hh, Head.isRaise, Bool.not_true, Bool.false_or, Bool.not_eq_true'] at hlr
      exact ⟨rfl, ⟨th, hth, hi.tear.taken_nil hth hlr, hp⟩, fun q hq => hi.tear.panics t th hth q (by rw [hp]; exact hq)⟩
    all_goals simp [Shared.emit] at hlog

/-! ### an Add returns only after its teardown was stored or run; nothing is stored once `done` -/

structure ConsInv (s : St) : Prop where
  cons : ∀ (t : Tid) (th : Thread) (c : ApiCall) (f : FinId), s.threads[t]? = some th → th.cur = some c →
    finOf c = some f → th.ctl.unconsumed = true ∨ f ∈ appendedFins s.sh.log ∨ f ∈ s.sh.ran

theorem ConsInv.init (mode : Mode) (destNil : Bool) (panicky : List FinId) (scripts : List (List ApiCall)) :
    ConsInv (init mode destNil panicky scripts) := by
  constructor
  intro t th c f h hc
  obtain ⟨sc, _, rfl⟩ := init_threads h
  simp at hc

theorem ConsInv.step {B : FinId → Nat} {s s' : St} {t : Tid} (hk : KInv B s) (hi : ConsInv s)
    (h : step P s t = some s') : ConsInv s' := by
  obtain ⟨th, hth, hcase⟩ := step_cases h
  have hr := hk.lock.inReach t th hth
  rcases hcase with ⟨hidle, c, cs, hsc, rfl⟩ | ⟨hne, b, sh', th0, hE, rfl⟩
  · constructor
    intro u thu c' f hu hc hf
    rw [appendedFins_call]
    rcases threads_after hth hu with ⟨rfl, rfl⟩ | ⟨_, hu'⟩
    · simp only [Option.some.injEq] at hc
      subst hc
      left
      apply entry_unconsumed
      cases c <;> simp [finOf] at hf
      · exact ⟨_, Or.inl rfl⟩
      · exact ⟨_, Or.inr rfl⟩
    · exact hi.cons u thu c' f hu' hc hf
  · have hmono := (eff_tear_mono hE).2
    have hamono : ∀ f, f ∈ appendedFins s.sh.log → f ∈ appendedFins sh'.log := by
      intro f hf
      rcases eff_tear hE with ⟨_, _, _, _, _, _, h6, _⟩ | ⟨_, rfl, _⟩ | ⟨_, rfl, _⟩ | ⟨g, gs, _, _, _, rfl, _⟩ | ⟨_, rfl, _⟩ | ⟨_, rfl, _⟩
      · rw [h6]; exact hf
      · exact hf
      · exact hf
      · simp [Shared.emit, appendedFins_append, appendedFins, hf]
      · simp [Shared.emit, appendedFins_append, appendedFins, hf]
      · simp [Shared.emit, appendedFins_append, appendedFins, hf]
    constructor
    intro u thu c' f hu hc hf
    rcases threads_after hth hu with ⟨rfl, rfl⟩ | ⟨_, hu'⟩
    · have hc0 : th.cur = some c' := by
        rcases eff_cur hE with h1 | h1
        · rw [← h1]; exact hc
        · rw [show ({ th0 with ctl := nextCtl P th.ctl b } : Thread).cur = th0.cur from rfl, h1] at hc; cases hc
      rcases hi.cons u th c' f hth hc0 hf with h1 | h1 | h1
      · cases hu' : (nextCtl P th.ctl b).unconsumed with
        | true => left; rfl
        | false =>
          right
          have hlc := lfConsume_ok hr b
          simp only [lfConsume, h1, hu', Bool.not_false, Bool.and_self, Bool.not_true, Bool.false_or,
            Bool.or_eq_true, Bool.and_eq_true] at hlc
          have hff : th.f = f := by
            cases c' <;> simp [finOf] at hf <;> simp [Thread.f, hc0, ApiCall.fin, hf]
          rcases hlc with hs | ⟨hn, rfl⟩
          · unfold Head.isStore at hs
            split at hs
            · rename_i hh
              rw [hh] at hE
              obtain hE | hE := hE <;> cases hE
              left
              simp [Shared.emit, appendedFins_append, appendedFins, hff]
            · rename_i hh
              rw [hh] at hE
              obtain hE | hE := hE <;> cases hE
              right
              simp [Shared.emit, hff]
            · cases hs
          · obtain ⟨x, y, hh⟩ := Head.exists_of_isNilTeardown hn
            rw [hh] at hE
            have := eff_isNil hE
            simp [Shared.isNil] at this
      · right; left; exact hamono f h1
      · right; right; exact hmono f h1
    · rcases hi.cons u thu c' f hu' hc hf with h1 | h1 | h1
      · exact Or.inl h1
      · exact Or.inr (Or.inl (hamono f h1))
      · exact Or.inr (Or.inr (hmono f h1))

/-- C03: when an Add returns, its teardown has been stored for later or has run -/
theorem add_returns_consumed {B : FinId → Nat} {s s' : St} {t u : Tid} {f : FinId} {r : Res} (hk : KInv B s)
    (hi : ConsInv s) (h : step P s t = some s') (hlog : Logs s s' (.ret u (.add f) r)) :
    f ∈ appendedFins s.sh.log ∨ f ∈ s.sh.ran := by
  obtain ⟨rfl, th, hth, hf, hcur, _, _⟩ := ret_event h hlog
  have hlp := lfPend_ok (hk.lock.inReach u th hth) true
  simp only [lfPend, hf, Head.isFinish, Bool.not_true, Bool.false_or, Bool.and_eq_true, Bool.not_eq_true'] at hlp
  rcases hi.cons u th _ f hth hcur rfl with h1 | h1
  · rw [hlp.2] at h1; cases h1
  · exact h1

/-- C03: a teardown is stored only while the subscription is not done -/
theorem stored_only_when_open {B : FinId → Nat} {s s' : St} {t u : Tid} {f : FinId} (hk : KInv B s)
    (h : step P s t = some s') (hlog : Logs s s' (.appended u f)) : s.sh.done = false := by
  obtain ⟨th, hth, hcase⟩ := step_cases h
  unfold Logs at hlog
  rcases hcase with ⟨_, c', cs, _, rfl⟩ | ⟨hne, b, sh', th0, hE, rfl⟩
  · simp [Shared.emit] at hlog
  · generalize hh : th.ctl.head = hd at hE
    obtain hE | hE := hE
    · rw [hE.frame.1] at hlog; simp at hlog
    cases hE
    case append => exact hk.tear.notDone t th hth hh
    all_goals simp [Shared.emit] at hlog

/-- hence once `done` is set nothing is stored any more: every later Add runs its teardown itself -/
theorem no_store_after_done {B : FinId → Nat} (sched : List Tid) : ∀ {s : St}, KInv B s → s.sh.done = true →
    appendedFins (run P s sched).sh.log = appendedFins s.sh.log ∧ (run P s sched).sh.done = true := by
  induction sched with
  | nil => intro s _ hd; exact ⟨rfl, hd⟩
  | cons t ts ih =>
    intro s hk hd
    unfold run
    cases hs : step P s t with
    | none => simpa using ih hk hd
    | some s' =>
      simp only [Option.getD_some]
      obtain ⟨th, sh', th', hth, hst, rfl⟩ := step_some hs
      have key : appendedFins sh'.log = appendedFins s.sh.log ∧ sh'.done = true := by
        rcases stepT_cases hst with ⟨_, c', cs, _, rfl, rfl⟩ | ⟨hne, b, th0, he, rfl⟩
        · exact ⟨appendedFins_call .., hd⟩
        · have hE := effect_inv he
          refine ⟨?_, (eff_tear_mono hE).1 hd⟩
          rcases eff_tear hE with ⟨_, _, _, _, _, _, h6, _⟩ | ⟨_, rfl, _⟩ | ⟨_, rfl, _⟩ | ⟨g, gs, _, _, _, rfl, _⟩ | ⟨hh, rfl, _⟩ | ⟨_, rfl, _⟩
          · exact h6
          · rfl
          · rfl
          · simp [Shared.emit, appendedFins_append, appendedFins]
          · have := hk.tear.notDone t th hth hh
            rw [hd] at this; cases this
          · simp [Shared.emit, appendedFins_append, appendedFins]
      obtain ⟨h1, h2⟩ := ih (hk.step hs) key.2
      exact ⟨h1.trans key.1, h2⟩

end Ro.Kernel
