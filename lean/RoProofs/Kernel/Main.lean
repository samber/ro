/-
  RoProofs.Kernel.Main — the invariants of the concurrent kernel bundled and lifted to every
  schedule: `KInv` (every mode) and `SInv` (safe / eventually-safe mode: plus the grammar invariant).
-/
import RoProofs.Kernel.Teardown
namespace Ro.Kernel

/-- the initial number of occurrences of each finalizer id in the scripts -/
def idBound (scripts : List (List ApiCall)) (f : FinId) : Nat := ((scripts.flatten).filterMap finOf).count f

/-- every finalizer id is used by at most one Add / Wait call of the scripts -/
def DistinctIds (scripts : List (List ApiCall)) : Prop := ∀ f, idBound scripts f ≤ 1

structure KInv (B : FinId → Nat) (s : St) : Prop where
  lock : LockInv s
  closed : ClosedInv s
  tear : TearInv B s

theorem KInv.init (mode : Mode) (destNil : Bool) (panicky : List FinId) (scripts : List (List ApiCall)) :
    KInv (idBound scripts) (init mode destNil panicky scripts) :=
  ⟨LockInv.init .., ClosedInv.init .., TearInv.init ..⟩

theorem KInv.step {B : FinId → Nat} {s s' : St} {t : Tid} (hi : KInv B s) (h : step P s t = some s') : KInv B s' :=
  ⟨hi.lock.step h, hi.closed.step hi.lock h, hi.tear.step hi.lock hi.closed h⟩

theorem KInv.run {B : FinId → Nat} {s : St} (hi : KInv B s) (sched : List Tid) : KInv B (run P s sched) :=
  run_inv (KInv B) (fun _ _ _ hi h => hi.step h) sched s hi

theorem kinv_reachable (mode : Mode) (destNil : Bool) (panicky : List FinId) (scripts : List (List ApiCall))
    (sched : List Tid) : KInv (idBound scripts) (run P (init mode destNil panicky scripts) sched) :=
  (KInv.init mode destNil panicky scripts).run sched

theorem Serial.step {s s' : St} {t : Tid} (hs : Serial s.sh) (h : step P s t = some s') : Serial s'.sh := by
  unfold Serial; rw [(step_mode h).1]; exact hs

structure SInv (B : FinId → Nat) (s : St) : Prop where
  k : KInv B s
  serial : Serial s.sh
  gram : GramInv s

theorem SInv.step {B : FinId → Nat} {s s' : St} {t : Tid} (hi : SInv B s) (h : step P s t = some s') : SInv B s' :=
  ⟨hi.k.step h, hi.serial.step h, hi.gram.step hi.k.lock (hi.k.lock.excl hi.serial) h⟩

theorem sinv_reachable (mode : Mode) (hm : mode ≠ .unsafeMode) (destNil : Bool) (panicky : List FinId)
    (scripts : List (List ApiCall)) (sched : List Tid) :
    SInv (idBound scripts) (run P (init mode destNil panicky scripts) sched) :=
  run_inv (SInv (idBound scripts)) (fun _ _ _ hi h => hi.step h) sched _
    ⟨KInv.init .., hm, GramInv.init ..⟩

end Ro.Kernel
