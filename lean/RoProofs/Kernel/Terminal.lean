/-
  RoProofs.Kernel.Terminal — in a state where no thread can move and `done` is set, nothing is left
  in `finalizers` or in any thread's taken list: every stored finalizer has run.
-/
import RoProofs.Kernel.Main
namespace Ro.Kernel

theorem step_none_effect {s : St} {t : Tid} {th : Thread} (h : step P s t = none) (hth : s.threads[t]? = some th)
    (hne : th.ctl.stack ≠ []) : effect s.sh t th = none := by
  cases he : effect s.sh t th with
  | none => rfl
  | some r =>
    obtain ⟨b, sh', th0⟩ := r
    cases hs : th.ctl.stack with
    | nil => exact absurd hs hne
    | cons fr rest => simp [step, hth, stepT, hs, he] at h

theorem head_stack_ne {c : Ctl} {s : Stmt} (h : c.head = .stmt s) : c.stack ≠ [] := by
  intro hs
  simp [Ctl.head, hs] at h

/-- no thread enabled -/
def Terminal (s : St) : Prop := ∀ t, step P s t = none

theorem terminal_drained {B : FinId → Nat} {s : St} (hi : KInv B s) (hd : s.sh.done = true) (ht : Terminal s) :
    s.sh.finalizers = [] ∧ ∀ (t : Tid) (th : Thread), s.threads[t]? = some th → th.taken = [] := by
  constructor
  · rcases hi.tear.owner hd with h | ⟨u, thu, hu, ho⟩
    · exact h
    · exfalso
      unfold Ctl.owning at ho
      split at ho
      · rename_i x y hh
        have := step_none_effect (ht u) hu (head_stack_ne hh)
        simp [effect, hh] at this
      · rename_i hh
        have := step_none_effect (ht u) hu (head_stack_ne hh)
        simp [effect, hh] at this
      · cases ho
  · intro t th hth
    cases htk : th.taken with
    | nil => rfl
    | cons g gs =>
      exfalso
      have ha := (hi.tear.takenDone t th hth (by simp [htk])).2
      have hla := lfAfterSwap_ok (hi.lock.inReach t th hth) true
      unfold lfAfterSwap at hla
      split at hla
      · simp [ha] at hla
      · rename_i hh
        have := step_none_effect (ht t) hth (head_stack_ne hh)
        simp [effect, hh, htk] at this
      · rename_i l hh
        have := step_none_effect (ht t) hth (head_stack_ne hh)
        simp [effect, hh] at this
      · simp [ha] at hla
      · simp [ha] at hla

/-- C03: in a terminal state with `done`, every finalizer that was stored by an Add has run -/
theorem terminal_all_ran {B : FinId → Nat} {s : St} (hi : KInv B s) (hd : s.sh.done = true) (ht : Terminal s)
    (f : FinId) (hf : f ∈ appendedFins s.sh.log) : f ∈ s.sh.ran := by
  obtain ⟨h1, h2⟩ := terminal_drained hi hd ht
  have hs := hi.tear.stored f
  have h0 : sumT (fun th => th.taken.count f) s.threads = 0 :=
    sumT_zero (fun t th hth => by simp [h2 t th hth])
  rw [h1, h0] at hs
  simp only [List.count_nil, Nat.add_zero] at hs
  have : 0 < (appendedFins s.sh.log).count f := List.count_pos_iff.mpr hf
  exact List.count_pos_iff.mp (by omega)

/-- C03: no finalizer runs twice (for scripts that use each finalizer id once) -/
theorem ran_count_le_one {B : FinId → Nat} {s : St} (hi : KInv B s) (f : FinId) (hb : B f ≤ 1) : s.sh.ran.count f ≤ 1 := by
  have := hi.tear.once f
  simp only [total] at this
  omega

end Ro.Kernel
