/-
  RoProofs.Kernel.Live — deadlock-freedom of the kernel running the expected programs (destination
  callbacks and teardowns are opaque: they do not call back into the same subscriber — that is how
  `Conc` models them, and it is the hypothesis of everything here).

  A thread can be disabled only (a) at `lock l`, and then the owner of `l` is another thread that IS
  enabled (inside a critical section of `mu` or `subMu` nothing blocks), or (b) at the channel
  receive of Wait while its finalizer has not run. So: if some thread is unfinished, either some
  thread is enabled, or every unfinished thread is a Wait whose subscription nobody closes.
-/
import RoProofs.Kernel.Terminal
namespace Ro.Kernel

theorem eff_owner {sh sh' : Shared} {t : Tid} {th th0 : Thread} {hd : Head} {b : Bool}
    (h : Eff sh t th hd b sh' th0) (l : Lck) (u : Tid) (ho : sh'.owner l = some u) : sh.owner l = some u ∨ u = t := by
  obtain h | h := h <;> cases h
  case lockTake l' _ _ | tryTake l' _ _ _ _ | deferRelease l' _ | unlockRelease l' _ =>
    cases l <;> cases l' <;> first
      | exact Or.inl ho
      | exact Or.inr (Option.some.inj ho).symm
      | cases ho
  all_goals exact Or.inl ho

/-- lock owners are threads of the state -/
def OwnerInv (s : St) : Prop := ∀ (l : Lck) (u : Tid), s.sh.owner l = some u → u < s.threads.length

theorem OwnerInv.step {s s' : St} {t : Tid} (hi : OwnerInv s) (h : step P s t = some s') : OwnerInv s' := by
  obtain ⟨th, hth, hcase⟩ := step_cases h
  have ht : t < s.threads.length := (List.getElem?_eq_some_iff.mp hth).1
  intro l u ho
  rcases hcase with ⟨_, c, cs, _, rfl⟩ | ⟨_, b, sh', th0, hE, rfl⟩ <;> simp only [List.length_set]
  · exact hi l u (by simpa using ho)
  · rcases eff_owner hE l u ho with h1 | rfl
    · exact hi l u h1
    · exact ht

theorem OwnerInv.init (mode : Mode) (destNil : Bool) (panicky : List FinId) (scripts : List (List ApiCall)) :
    OwnerInv (init mode destNil panicky scripts) := by
  intro l u ho
  cases l <;> simp [Ro.Kernel.init, Shared.owner] at ho

theorem effect_enabled (sh : Shared) (t : Tid) (th : Thread) (hb : th.ctl.head.blocking = false)
    (hs : th.ctl.head.stuck = false) : ∃ r, effect sh t th = some r := by
  unfold effect
  generalize th.ctl.head = hd at hb hs
  cases hd with
  | stmt st =>
    cases st
    case lock | recv => cases hb
    case userCb | unknown => cases hs
    case ifCas fl a v x y =>
      cases fl <;> first | cases hs | skip
      dsimp only; split <;> exact ⟨_, rfl⟩
    case tryLock l a e => dsimp only; split <;> (try split) <;> exact ⟨_, rfl⟩
    case callDest k | runTaken | raiseJoined => dsimp only; split <;> exact ⟨_, rfl⟩
    all_goals exact ⟨_, rfl⟩
  | idle => cases hb
  | finish => dsimp only; split <;> exact ⟨_, rfl⟩
  | _ => exact ⟨_, rfl⟩

theorem step_of_effect {s : St} {t : Tid} {th : Thread} (hth : s.threads[t]? = some th) (hne : th.ctl.stack ≠ [])
    (he : ∃ r, effect s.sh t th = some r) : ∃ s', step P s t = some s' := by
  obtain ⟨⟨b, sh', th0⟩, he⟩ := he
  cases hs : th.ctl.stack with
  | nil => exact absurd hs hne
  | cons fr rest => exact ⟨{ sh := sh', threads := s.threads.set t { th0 with ctl := nextCtl P th.ctl b } }, by simp [step, hth, stepT, hs, he]⟩

def Thread.unfinished (th : Thread) : Prop := th.ctl.stack ≠ [] ∨ th.script ≠ []

theorem disabled_cases {B : FinId → Nat} {s : St} (hk : KInv B s) (ho : OwnerInv s) {t : Tid} {th : Thread}
    (hth : s.threads[t]? = some th) (hdis : step P s t = none) (hun : th.unfinished) :
    (∃ l u, th.ctl.head = .stmt (.lock l) ∧ s.sh.owner l = some u ∧ u ≠ t ∧ ∃ s', step P s u = some s') ∨
    (th.ctl.head = .stmt .recv ∧ th.f ∉ s.sh.ran) := by
  have hr := hk.lock.inReach t th hth
  have hlive := lfLive_ok hr
  simp only [lfLive, Bool.and_eq_true, Bool.not_eq_true'] at hlive
  obtain ⟨⟨_, hstuck⟩, hlk⟩ := hlive
  by_cases hne : th.ctl.stack = []
  · -- between two calls with calls left: enabled
    exfalso
    rcases hun with h | h
    · exact h hne
    · cases hsc : th.script with
      | nil => exact h hsc
      | cons c cs => simp [step, hth, stepT, hne, hsc] at hdis
  · have he := step_none_effect hdis hth hne
    by_cases hb : th.ctl.head.blocking = false
    · obtain ⟨r, hr'⟩ := effect_enabled s.sh t th hb hstuck
      rw [he] at hr'; cases hr'
    · cases hh : th.ctl.head with
      | stmt st =>
        rw [hh] at hb hlk
        cases st <;> simp [Head.blocking] at hb
        case lock l =>
          left
          unfold effect at he
          rw [hh] at he
          by_cases hn : s.sh.noLock l = true
          · simp [hn] at he
          · cases hown : s.sh.owner l with
            | none => simp [hn, hown] at he
            | some u =>
              have hu := ho l u hown
              obtain ⟨thu, hthu⟩ : ∃ thu, s.threads[u]? = some thu := ⟨s.threads[u], by simp [hu]⟩
              have hhold := (hk.lock.own l u thu hthu (by simpa using hn)).mpr hown
              have hlu := lfLive_ok (hk.lock.inReach u thu hthu)
              simp only [lfLive, Bool.and_eq_true, Bool.not_eq_true', Bool.or_eq_true] at hlu
              have hnb : thu.ctl.head.blocking = false := by
                rcases hlu.1.1 with h | h
                · cases l <;> simp [hhold] at h
                · exact h
              have hstk : thu.ctl.stack ≠ [] := by
                intro h0; simp [Ctl.holds, h0] at hhold
              refine ⟨l, u, rfl, hown, ?_, step_of_effect hthu hstk (effect_enabled _ _ _ hnb hlu.1.2)⟩
              intro hut; subst hut
              rw [hth] at hthu
              obtain rfl := Option.some.inj hthu
              simp only at hlk
              rw [hhold] at hlk; cases hlk
        case recv =>
          right
          refine ⟨rfl, ?_⟩
          unfold effect at he
          rw [hh] at he
          intro hm
          simp [Thread.f] at hm
          simp [hm] at he
      | idle =>
        exfalso
        exact hne (head_idle_stack hh)
      | _ => rw [hh] at hb; simp [Head.blocking] at hb

end Ro.Kernel
