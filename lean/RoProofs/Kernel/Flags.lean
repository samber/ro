/-
  RoProofs.Kernel.Flags — syntactic observations on a control state ("holds lock l", "is about to
  call the destination", "the status CAS is still ahead", …) and the facts about how they evolve
  along `nextCtl` (`lfLock`, `lfArm`, …, `lf` for local fact: Boolean predicates on a control state
  and the outcome of its head statement). The programs are a fixed table, so each fact is finite: all
  of them are decided by the kernel in one pass over `reach`, and in one pass over the per-call sets
  `reachM` (RoProofs.Kernel.Reach), at the end of this file.
-/
import RoProofs.Kernel.Reach
import RoModel.Kernel.Preds
namespace Ro.Kernel

def orElse : Option Bool → Option Bool → Option Bool
  | some b, _ => some b
  | none, r => r

mutual
/-- the first thing a statement does to lock `l`: `some true` releases it, `some false` acquires it
    or returns -/
def firstOpS (l : Lck) : Stmt → Option Bool
  | .lock l' => if l' = l then some false else none
  | .unlock l' | .deferUnlock l' => if l' = l then some true else none
  | .tryLock l' a b => if l' = l then some false else orElse (firstOpL l a) (firstOpL l b)
  | .ifLoadEq _ _ a b | .ifFld _ _ a b | .ifCas _ _ _ a b | .ifNil _ a b => orElse (firstOpL l a) (firstOpL l b)
  | .ret | .retLoad _ _ _ | .retFld _ => some false
  | _ => none
def firstOpL (l : Lck) : List Stmt → Option Bool
  | [] => none
  | s :: r => orElse (firstOpS l s) (firstOpL l r)
end

/-- the thread holds `l`: some frame will release it (explicitly or by a deferred unlock) before
    acquiring it or returning -/
def Ctl.holds (l : Lck) (c : Ctl) : Bool :=
  c.stack.any fun fr => fr.defers.contains l || firstOpL l fr.body == some true

def Lck.other : Lck → Lck
  | .mu => .subMu
  | .subMu => .mu

/-- the lock the head statement releases -/
def Head.releases : Head → Option Lck
  | .stmt (.unlock l) | .runDefer l => some l
  | _ => none

/-- the lock the head statement takes when its outcome is `b` -/
def Head.acquires (b : Bool) : Head → Option Lck
  | .stmt (.lock l) => some l
  | .stmt (.tryLock l _ _) => if b then some l else none
  | _ => none

/-- how `holds` changes along one transition with outcome `b` -/
def lfLock (b : Bool) (c : Ctl) : Bool :=
  let c' := nextCtl P c b
  match c.head.releases, c.head.acquires b with
  | some l, _ => c.holds l && !c'.holds l && c'.holds l.other == c.holds l.other
  | none, some l => !c.holds l && c'.holds l && c'.holds l.other == c.holds l.other
  | none, none => c'.holds .mu == c.holds .mu && c'.holds .subMu == c.holds .subMu

theorem entry_holds (c : ApiCall) (l : Lck) : (Ctl.entry P c).holds l = false := by
  have := entry_fact (Q := fun c => !c.holds .mu && !c.holds .subMu) (by decide) c
  cases l <;> simp_all

/-! ### about to call the destination -/

/-- the status test of this critical section has succeeded and the call of the destination is
    next (possibly behind the `destination != nil` test): the kind that will be delivered -/
def Ctl.armed (c : Ctl) : Option Kind :=
  if c.inside then none else
  match c.head with
  | .stmt (.callDest k) => some k
  | .stmt (.ifNil .destination _ (.callDest k :: _)) => some k
  | _ => none

theorem entry_armed (c : ApiCall) : (Ctl.entry P c).armed = none := by
  have := entry_fact (Q := fun c => c.armed.isNone && !c.inside) (by decide) c
  simp at this
  exact this.1

theorem entry_inside (c : ApiCall) : (Ctl.entry P c).inside = false := rfl

/-- whoever is inside a callback, or armed, holds `mu` -/
def lfArmedHolds (c : Ctl) : Bool := !(c.inside || c.armed.isSome) || c.holds .mu

/-- a thread becomes armed only by a successful test of `status` against 0 (a load for a value, a
    CAS to a non-zero status for a terminal), and stays armed for the same kind -/
def lfArm (b : Bool) (c : Ctl) : Bool :=
  let c' := nextCtl P c b
  match c'.armed, c.armed with
  | some k, none =>
    (match c.head with
     | .stmt (.ifLoadEq .status 0 _ _) => b && k == .next
     | .stmt (.ifCas .status 0 v _ _) => b && v != 0 && k.isTerminal
     | _ => false)
  | some k, some k' => k == k'
  | none, _ => true

/-- every CAS in the programs is `status: 0 → non-zero` -/
def lfCas (c : Ctl) : Bool :=
  match c.head with
  | .stmt (.ifCas f a v _ _) => f == .status && a == 0 && v != 0
  | _ => true

/-- `inside` is set by callback-begin, cleared by callback-end, untouched otherwise -/
def lfInside (b : Bool) (c : Ctl) : Bool :=
  let c' := nextCtl P c b
  match c.head with
  | .stmt (.callDest _) => c'.inside == !c.inside
  | _ => c'.inside == c.inside

/-! ### return, closing calls, Wait -/

def Head.isFinish : Head → Bool
  | .finish => true
  | _ => false

/-- the last frame's exhaustion leads to the idle state -/
def lfFinish (b : Bool) (c : Ctl) : Bool := !c.head.isFinish || (nextCtl P c b).beq Ctl.idle

/-- a call's stack empties only when its last frame is exhausted -/
def lfNonEmpty (b : Bool) (c : Ctl) : Bool :=
  !(nextCtl P c b).stack.isEmpty || c.head.isFinish || c.stack.isEmpty

def Stmt.isStatusCas : Stmt → Bool
  | .ifCas .status _ _ _ _ => true
  | _ => false

/-- the CAS on `status` of this call is still ahead (top level of some frame) -/
def Ctl.beforeCas (c : Ctl) : Bool := c.stack.any fun fr => fr.body.any Stmt.isStatusCas

def lfBeforeCas (b : Bool) (c : Ctl) : Bool :=
  (!(c.beforeCas && !(nextCtl P c b).beforeCas) || (match c.head with | .stmt s => s.isStatusCas | _ => false))
  && (!c.head.isFinish || !c.beforeCas)

/-- a terminal is handed to the drop hook only after the status CAS of its call -/
def lfTermDrop (c : Ctl) : Bool :=
  match c.head with
  | .stmt (.drop k) => !(k.isTerminal && c.beforeCas)
  | _ => true

theorem entry_beforeCas (c : ApiCall) (h : c.closes = true) : (Ctl.entry P c).beforeCas = true := by
  cases c <;> simp [ApiCall.closes] at h
  · -- `Ctl.entry` looks only at `c.entry`, so the state is that of payload 0 by `rfl`, and the goal is closed
    show (Ctl.entry P (.error 0)).beforeCas = true
    decide
  · decide
  · decide

def Stmt.isRecv : Stmt → Bool
  | .recv => true
  | _ => false

/-- Wait has not received yet and is not unwinding -/
def Ctl.waitOpen (c : Ctl) : Bool := !c.panicking && c.stack.any fun fr => fr.body.any Stmt.isRecv

theorem entry_waitOpen (f : FinId) : (Ctl.entry P (.wait f)).waitOpen = true := by
  show (Ctl.entry P (.wait 0)).waitOpen = true
  decide

/-- at these points `done` is known to be true: after `setDone`, and in the then-branch of `if s.done` in Add -/
def Ctl.doneKnown (c : Ctl) : Bool :=
  match c.head with
  | .stmt (.ifFld .finalizers _ _ _) | .stmt .swapFinalizers | .stmt .runNow => true
  | _ => false

def lfDoneKnown (b : Bool) (c : Ctl) : Bool :=
  !(nextCtl P c b).doneKnown || c.doneKnown ||
    (match c.head with | .stmt .setDone => true | .stmt (.ifFld .done 1 _ _) => b | _ => false)

/-! ### teardown -/

mutual
def mentionsAddS : Stmt → Bool
  | .appendFinalizer | .runNow | .callSelf .snAdd => true
  | .tryLock _ a b | .ifLoadEq _ _ a b | .ifFld _ _ a b | .ifCas _ _ _ a b | .ifNil _ a b => mentionsAddL a || mentionsAddL b
  | _ => false
def mentionsAddL : List Stmt → Bool
  | [] => false
  | .ret :: _ => false
  | s :: r => mentionsAddS s || mentionsAddL r
end

/-- the finalizer handed to this Add / Wait call has not been stored or run yet -/
def Ctl.unconsumed (c : Ctl) : Bool := !c.panicking && c.stack.any fun fr => mentionsAddL fr.body

theorem entry_unconsumed (c : ApiCall) (h : ∃ f, c = .add f ∨ c = .wait f) : (Ctl.entry P c).unconsumed = true := by
  obtain ⟨f, rfl | rfl⟩ := h
  · show (Ctl.entry P (.add 0)).unconsumed = true; decide
  · show (Ctl.entry P (.wait 0)).unconsumed = true; decide

def Head.isStore : Head → Bool
  | .stmt .appendFinalizer | .stmt .runNow => true
  | _ => false

def lfPend (b : Bool) (c : Ctl) : Bool :=
  (if c.head.isStore then c.unconsumed && !(nextCtl P c b).unconsumed
   else !(nextCtl P c b).unconsumed || c.unconsumed)
  && (!c.head.isFinish || !c.unconsumed)

def Head.isNilTeardown : Head → Bool
  | .stmt (.ifNil .teardown _ _) => true
  | _ => false

theorem Head.exists_of_isNilTeardown {h : Head} (hd : h.isNilTeardown = true) : ∃ x y, h = .stmt (.ifNil .teardown x y) := by
  unfold Head.isNilTeardown at hd
  split at hd
  · exact ⟨_, _, rfl⟩
  · cases hd

/-- the teardown of an Add / Wait call stops being pending only by being stored or run -/
def lfConsume (b : Bool) (c : Ctl) : Bool :=
  !(c.unconsumed && !(nextCtl P c b).unconsumed) || c.head.isStore || (c.head.isNilTeardown && b)

def Stmt.isRunTaken : Stmt → Bool
  | .runTaken => true
  | _ => false
def Stmt.isSwap : Stmt → Bool
  | .swapFinalizers => true
  | _ => false

/-- between the swap and the end of the finalizer loop -/
def Ctl.afterSwap (c : Ctl) : Bool :=
  !c.panicking && (c.stack.any fun fr => fr.body.any Stmt.isRunTaken) && !(c.stack.any fun fr => fr.body.any Stmt.isSwap)

def lfAfterSwap (b : Bool) (c : Ctl) : Bool :=
  -- the swap enters the region; only the exhausted loop leaves it; inside, nothing blocks
  (match c.head with
   | .stmt .swapFinalizers => (nextCtl P c b).afterSwap && !c.afterSwap
   | .stmt .runTaken => c.afterSwap && (b || !(nextCtl P c b).afterSwap) && (!b || (nextCtl P c b).afterSwap)
   | .stmt (.unlock _) => (nextCtl P c b).afterSwap == c.afterSwap
   | .stmt .raiseJoined => !c.afterSwap
   | _ => !c.afterSwap && !(nextCtl P c b).afterSwap)

def Head.isRaise : Head → Bool
  | .stmt .raiseJoined => true
  | _ => false

/-- the joined panic is raised outside the finalizer loop region -/
def lfRaise (c : Ctl) : Bool := !c.head.isRaise || !c.afterSwap

/-- `setDone` has been executed, the swap (or the `len == 0` exit) not yet -/
def Ctl.owning (c : Ctl) : Bool :=
  match c.head with
  | .stmt (.ifFld .finalizers 0 _ _) | .stmt .swapFinalizers => true
  | _ => false

def lfOwning (b : Bool) (c : Ctl) : Bool :=
  (match c.head with
   | .stmt .setDone => (nextCtl P c b).owning
   | .stmt (.ifFld .finalizers 0 _ _) => b || (nextCtl P c b).owning
   | _ => true)
  && (match c.head with | .stmt (.ifFld .finalizers k _ _) => k == 0 | _ => true)

/-- the statements that touch the subscription's state are executed holding `subMu` -/
def lfSubHeld (c : Ctl) : Bool :=
  match c.head with
  | .stmt .setDone | .stmt .swapFinalizers | .stmt .appendFinalizer | .stmt .runNow
  | .stmt (.ifFld .done _ _ _) | .stmt (.ifFld .finalizers _ _ _) | .stmt (.retFld _) => c.holds .subMu
  | _ => true

def Head.isAppend : Head → Bool
  | .stmt .appendFinalizer => true
  | _ => false

def Head.isDoneTest : Head → Bool
  | .stmt (.ifFld .done 1 _ _) => true
  | _ => false

theorem Head.isAppend_iff {h : Head} : h.isAppend = true ↔ h = .stmt .appendFinalizer := by
  cases h with
  | stmt s => cases s <;> simp [Head.isAppend]
  | _ => simp [Head.isAppend]

theorem Head.exists_of_isDoneTest {h : Head} (hd : h.isDoneTest = true) : ∃ x y, h = .stmt (.ifFld .done 1 x y) := by
  unfold Head.isDoneTest at hd
  split at hd
  · exact ⟨_, _, rfl⟩
  · cases hd

/-- `appendFinalizer` is reached only from the else-branch of `if s.done` -/
def lfAppend (b : Bool) (c : Ctl) : Bool :=
  !(nextCtl P c b).head.isAppend || (c.head.isDoneTest && !b) || c.head.isAppend

/-- a call starts outside every region the teardown invariants talk about -/
def lfEntry (c : Ctl) : Bool :=
  !c.doneKnown && !c.owning && !c.afterSwap && (match c.head with | .stmt .appendFinalizer => false | _ => true)

theorem entry_tear (c : ApiCall) : lfEntry (Ctl.entry P c) = true := entry_fact (Q := lfEntry) (by decide) c

/-! ### who can call the destination at all -/

mutual
def mentionsDestS : Stmt → Bool
  | .callDest _ => true
  | .tryLock _ a b | .ifLoadEq _ _ a b | .ifFld _ _ a b | .ifCas _ _ _ a b | .ifNil _ a b => mentionsDestL a || mentionsDestL b
  | _ => false
def mentionsDestL : List Stmt → Bool
  | [] => false
  | s :: r => mentionsDestS s || mentionsDestL r
end

/-- some frame still contains a call of the destination -/
def Ctl.canDeliver (c : Ctl) : Bool := c.stack.any fun fr => mentionsDestL fr.body

def lfDeliver (b : Bool) (c : Ctl) : Bool :=
  (!(nextCtl P c b).canDeliver || c.canDeliver) && (!(c.inside || c.armed.isSome) || c.canDeliver)

theorem entry_canDeliver (c : ApiCall) (h : (Ctl.entry P c).canDeliver = true) : c.produces = true := by
  cases c with
  | next v => rfl
  | error e => rfl
  | complete => rfl
  | unsubscribe => exfalso; revert h; decide
  | isClosed => exfalso; revert h; decide
  | add f => exfalso; have : (Ctl.entry P (.add 0)).canDeliver = true := h; revert this; decide
  | wait f => exfalso; have : (Ctl.entry P (.wait 0)).canDeliver = true := h; revert this; decide

/-! ### the gate: on the way to `setDone` -/

def Stmt.isUnlockMu : Stmt → Bool
  | .unlock .mu => true
  | _ => false

/-- a status CAS or the unlock of `mu` is still ahead (top level of some frame) -/
def Ctl.gateAhead (c : Ctl) : Bool := c.stack.any fun fr => fr.body.any fun s => s.isStatusCas || s.isUnlockMu

mutual
def mentionsUnsubS : Stmt → Bool
  | .callSelf .subUnsubInner | .callSelf .snUnsubscribe | .setDone => true
  | .tryLock _ a b | .ifLoadEq _ _ a b | .ifFld _ _ a b | .ifCas _ _ _ a b | .ifNil _ a b => mentionsUnsubL a || mentionsUnsubL b
  | _ => false
def mentionsUnsubL : List Stmt → Bool
  | [] => false
  | s :: r => mentionsUnsubS s || mentionsUnsubL r
end

/-- `setDone` is still ahead of this thread -/
def Ctl.unsubAhead (c : Ctl) : Bool := c.stack.any fun fr => mentionsUnsubL fr.body

/-- the thread is on its way to `setDone` with no status test and no `mu` critical section in between:
    an Unsubscribe that won its CAS, or an Error / Complete that has released `mu` -/
def Ctl.pastGate (c : Ctl) : Bool := !c.gateAhead && c.unsubAhead

/-- the kind of the callback that is running or about to begin in this thread -/
def Ctl.pendingKind (c : Ctl) : Option Kind :=
  if c.inside then (match c.head with | .stmt (.callDest k) => some k | _ => none) else c.armed

/-- a terminal callback is running or about to begin -/
def Ctl.termPending (c : Ctl) : Bool :=
  match c.pendingKind with
  | some k => k.isTerminal
  | none => false

def Head.isSetDone : Head → Bool
  | .stmt .setDone => true
  | _ => false

def Head.isStatusCas : Head → Bool
  | .stmt s => s.isStatusCas
  | _ => false

def Head.isUnlockMu : Head → Bool
  | .stmt s => s.isUnlockMu
  | _ => false

def lfGate (b : Bool) (c : Ctl) : Bool :=
  let c' := nextCtl P c b
  -- `done` is set only past the gate
  (!c.head.isSetDone || c.pastGate) &&
  -- the gate is passed by winning a status CAS (Unsubscribe) or by unlocking `mu` (Error / Complete), not otherwise
  (!(c'.pastGate && !c.pastGate) || (c.head.isStatusCas && b) || c.head.isUnlockMu) &&
  -- never both: Error / Complete call the destination inside the `mu` section whose unlock is their gate; Unsubscribe calls nothing
  !(c.termPending && c.pastGate) &&
  -- a terminal callback becomes pending only by winning a status CAS: the status was 0 and is not afterwards
  (!(c'.termPending && !c.termPending) || (c.head.isStatusCas && b)) &&
  -- pending means inside or armed, hence holding `mu` (`lfArmedHolds`)
  (!c.termPending || c.inside || c.armed.isSome) &&
  -- `gateAhead` counts the status CAS: past the gate the call has done its own, hence `status ≠ 0`
  (!c.pastGate || !c.beforeCas) &&
  -- whoever unlocks `mu` holds it, so nobody else is pending at that moment
  (!c.head.isUnlockMu || c.holds .mu)

theorem entry_gate (c : ApiCall) : (Ctl.entry P c).pastGate = false ∧ (Ctl.entry P c).termPending = false := by
  have := entry_fact (Q := fun c => !c.pastGate && !c.termPending) (by decide) c
  simpa using this

/-! ### deadlock-freedom -/

/-- the statements at which a thread can be disabled -/
def Head.blocking : Head → Bool
  | .stmt (.lock _) | .stmt .recv | .idle => true
  | _ => false

/-- statements on which the interpreter is stuck for ever; none is reachable -/
def Head.stuck : Head → Bool
  | .stmt (.userCb _) | .stmt (.unknown _) => true
  | .stmt (.ifCas f _ _ _ _) => f != .status
  | _ => false

/-- whoever holds a lock is at a statement that is always enabled; nothing reachable is stuck;
    a thread about to lock `l` does not hold `l` -/
def lfLive (c : Ctl) : Bool :=
  (!(c.holds .mu || c.holds .subMu) || !c.head.blocking) && !c.head.stuck &&
  (match c.head with | .stmt (.lock l) => !c.holds l | _ => true)

/-! ### the facts, decided

Computing `reach` is the dear part of an evaluation and a single fact costs little beside it, so the
facts are listed and the kernel goes over `reach` once for all of them. -/

/-- the facts about a control state … -/
def stateFacts : List (Ctl → Bool) := [lfArmedHolds, lfCas, lfSubHeld, lfRaise, lfLive, lfTermDrop]

/-- … and about one transition, for either outcome of the head statement -/
def stepFacts : List (Bool → Ctl → Bool) :=
  [lfLock, lfArm, lfInside, lfFinish, lfBeforeCas, lfDoneKnown, lfPend, lfAfterSwap, lfOwning, lfAppend, lfDeliver,
   lfConsume, lfNonEmpty, lfGate]

theorem facts_decided :
    reach.all (fun c => stateFacts.all (fun Q => Q c) && stepFacts.all fun Q => Q true c && Q false c) = true := by
  decide +kernel

theorem state_fact {Q : Ctl → Bool} (hQ : Q ∈ stateFacts) {c : Ctl} (hc : c ∈ reach) : Q c = true :=
  List.all_eq_true.mp (Bool.and_eq_true_iff.mp (List.all_eq_true.mp facts_decided c hc)).1 Q hQ

theorem step_fact {Q : Bool → Ctl → Bool} (hQ : Q ∈ stepFacts) (b : Bool) {c : Ctl} (hc : c ∈ reach) : Q b c = true := by
  have := List.all_eq_true.mp (Bool.and_eq_true_iff.mp (List.all_eq_true.mp facts_decided c hc)).2 Q hQ
  rw [Bool.and_eq_true] at this
  cases b
  · exact this.2
  · exact this.1

variable {c : Ctl} (hc : c ∈ reach) (b : Bool)
include hc
theorem lfArmedHolds_ok : lfArmedHolds c = true := state_fact (by simp [stateFacts]) hc
theorem lfCas_ok : lfCas c = true := state_fact (by simp [stateFacts]) hc
theorem lfSubHeld_ok : lfSubHeld c = true := state_fact (by simp [stateFacts]) hc
theorem lfRaise_ok : lfRaise c = true := state_fact (by simp [stateFacts]) hc
theorem lfLive_ok : lfLive c = true := state_fact (by simp [stateFacts]) hc
theorem lfTermDrop_ok : lfTermDrop c = true := state_fact (by simp [stateFacts]) hc
theorem lfLock_ok : lfLock b c = true := step_fact (by simp [stepFacts]) b hc
theorem lfArm_ok : lfArm b c = true := step_fact (by simp [stepFacts]) b hc
theorem lfInside_ok : lfInside b c = true := step_fact (by simp [stepFacts]) b hc
theorem lfFinish_ok : lfFinish b c = true := step_fact (by simp [stepFacts]) b hc
theorem lfBeforeCas_ok : lfBeforeCas b c = true := step_fact (by simp [stepFacts]) b hc
theorem lfDoneKnown_ok : lfDoneKnown b c = true := step_fact (by simp [stepFacts]) b hc
theorem lfPend_ok : lfPend b c = true := step_fact (by simp [stepFacts]) b hc
theorem lfAfterSwap_ok : lfAfterSwap b c = true := step_fact (by simp [stepFacts]) b hc
theorem lfOwning_ok : lfOwning b c = true := step_fact (by simp [stepFacts]) b hc
theorem lfAppend_ok : lfAppend b c = true := step_fact (by simp [stepFacts]) b hc
theorem lfDeliver_ok : lfDeliver b c = true := step_fact (by simp [stepFacts]) b hc
theorem lfConsume_ok : lfConsume b c = true := step_fact (by simp [stepFacts]) b hc
theorem lfNonEmpty_ok : lfNonEmpty b c = true := step_fact (by simp [stepFacts]) b hc
theorem lfGate_ok : lfGate b c = true := step_fact (by simp [stepFacts]) b hc
omit hc

/-! ### what distinguishes the calls -/

/-- Wait stops waiting only by receiving, or by a panic of its own finalizer run on the spot; it does not return waiting -/
def lfWait (b : Bool) (c : Ctl) : Bool :=
  (!(c.waitOpen && !(nextCtl P c b).waitOpen) ||
    (match c.head with | .stmt .recv => true | .stmt .runNow => b | _ => false))
  && (!c.head.isFinish || !c.waitOpen)

/-- IsClosed: one atomic load, then return; never unwinding -/
def lfIsClosed (b : Bool) (c : Ctl) : Bool :=
  !c.panicking &&
  (match c.head with
   | .stmt (.retLoad .status .ne 0) => (nextCtl P c b).head.isFinish
   | .finish | .idle => true
   | _ => false)

/-- only Add and Wait calls store or run a teardown of their own, and only Wait receives -/
def lfNoAdd (c : Ctl) : Bool :=
  match c.head with
  | .stmt .appendFinalizer | .stmt .runNow | .stmt .recv => false
  | _ => true

def lfNoRecv (c : Ctl) : Bool :=
  match c.head with
  | .stmt .recv => false
  | _ => true

def lfNoTermDrop (c : Ctl) : Bool :=
  match c.head with
  | .stmt (.drop k) => !k.isTerminal
  | _ => true

/-- per entry method: the facts about Wait and IsClosed; only Add and Wait store or run a teardown of their own, and
    only Wait receives; only Unsubscribe / Error / Complete get past the gate; only Error / Complete hand a terminal
    to the drop hook -/
def lfCall (m : Meth) (b : Bool) (c : Ctl) : Bool :=
  match m with
  | .snWait => lfWait b c && !c.pastGate && lfNoTermDrop c
  | .snAdd => lfNoRecv c && !c.pastGate && lfNoTermDrop c
  | .subIsClosed => lfIsClosed b c && lfNoAdd c && !c.pastGate && lfNoTermDrop c
  | .subNext => lfNoAdd c && !c.pastGate && lfNoTermDrop c
  | .subUnsubscribe => lfNoAdd c && lfNoTermDrop c
  | _ => lfNoAdd c

theorem lfCall_decided : entryMeths.all (fun m => (reachM m).all fun c => lfCall m true c && lfCall m false c) = true := by
  decide +kernel

theorem lfCall_ok (a : ApiCall) {c : Ctl} (hc : c ∈ reachM a.entry) : lfCall a.entry b c = true := by
  have := List.all_eq_true.mp (List.all_eq_true.mp lfCall_decided _ (entry_meth_mem a)) c hc
  rw [Bool.and_eq_true] at this
  cases b
  · exact this.2
  · exact this.1

end Ro.Kernel
