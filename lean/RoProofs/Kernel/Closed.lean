/-
  RoProofs.Kernel.Closed — C06 for the expected programs: `status` is monotone; once a closing call
  (Unsubscribe, Error, Complete) has returned, `status ≠ 0`; from then on a thread that is not
  already past its status test never reaches callback-begin, and IsClosed answers true.
-/
import RoProofs.Kernel.Grammar
namespace Ro.Kernel

def Ev.tid : Ev → Tid
  | .call t _ | .ret t _ _ | .cbBegin t _ _ | .cbEnd t _ _ | .drop t _ _ | .finRun t _ | .appended t _ | .raised t _ => t

def Ev.isCall : Ev → Bool
  | .call _ _ => true
  | _ => false

def Ev.isRet : Ev → Bool
  | .ret _ _ _ => true
  | _ => false

theorem Ev.closingRet_of_not_ret {e : Ev} (h : e.isRet = false) : (match e with | .ret _ c _ => c.closes | _ => false) = false := by
  cases e <;> simp [Ev.isRet] at h ⊢

def Ev.closingRet : Ev → Bool
  | .ret _ c _ => c.closes
  | _ => false

theorem Ev.closingRet_eq_false {e : Ev} (h : e.isRet = false) : e.closingRet = false := by
  cases e <;> first | rfl | cases h

/-- a closing call has returned -/
def closedLog (log : List Ev) : Bool := log.any Ev.closingRet

/-- the log grows by at most one event, of the stepping thread; `cur` changes only when the call returns -/
theorem eff_log {sh sh' : Shared} {t : Tid} {th th0 : Thread} {hd : Head} {b : Bool}
    (h : Eff sh t th hd b sh' th0) :
    (sh'.log = sh.log ∧ th0.cur = th.cur) ∨
    (∃ e, sh'.log = sh.log ++ [e] ∧ e.tid = t ∧ th0.cur = th.cur ∧ (e.isRet = false ∧ e.isCall = false) ∧
        (e.isBegin = true → ∃ k, hd = .stmt (.callDest k) ∧ th.ctl.inside = false)) ∨
    (∃ c, hd = .finish ∧ th.cur = some c ∧ th0.cur = none ∧
        sh'.log = sh.log ++ [.ret t c (if th.ctl.panicking then .panicked else th.result)] ∧ sh'.status = sh.status) := by
  obtain h | h := h
  · exact Or.inl ⟨by rw [h.frame.1], by rw [h.frame.2]⟩
  · cases h
    case finishCall c hc => exact Or.inr (Or.inr ⟨c, rfl, hc, rfl, rfl, rfl⟩)
    case cbBegin k hi => exact Or.inr (Or.inl ⟨_, rfl, rfl, rfl, ⟨rfl, rfl⟩, fun _ => ⟨k, rfl, hi⟩⟩)
    case casOk | setDone | swap => exact Or.inl ⟨rfl, rfl⟩
    all_goals exact Or.inr (Or.inl ⟨_, rfl, rfl, rfl, ⟨rfl, rfl⟩, nofun⟩)

theorem status_mono {s s' : St} {t : Tid} (hl : LockInv s) (h : step P s t = some s') (hs : s.sh.status ≠ 0) :
    s'.sh.status = s.sh.status := by
  obtain ⟨th, hth, hcase⟩ := step_cases h
  rcases hcase with ⟨_, c, cs, _, rfl⟩ | ⟨_, b, sh', th0, hE, rfl⟩
  · rfl
  · rcases eff_status hE with hst | ⟨a, v, x, y, hk, hsa, hsv, _, _⟩
    · exact hst
    · have hlc := lfCas_ok (hl.inReach t th hth)
      unfold lfCas at hlc
      rw [hk] at hlc
      simp only [beq_self_eq_true, Bool.true_and, Bool.and_eq_true, beq_iff_eq, bne_iff_ne] at hlc
      exact absurd (hsa.trans hlc.1) hs

structure ClosedInv (s : St) : Prop where
  idle : ∀ (t : Tid) (th : Thread), s.threads[t]? = some th → th.cur = none → th.ctl = Ctl.idle
  busy : ∀ (t : Tid) (th : Thread) (c : ApiCall), s.threads[t]? = some th → th.cur = some c → th.ctl ∈ reachM c.entry
  past : ∀ (t : Tid) (th : Thread) (c : ApiCall), s.threads[t]? = some th → th.cur = some c → c.closes = true →
            th.ctl.beforeCas = false → s.sh.status ≠ 0
  closed : closedLog s.sh.log = true → s.sh.status ≠ 0

theorem ClosedInv.init (mode : Mode) (destNil : Bool) (panicky : List FinId) (scripts : List (List ApiCall)) :
    ClosedInv (init mode destNil panicky scripts) := by
  constructor
  · intro t th h _
    obtain ⟨sc, _, rfl⟩ := init_threads h
    rfl
  · intro t th c h hc
    obtain ⟨sc, _, rfl⟩ := init_threads h
    simp at hc
  · intro t th c h hc
    obtain ⟨sc, _, rfl⟩ := init_threads h
    simp at hc
  · nofun

theorem closedLog_append (l : List Ev) (e : Ev) : closedLog (l ++ [e]) = (closedLog l || e.closingRet) := by
  simp [closedLog]

theorem statusCas_head {hd : Head} (h : (match hd with | .stmt s => s.isStatusCas | _ => false) = true) :
    ∃ a v x y, hd = .stmt (.ifCas .status a v x y) := by
  cases hd with
  | stmt s =>
    cases s with
    | ifCas f a v x y => cases f <;> first | exact ⟨a, v, x, y, rfl⟩ | cases h
    | _ => cases h
  | _ => cases h

theorem ClosedInv.step {s s' : St} {t : Tid} (hl : LockInv s) (hi : ClosedInv s) (h : step P s t = some s') :
    ClosedInv s' := by
  have hmono := fun hs => status_mono hl h hs
  obtain ⟨th, hth, hcase⟩ := step_cases h
  have hr := hl.inReach t th hth
  rcases hcase with ⟨hidle, c, cs, hsc, rfl⟩ | ⟨hne, b, sh', th0, hE, rfl⟩
  · constructor
    · exact threads_set_forall hth hi.idle fun hc => by simp at hc
    · intro u thu c' hu hc
      rcases threads_after hth hu with ⟨rfl, rfl⟩ | ⟨_, hu'⟩
      · simp only [Option.some.injEq] at hc
        subst hc
        exact reachM_entry c
      · exact hi.busy u thu c' hu' hc
    · intro u thu c' hu hc hcl hb
      rcases threads_after hth hu with ⟨rfl, rfl⟩ | ⟨_, hu'⟩
      · simp only [Option.some.injEq] at hc
        subst hc
        rw [show ({ th with ctl := Ctl.entry P c, cur := some c, script := cs } : Thread).ctl = Ctl.entry P c from rfl,
          entry_beforeCas c hcl] at hb
        simp at hb
      · exact hi.past u thu c' hu' hc hcl hb
    · intro hc
      rw [show (s.sh.emit (.call t c)).log = s.sh.log ++ [.call t c] from rfl, closedLog_append] at hc
      simp only [Ev.closingRet, Bool.or_false] at hc
      exact hi.closed hc
  · have hctl : ({ th0 with ctl := nextCtl P th.ctl b } : Thread).ctl = nextCtl P th.ctl b := rfl
    have hcur' : ({ th0 with ctl := nextCtl P th.ctl b } : Thread).cur = th0.cur := rfl
    have hstack : th.ctl ≠ Ctl.idle := by
      intro hh; rw [hh] at hne; exact hne rfl
    obtain ⟨c, hcur⟩ : ∃ c, th.cur = some c := by
      cases hc : th.cur with
      | none => exact absurd (hi.idle t th hth hc) hstack
      | some c => exact ⟨c, rfl⟩
    have hrm' : nextCtl P th.ctl b ∈ reachM c.entry := reachM_next (entry_meth_mem c) (hi.busy t th c hth hcur) b
    have hstat : s.sh.status ≠ 0 → sh'.status ≠ 0 := fun hs => by rw [hmono hs]; exact hs
    -- the call continues: `t` stays in it, and no closing call has returned in this step
    have hcont : th0.cur = th.cur → closedLog sh'.log = closedLog s.sh.log →
        ClosedInv ⟨sh', s.threads.set t { th0 with ctl := nextCtl P th.ctl b }⟩ := by
      intro h1 hcl
      have hc0 : ({ th0 with ctl := nextCtl P th.ctl b } : Thread).cur = some c := h1.trans hcur
      refine ⟨threads_set_forall hth hi.idle fun hc => ?_, ?_, ?_, fun hc => hstat (hi.closed (hcl ▸ hc))⟩
      · cases hc0.symm.trans hc
      · intro u thu c' hu hc
        rcases threads_after hth hu with ⟨rfl, rfl⟩ | ⟨_, hu'⟩
        · cases hc0.symm.trans hc; exact hrm'
        · exact hi.busy u thu c' hu' hc
      · intro u thu c' hu hc hcl hb
        rcases threads_after hth hu with ⟨rfl, rfl⟩ | ⟨_, hu'⟩
        · cases hc0.symm.trans hc
          rw [hctl] at hb
          cases hbc : th.ctl.beforeCas with
          | false => exact hstat (hi.past u th c hth hcur hcl hbc)
          | true =>
            have hlb := lfBeforeCas_ok hr b
            simp only [lfBeforeCas, hbc, hb, Bool.not_false, Bool.and_self, Bool.not_true, Bool.false_or,
              Bool.and_eq_true] at hlb
            obtain ⟨a, v, x, y, hh⟩ := statusCas_head hlb.1
            have hlc := lfCas_ok hr
            rw [lfCas, hh] at hlc
            rw [hh] at hE
            simp only [beq_self_eq_true, Bool.true_and, Bool.and_eq_true, beq_iff_eq, bne_iff_ne] at hlc
            obtain ⟨rfl, hv⟩ := hlc
            rcases eff_cas hE with ⟨_, _, hsv⟩ | ⟨_, hsa, hsv⟩
            · exact hsv ▸ hv
            · exact hsv ▸ hsa
        · exact hstat (hi.past u thu c' hu' hc hcl hb)
    rcases eff_log hE with ⟨h1, h2⟩ | ⟨e, h1, _, h2, h3, _⟩ | ⟨c', hf, hc', h2, h1, hs⟩
    · exact hcont h2 (by rw [h1])
    · exact hcont h2 (by rw [h1, closedLog_append, Ev.closingRet_eq_false h3.1, Bool.or_false])
    · -- the call returns: `t` is idle again
      have hlb := lfBeforeCas_ok hr b
      simp only [lfBeforeCas, hf, Head.isFinish, Bool.not_true, Bool.false_or, Bool.and_eq_true,
        Bool.not_eq_true'] at hlb
      refine ⟨threads_set_forall hth hi.idle fun _ => ?_, ?_, ?_, fun hc => ?_⟩
      · have := lfFinish_ok hr b
        simp only [lfFinish, hf, Head.isFinish, Bool.not_true, Bool.false_or] at this
        exact Ctl.beq_eq this
      · intro u thu c'' hu hc
        rcases threads_after hth hu with ⟨rfl, rfl⟩ | ⟨_, hu'⟩
        · rw [hcur', h2] at hc; cases hc
        · exact hi.busy u thu c'' hu' hc
      · intro u thu c'' hu hc hcl hb
        rcases threads_after hth hu with ⟨rfl, rfl⟩ | ⟨_, hu'⟩
        · rw [hcur', h2] at hc; cases hc
        · exact hstat (hi.past u thu c'' hu' hc hcl hb)
      · rw [h1, closedLog_append, Bool.or_eq_true] at hc
        rw [hs]
        exact hc.elim hi.closed fun hc => hi.past t th c' hth hc' hc hlb.2

/-! ### after the close: a thread that has not yet passed its status test stays silent -/

theorem head_idle_stack {c : Ctl} (h : c.head = .idle) : c.stack = [] := by
  unfold Ctl.head at h
  split at h
  · assumption
  · split at h <;> (try split at h) <;> (try split at h) <;> simp at h

/-- `status` is non-zero, the thread is not armed, and an IsClosed call of the thread that is past
    its load has read `true` -/
structure After (sh : Shared) (th : Thread) : Prop where
  closed : sh.status ≠ 0
  quiet : th.ctl.armed = none
  isClosed : th.cur = some .isClosed → th.ctl.head = .stmt (.retLoad .status .ne 0) ∨ th.result = .bool true

/-- what the events of one step may be, for a thread that is `After` -/
def EvOk (u : Tid) (e : Ev) : Prop :=
  ¬(e.isBegin = true ∧ e.tid = u) ∧ (∀ r, e = .ret u .isClosed r → r = .bool true)

theorem after_self {s : St} {u : Tid} {th th' : Thread} {sh' : Shared} (hl : LockInv s) (hc : ClosedInv s)
    (hth : s.threads[u]? = some th) (ha : After s.sh th) (hst : stepT P s.sh u th = some (sh', th'))
    (hmono : sh'.status = s.sh.status) :
    After sh' th' ∧ ∃ evs, sh'.log = s.sh.log ++ evs ∧ ∀ e ∈ evs, EvOk u e := by
  have hr := hl.inReach u th hth
  have hstat : sh'.status ≠ 0 := by rw [hmono]; exact ha.closed
  rcases stepT_cases hst with ⟨hidle, c, cs, hsc, rfl, rfl⟩ | ⟨hne, b, th0, he, rfl⟩
  · refine ⟨⟨ha.closed, entry_armed c, ?_⟩, [.call u c], rfl, ?_⟩
    · intro hc'
      simp only [Option.some.injEq] at hc'
      subst hc'
      left; rfl
    · exact List.forall_mem_singleton.2 ⟨by simp [Ev.isBegin], by intro r hr; cases hr⟩
  · have hE := effect_inv he
    have hla := lfArm_ok hr b
    have hquiet : (nextCtl P th.ctl b).armed = none := by
      cases hn : (nextCtl P th.ctl b).armed with
      | none => rfl
      | some k =>
        exfalso
        unfold lfArm at hla
        simp only [hn, ha.quiet] at hla
        split at hla
        · rename_i x y hh
          rw [hh] at hE
          have := eff_loadEq hE
          simp only [Bool.and_eq_true] at hla
          rw [hla.1] at this
          simp [Shared.fld] at this
          exact ha.closed this
        · rename_i v x y hh
          rw [hh] at hE
          rcases eff_cas hE with ⟨_, hsa, _⟩ | ⟨rfl, _⟩
          · exact ha.closed hsa
          · simp at hla
        · simp at hla
    -- facts about an IsClosed call of this thread
    have hic : th.cur = some .isClosed →
        th.ctl.panicking = false ∧
        ((th.ctl.head = .stmt (.retLoad .status .ne 0) ∧ th0.result = .bool true ∧ th0.cur = th.cur) ∨
         (th.ctl.head = .finish ∧ th.result = .bool true)) := by
      intro hcur
      have hli := lfCall_ok b _ (hc.busy u th _ hth hcur)
      simp only [lfCall, ApiCall.entry, lfIsClosed, Bool.and_eq_true, Bool.not_eq_true'] at hli
      obtain ⟨⟨⟨⟨hp, hli⟩, _⟩, _⟩, _⟩ := hli
      refine ⟨hp, ?_⟩
      split at hli
      · rename_i hh
        left
        rw [hh] at hE
        obtain hE | hE := hE <;> cases hE
        exact ⟨hh, by simp [Cmp.eval, Shared.fld, ha.closed], rfl⟩
      · rename_i hh
        right
        rcases ha.isClosed hcur with h1 | h1
        · rw [hh] at h1; cases h1
        · exact ⟨hh, h1⟩
      · rename_i hh
        exact absurd (head_idle_stack hh) hne
      · simp at hli
    have hcur' : ({ th0 with ctl := nextCtl P th.ctl b } : Thread).cur = th0.cur := rfl
    -- while the IsClosed call goes on (a return clears `cur`) its result is `true` once the load is behind
    have hgoes : th0.cur = th.cur → ({ th0 with ctl := nextCtl P th.ctl b } : Thread).cur = some .isClosed →
        th0.result = .bool true := by
      intro h2 hcur
      rw [hcur', h2] at hcur
      rcases (hic hcur).2 with ⟨_, hres, _⟩ | ⟨hf, _⟩
      · exact hres
      · rw [hf] at hE; obtain hE | hE := hE <;> cases hE <;> simp_all
    rcases eff_log hE with ⟨h1, h2⟩ | ⟨e, h1, h2, h3, h4, h5⟩ | ⟨c', hf, hc', h2, h1, _⟩
    · exact ⟨⟨hstat, hquiet, fun hcur => Or.inr (hgoes h2 hcur)⟩, [], by simp [h1], by simp⟩
    · refine ⟨⟨hstat, hquiet, fun hcur => Or.inr (hgoes h3 hcur)⟩, [e], h1, List.forall_mem_singleton.2 ⟨?_, ?_⟩⟩
      · rintro ⟨hb, _⟩
        obtain ⟨k, hk, hins⟩ := h5 hb
        have : th.ctl.armed = some k := by simp [Ctl.armed, hins, hk]
        rw [ha.quiet] at this; cases this
      · intro r hr; rw [hr] at h4; simp [Ev.isRet] at h4
    · refine ⟨⟨hstat, hquiet, ?_⟩, [_], h1, List.forall_mem_singleton.2 ⟨by simp [Ev.isBegin], ?_⟩⟩
      · intro hcur; rw [hcur', h2] at hcur; cases hcur
      · intro r' hr'
        simp only [Ev.ret.injEq, true_and] at hr'
        obtain ⟨rfl, rfl⟩ := hr'
        obtain ⟨hp, hd⟩ := hic hc'
        rcases hd with ⟨hh, _⟩ | ⟨_, hres⟩
        · rw [hf] at hh; cases hh
        · simp [hp, hres]

theorem after_step {s s' : St} {t u : Tid} {thu : Thread} (hl : LockInv s) (hc : ClosedInv s)
    (h : step P s t = some s') (hu : s.threads[u]? = some thu) (ha : After s.sh thu) :
    ∃ thu', s'.threads[u]? = some thu' ∧ After s'.sh thu' ∧
      ∃ evs, s'.sh.log = s.sh.log ++ evs ∧ ∀ e ∈ evs, EvOk u e := by
  have hmono := status_mono hl h ha.closed
  obtain ⟨th, sh', th', hth, hst, rfl⟩ := step_some h
  by_cases hut : u = t
  · subst hut
    rw [hth] at hu
    obtain rfl := Option.some.inj hu
    obtain ⟨h1, h2⟩ := after_self hl hc hth ha hst hmono
    exact ⟨th', threads_set_self hth, h1, h2⟩
  · refine ⟨thu, by rw [threads_set_other hut]; exact hu, ⟨by rw [show sh'.status = s.sh.status from hmono]; exact ha.closed, ha.quiet, ha.isClosed⟩, ?_⟩
    -- the events of another thread carry its id
    rcases stepT_cases hst with ⟨_, c, cs, _, rfl, rfl⟩ | ⟨_, b, th0, he, rfl⟩
    · exact ⟨[.call t c], rfl, List.forall_mem_singleton.2 ⟨by simp [Ev.isBegin], by intro r hr; cases hr⟩⟩
    · rcases eff_log (effect_inv he) with ⟨h1, _⟩ | ⟨e, h1, h2, _, _, _⟩ | ⟨c', _, _, _, h1, _⟩
      · exact ⟨[], by simp [h1], by simp⟩
      · refine ⟨[e], h1, List.forall_mem_singleton.2 ⟨fun ⟨_, h⟩ => hut (h.symm.trans h2), ?_⟩⟩
        intro r hr; rw [hr] at h2; exact absurd h2 hut
      · refine ⟨[_], h1, List.forall_mem_singleton.2 ⟨by simp [Ev.isBegin], ?_⟩⟩
        intro r hr
        simp only [Ev.ret.injEq] at hr
        exact absurd hr.1.symm hut

end Ro.Kernel
