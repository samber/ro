/-
  RoProofs.Kernel.Grammar — C01(b) for the expected programs: the callback-begin subsequence of the log
  is values, then at most one terminal, then nothing (`GramInv`), preserved by every step from a state in
  which at most one thread is inside a callback or armed (`Excl`, which is C02(a)). In safe /
  eventually-safe mode the lock invariant gives `Excl`; RoProofs.Kernel.Producer gives it for one producer.
-/
import RoProofs.Kernel.Locks
import RoModel.Kernel.Preds
namespace Ro.Kernel

theorem begins_append (l l' : List Ev) : begins (l ++ l') = begins l ++ begins l' := by
  induction l with
  | nil => rfl
  | cons x r ih =>
    cases x <;> try (rename_i k _; cases k)
    all_goals simp only [List.cons_append, begins, ih]

def Ev.isBegin : Ev → Bool
  | .cbBegin _ _ _ => true
  | _ => false

theorem begins_append_other (l : List Ev) (e : Ev) (h : e.isBegin = false) : begins (l ++ [e]) = begins l := by
  rw [begins_append]
  cases e <;> simp [begins, Ev.isBegin] at h ⊢

theorem eff_begins {sh sh' : Shared} {t : Tid} {th th0 : Thread} {hd : Head} {b : Bool}
    (h : Eff sh t th hd b sh' th0) :
    begins sh'.log = begins sh.log ∨
      ∃ k, hd = .stmt (.callDest k) ∧ th.ctl.inside = false ∧ sh'.log = sh.log ++ [.cbBegin t k th.x] ∧ sh'.status = sh.status := by
  obtain h | h := h
  · exact Or.inl (by rw [h.frame.1])
  · cases h
    case cbBegin k hi => exact Or.inr ⟨k, rfl, hi, rfl, rfl⟩
    all_goals first
      | exact Or.inl rfl
      | exact Or.inl (begins_append_other _ _ rfl)

theorem eff_status {sh sh' : Shared} {t : Tid} {th th0 : Thread} {hd : Head} {b : Bool}
    (h : Eff sh t th hd b sh' th0) :
    sh'.status = sh.status ∨
      ∃ a v x y, hd = .stmt (.ifCas .status a v x y) ∧ sh.status = a ∧ sh'.status = v ∧ b = true ∧ sh'.log = sh.log := by
  obtain h | h := h
  · exact Or.inl (by rw [h.frame.1])
  · cases h
    case casOk a v x y hs => exact Or.inr ⟨a, v, x, y, rfl, hs, rfl, rfl, rfl⟩
    all_goals exact Or.inl rfl

def termBegun (log : List Ev) : Bool := (begins log).any Notif.isTerminal

theorem grammar_snoc {α : Type} (l : List (Notif α)) (n : Notif α) (h : l.any Notif.isTerminal = false) :
    Grammar (l ++ [n]) := by
  induction l with
  | nil => simp [Grammar]
  | cons x r ih =>
    simp only [List.any_cons, Bool.or_eq_false_iff] at h
    simp [Grammar, h.1, ih h.2]

def Kind.toBegin (k : Kind) (x : Nat) : Notif Nat :=
  match k with
  | .next => .next {} x
  | .error => .error {} (.user x)
  | .complete => .complete {}

theorem begins_single (t : Tid) (k : Kind) (x : Nat) : begins [.cbBegin t k x] = [k.toBegin x] := by
  cases k <;> rfl

theorem toBegin_isTerminal (k : Kind) (x : Nat) : (k.toBegin x).isTerminal = k.isTerminal := by
  cases k <;> rfl

def Serial (sh : Shared) : Prop := sh.mode ≠ .unsafeMode

theorem Serial.noLock {sh : Shared} (h : Serial sh) (l : Lck) : sh.noLock l = false := by
  cases l <;> simp [Shared.noLock]
  exact h

structure GramInv (s : St) : Prop where
  term : termBegun s.sh.log = true → s.sh.status ≠ 0
  armed : ∀ (t : Tid) (th : Thread) (k : Kind), s.threads[t]? = some th → th.ctl.armed = some k →
            termBegun s.sh.log = false ∧ (k.isTerminal = true → s.sh.status ≠ 0)
  gram : Grammar (begins s.sh.log)

theorem GramInv.init (mode : Mode) (destNil : Bool) (panicky : List FinId) (scripts : List (List ApiCall)) :
    GramInv (init mode destNil panicky scripts) := by
  constructor
  · simp [Ro.Kernel.init, termBegun, begins]
  · intro t th k h ha
    obtain ⟨sc, _, rfl⟩ := init_threads h
    simp [Ctl.armed, Ctl.head] at ha
  · simp [Ro.Kernel.init, begins, Grammar]

/-- at most one thread is inside a callback or armed -/
def Excl (s : St) : Prop :=
  ∀ (t u : Tid) (th thu : Thread), s.threads[t]? = some th → s.threads[u]? = some thu →
    (th.ctl.inside || th.ctl.armed.isSome) = true → (thu.ctl.inside || thu.ctl.armed.isSome) = true → t = u

theorem LockInv.mu_unique {s : St} (hi : LockInv s) (hs : Serial s.sh) {t u : Tid} {th thu : Thread}
    (ht : s.threads[t]? = some th) (hu : s.threads[u]? = some thu)
    (h1 : th.ctl.holds .mu = true) (h2 : thu.ctl.holds .mu = true) : t = u := by
  have o1 := (hi.own .mu t th ht (hs.noLock _)).mp h1
  have o2 := (hi.own .mu u thu hu (hs.noLock _)).mp h2
  rw [o1] at o2
  exact Option.some.inj o2

/-- both threads hold `mu` -/
theorem LockInv.excl {s : St} (hi : LockInv s) (hs : Serial s.sh) : Excl s := by
  intro t u th thu ht hu h1 h2
  have a1 := lfArmedHolds_ok (hi.inReach t th ht)
  have a2 := lfArmedHolds_ok (hi.inReach u thu hu)
  simp only [lfArmedHolds, h1, h2, Bool.not_true, Bool.false_or] at a1 a2
  exact hi.mu_unique hs ht hu a1 a2

theorem GramInv.step {s s' : St} {t : Tid} (hl : LockInv s) (hex : Excl s) (hi : GramInv s)
    (h : step P s t = some s') : GramInv s' := by
  obtain ⟨th, hth, hcase⟩ := step_cases h
  have hr := hl.inReach t th hth
  rcases hcase with ⟨hidle, c, cs, hsc, rfl⟩ | ⟨hne, b, sh', th0, hE, rfl⟩
  · -- a new call: one `call` event, the thread is not armed
    have hb : begins (s.sh.emit (.call t c)).log = begins s.sh.log := begins_append_other _ _ rfl
    constructor
    · simp only [termBegun, hb]; exact hi.term
    · intro u thu k hu ha
      simp only [termBegun, hb]
      rcases threads_after hth hu with ⟨rfl, rfl⟩ | ⟨_, hu'⟩
      · simp [entry_armed] at ha
      · exact hi.armed u thu k hu' ha
    · simp only [hb]; exact hi.gram
  · have hla := lfArm_ok hr b
    have hlc := lfCas_ok hr
    -- the stepping thread afterwards
    have hctl : ({ th0 with ctl := nextCtl P th.ctl b } : Thread).ctl = nextCtl P th.ctl b := rfl
    rcases eff_begins hE with hb | ⟨k, hk, hins, hlog, hst⟩
    · rcases eff_status hE with hst | ⟨a, v, x, y, hk, hsa, hsv, hbt, hlog⟩
      · -- neither the begin-subsequence nor status changes
        constructor
        · simp only [termBegun, hb, hst]; exact hi.term
        · intro u thu k hu ha
          simp only [termBegun, hb, hst]
          rcases threads_after hth hu with ⟨rfl, rfl⟩ | ⟨_, hu'⟩
          · rw [hctl] at ha
            unfold lfArm at hla
            simp only [ha] at hla
            cases hca : th.ctl.armed with
            | some k' =>
              simp only [hca, beq_iff_eq] at hla
              subst hla
              exact hi.armed u th k hth hca
            | none =>
              simp only [hca] at hla
              split at hla
              · rename_i x y hh
                simp only [Bool.and_eq_true, beq_iff_eq] at hla
                rw [hh] at hE
                have := eff_loadEq hE
                rw [hla.1] at this
                simp [Shared.fld] at this
                obtain ⟨_, rfl⟩ := hla
                refine ⟨?_, by simp [Kind.isTerminal]⟩
                show termBegun s.sh.log = false
                cases htb : termBegun s.sh.log
                · rfl
                · exact absurd this (hi.term htb)
              · rename_i v x y hh
                rw [hh] at hE
                unfold lfCas at hlc
                rw [hh] at hlc
                simp only [beq_self_eq_true, Bool.true_and, bne_iff_ne] at hlc
                rcases eff_cas hE with ⟨_, hsa, hsv⟩ | ⟨rfl, _⟩
                · exact absurd (hsv.symm.trans (hst.trans hsa)) hlc
                · simp at hla
              · simp at hla
          · exact hi.armed u thu k hu' ha
        · simp only [hb]; exact hi.gram
      · -- a successful CAS on status: 0 → v with v ≠ 0
        unfold lfCas at hlc
        rw [hk] at hlc
        simp only [beq_self_eq_true, Bool.true_and, Bool.and_eq_true, beq_iff_eq, bne_iff_ne] at hlc
        obtain ⟨ha0, hv0⟩ := hlc
        subst ha0
        have hnt : termBegun s.sh.log = false := by
          cases htb : termBegun s.sh.log
          · rfl
          · exact absurd hsa (hi.term htb)
        constructor
        · simp only [termBegun, hlog]; intro h; simp [termBegun, h] at hnt
        · intro u thu k hu ha
          simp only [termBegun, hlog, hsv]
          exact ⟨hnt, fun _ => hv0⟩
        · simp only [hlog]; exact hi.gram
    · -- callback-begin of kind k by the armed thread t
      have harm : th.ctl.armed = some k := by simp [Ctl.armed, hins, hk]
      obtain ⟨hnt, hkt⟩ := hi.armed t th k hth harm
      have hb : begins sh'.log = begins s.sh.log ++ [k.toBegin th.x] := by
        rw [hlog, begins_append, begins_single]
      constructor
      · intro htb
        simp only [termBegun, hb, List.any_append, List.any_cons, List.any_nil, Bool.or_false, toBegin_isTerminal] at htb
        rw [hst]
        simp only [termBegun] at hnt
        simp only [hnt, Bool.false_or] at htb
        exact hkt htb
      · intro u thu k' hu ha
        rcases threads_after hth hu with ⟨rfl, rfl⟩ | ⟨hne', hu'⟩
        · -- t is now inside, not armed
          have hli := lfInside_ok hr b
          unfold lfInside at hli
          rw [hk] at hli
          simp only [hins, Bool.not_false, beq_iff_eq] at hli
          rw [hctl] at ha
          simp [Ctl.armed, hli] at ha
        · exfalso
          apply hne'
          refine (hex _ _ _ _ hth hu' ?_ ?_).symm
          · simp [harm]
          · simp [ha]
      · rw [hb]; exact grammar_snoc _ _ hnt

end Ro.Kernel
