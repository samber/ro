/-
  RoProofs.Kernel.Beq — `Stmt.beq` is sound: programs that compare equal are equal. (Used to turn
  the decided `beqTable RoGen.Kernel.table Expected.table = true` into an equation.)
-/
import RoModel.Kernel.Prog
namespace Ro.Kernel

/-- By the induction principle of `Stmt.beq` / `Stmt.beqL`: one case per equation of the definitions. In the
    two catch-all cases the comparison is `false`; in the others it is the conjunction of the comparisons of the
    arguments. -/
theorem Stmt.beq_sound :
    (∀ (a b : Stmt), Stmt.beq a b = true → a = b) ∧ (∀ (a b : List Stmt), Stmt.beqL a b = true → a = b) := by
  apply Stmt.beq.mutual_induct (motive_1 := fun a b => Stmt.beq a b = true → a = b)
    (motive_2 := fun a b => Stmt.beqL a b = true → a = b)
  case case24 => intros; rename_i h; rw [Stmt.beq.eq_24] at h <;> first | cases h | assumption
  case case27 => intros; rename_i h; rw [Stmt.beqL.eq_3] at h <;> first | cases h | assumption
  case case26 => intro x xs y ys ihx ihxs h; simp only [Stmt.beqL, Bool.and_eq_true] at h; rw [ihx h.1, ihxs h.2]
  case case4 | case8 =>
    intro l a b l' a' b' iha ihb h; simp only [Stmt.beq, Bool.and_eq_true, beq_iff_eq] at h
    rw [h.1.1, iha h.1.2, ihb h.2]
  case case5 | case6 =>
    intro f k a b f' k' a' b' iha ihb h; simp only [Stmt.beq, Bool.and_eq_true, beq_iff_eq] at h
    rw [h.1.1.1, h.1.1.2, iha h.1.2, ihb h.2]
  case case7 =>
    intro f x y a b f' x' y' a' b' iha ihb h; simp only [Stmt.beq, Bool.and_eq_true, beq_iff_eq] at h
    rw [h.1.1.1.1, h.1.1.1.2, h.1.1.2, iha h.1.2, ihb h.2]
  case case19 => intro f c k f' c' k' h; simp only [Stmt.beq, Bool.and_eq_true, beq_iff_eq] at h; rw [h.1.1, h.1.2, h.2]
  all_goals first
    | exact fun _ => rfl
    | (intro a b h; simp only [Stmt.beq, beq_iff_eq] at h; rw [h])

theorem Stmt.beq_eq : ∀ (a b : Stmt), Stmt.beq a b = true → a = b := Stmt.beq_sound.1

theorem Stmt.beqL_eq : ∀ (a b : List Stmt), Stmt.beqL a b = true → a = b := Stmt.beq_sound.2

theorem Stmt.beqTable_eq : ∀ (a b : List (Meth × Prog)), Stmt.beqTable a b = true → a = b
  | [], [], _ => rfl
  | (m, p) :: xs, (m', p') :: ys, h => by
      simp [Stmt.beqTable] at h
      obtain ⟨⟨h1, h2⟩, h3⟩ := h
      rw [h1, Stmt.beqL_eq _ _ h2, Stmt.beqTable_eq _ _ h3]
  | [], _ :: _, h => by simp [Stmt.beqTable] at h
  | _ :: _, [], h => by simp [Stmt.beqTable] at h

end Ro.Kernel
