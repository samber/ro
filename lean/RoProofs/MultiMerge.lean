/-
  RoProofs.MultiMerge — Merge / MergeWith* (`MergeAll()(Just(s₁…sₙ))`) over `n` hot sources: for every
  arrival order the output is the definition's (values in arrival order, first error ends, completion
  when all `n` sources have completed, with the subscriber's context).
-/
import RoProofs.MultiCore
namespace Ro.Multi
open Ro

/-- sources `1..n` are the merged observables (source 0 is `Just(...)`) -/
def inner (n : Nat) (k : Nat) : Bool := decide (1 ≤ k ∧ k ≤ n)

/-- the sources of `Merge(s₁…sₙ)` subscribed with context `sub`: the outer `Just` is synchronous and
    names the sources 1…n, which are hot -/
structure MergeCfg (n : Nat) (sub : Ctx) (cfg : Sources Int) : Prop where
  outerSync : cfg.sync 0 = true
  outer : cfg.script 0 = justScript sub n
  hot : ∀ k, 1 ≤ k → cfg.sync k = false

/-! ### the callbacks of the inner sources only call the destination -/

def mergeStep (s : MergeSt) (_ : Nat) (n : Notif Int) : MergeSt × List (Notif Int) :=
  match n with
  | .next c v => (s, [.next c v])
  | .error c e => (s, [.error c e])
  | .complete _ =>
    ({ s with count := s.count - 1 }, if s.count - 1 = 0 then [.complete s.parentCtx] else [])

def MergeSt.ok (n : Nat) (s : MergeSt) : Prop := s.comp.done = false ∧ ∀ k, 1 ≤ k → k ≤ n → k ∈ s.comp.members

theorem merge_emitOnly (n : Nat) (cfg : Sources Int) : EmitOnly mergeM cfg (MergeSt.ok n) (inner n) mergeStep where
  react := by
    intro rec r k x hk _
    obtain ⟨k, rfl⟩ : ∃ j, k = j + 1 := ⟨k - 1, by simp [inner] at hk; omega⟩
    cases x
    case complete =>
      simp only [mergeM, mergeAllM, mergeStep, phases, phase, emits, Nat.succ_ne_zero, if_false, MergeSt.onDone,
        List.foldl_cons, List.foldl_nil]
      split <;> simp [act]
    all_goals rfl
  inv := by
    intro s k x hk hI
    cases x <;> exact hI
  teardown := by
    intro s k hI hk
    simp only [inner, decide_eq_true_eq] at hk
    simp only [mergeM, mergeAllM, Comp.unsubscribe, hI.1]
    exact hI.2 k hk.1 hk.2

theorem merge_emits (g : List (MEvent Int)) (s : MergeSt) (live : Nat) (hc : s.count = Int.ofNat (live + 1)) :
    gate (emitsFrom mergeStep s g) = Spec.merge s.parentCtx (live + 1) g := by
  induction g generalizing s live with
  | nil => simp [emitsFrom, Spec.merge]
  | cons e es ih =>
    obtain ⟨k, x⟩ := e
    cases x with
    | next c v => simp [emitsFrom, mergeStep, Spec.merge, gate_cons_next, ih s live hc]
    | error c e => simp [emitsFrom, mergeStep, Spec.merge, gate_cons_error]
    | complete c =>
      cases live with
      | zero =>
        have : s.count - 1 = 0 := by rw [hc]; simp
        simp [emitsFrom, mergeStep, Spec.merge, this, gate_cons_complete]
      | succ l =>
        have hne : ¬ (s.count - 1 = 0) := by rw [hc]; simp; omega
        have := ih { s with count := s.count - 1 } l (by simp [hc])
        simp [emitsFrom, mergeStep, Spec.merge, hne, this]

/-! ### the subscribe function: `Just(s₁…sₙ)` plays inside `Subscribe` -/

structure MergeBoot (j : Nat) (r : MSt MergeSt Int Int) : Prop where
  count : r.st.count = 1 + Int.ofNat j
  done : r.st.comp.done = false
  mem : ∀ k, k ∈ r.st.comp.members ↔ (1 ≤ k ∧ k ≤ j)
  down : r.downOpen = true
  booted : r.booted = false
  out : r.out = []
  sopen : ∀ k, r.sopen k = decide (k < j + 1)
  subs : ∀ k, r.subs k = if k < j + 1 then 1 else 0

theorem merge_boot_loop (cfg : Sources Int) (hhot : ∀ k, 1 ≤ k → cfg.sync k = false) (rec) (sub : Ctx)
    (j : Nat) (r : MSt MergeSt Int Int) (h0 : MergeBoot 0 r) :
    MergeBoot j (((List.range j).map (fun i => Notif.next sub (Int.ofNat (i + 1)))).foldl
      (deliver mergeM (phases mergeM cfg rec) 0) r) := by
  induction j with
  | zero => simpa using h0
  | succ j ih =>
    rw [List.range_succ, List.map_append, List.foldl_append]
    generalize List.foldl (deliver mergeM (phases mergeM cfg rec) 0) r
      ((List.range j).map (fun i => Notif.next sub (Int.ofNat (i + 1)))) = r1 at ih ⊢
    have hop : r1.sopen 0 = true := by rw [ih.sopen]; simp
    have hs : cfg.sync (j + 1) = false := hhot _ (by omega)
    simp only [List.map_cons, List.map_nil, List.foldl_cons, List.foldl_nil, deliver, hop, if_true,
      Notif.isTerminal_next, Bool.false_eq_true, if_false]
    simp only [mergeM, mergeAllM, phases, phase, List.foldl_cons, List.foldl_nil, if_true, act, Int.toNat_natCast,
      Int.ofNat_eq_natCast, hs, Bool.false_eq_true, if_false, Comp.add, ih.done]
    refine ⟨?_, rfl, ?_, ih.down, ih.booted, ih.out, setAt_below ih.sopen, setAt_once ih.subs⟩
    · simp [ih.count]; omega
    · intro k; simp [ih.mem k]; omega

/-- the state when `Subscribe` returns, before any source has notified (`n ≥ 1`) -/
structure MergeReady (n : Nat) (sub : Ctx) (r : MSt MergeSt Int Int) : Prop where
  count : r.st.count = Int.ofNat n
  pctx : r.st.parentCtx = sub
  ok : MergeSt.ok n r.st
  down : r.downOpen = true
  booted : r.booted = true
  out : r.out = []
  sopen : ∀ k, r.sopen k = inner n k
  subs : ∀ k, r.subs k ≠ 0 ↔ k ≤ n

/-- the state right after `sources.SubscribeWithContext` has registered the outer subscriber -/
def mergeStart (sub : Ctx) : MSt MergeSt Int Int where
  st := mergeM.init
  subs := setAt (fun _ => 0) 0 1
  sopen := setAt (fun _ => false) 0 true
  sctx := setAt (fun _ => Ctx.bg) 0 sub

theorem merge_boot_unfold (cfg : Sources Int) (hs : cfg.sync 0 = true) (rec) (sub : Ctx) :
    phases mergeM cfg rec (mergeM.boot sub) { st := mergeM.init } =
      phase mergeM cfg rec ((cfg.script 0).foldl (deliver mergeM rec 0) (mergeStart sub))
        (fun s => ({ s with comp := (s.comp.add (β := Int) 0).1 }, (s.comp.add 0).2)) := by
  have hboot : mergeM.boot sub = [fun s => (s, [.sub 0 sub]),
      fun s => ({ s with comp := (s.comp.add (β := Int) 0).1 }, (s.comp.add 0).2)] := rfl
  simp only [hboot, phases, List.foldl_cons, List.foldl_nil]
  congr 1
  simp only [phase, List.foldl_cons, List.foldl_nil, act, hs, if_true]
  rfl

theorem merge_outer_complete (cfg : Sources Int) (rec) (sub : Ctx) (n : Nat) (hn : 1 ≤ n) (r2 : MSt MergeSt Int Int)
    (h : MergeBoot n r2) :
    deliver mergeM (phases mergeM cfg rec) 0 r2 (.complete sub) =
      { (r2.closeSrc 0) with st := { r2.st with parentCtx := sub, count := r2.st.count - 1 } } := by
  have hop : r2.sopen 0 = true := by rw [h.sopen]; simp
  have hne : ¬ (r2.st.count - 1 = 0) := by rw [h.count]; simp; omega
  simp [deliver, hop, mergeM, mergeAllM, phases, phase, MergeSt.onDone, hne]

theorem merge_boot (n : Nat) (hn : 1 ≤ n) (sub : Ctx) (cfg : Sources Int) (hc : MergeCfg n sub cfg) :
    MergeReady n sub (bootSt mergeM cfg sub) := by
  obtain ⟨rec', hrec⟩ := phasesAt_is_phases mergeM cfg cfg.n
  have h0 : MergeBoot 0 (mergeStart sub) :=
    ⟨rfl, rfl, fun k => by simp [mergeStart, mergeM, mergeAllM]; omega, rfl, rfl, rfl,
      fun k => by simp only [mergeStart, setAt]; by_cases hk : k = 0 <;> simp [hk],
      fun k => by simp only [mergeStart, setAt]; by_cases hk : k = 0 <;> simp [hk]⟩
  have hloop := merge_boot_loop cfg hc.hot rec' sub n _ h0
  unfold bootSt
  simp only [phasesAt_depth, merge_boot_unfold cfg hc.outerSync, hc.outer, justScript, List.foldl_append, hrec,
    List.foldl_cons, List.foldl_nil]
  generalize List.foldl (deliver mergeM (phases mergeM cfg rec') 0) (mergeStart sub) ((List.range n).map _) = r2 at hloop ⊢
  rw [merge_outer_complete cfg rec' sub n hn r2 hloop]
  simp only [phase, Comp.add, hloop.done, Bool.false_eq_true, if_false, List.foldl_nil, closeSrc_downOpen, hloop.down, if_true]
  refine ⟨?_, rfl, ⟨rfl, ?_⟩, rfl, rfl, hloop.out, ?_, ?_⟩
  · simp [hloop.count]; omega
  · intro k h1 h2; simp [(hloop.mem k).2 ⟨h1, h2⟩]
  · intro k; rw [closeSrc_sopen, hloop.sopen k, inner]
    by_cases hk : k = 0
    · simp [hk]
    · rw [if_neg hk]; exact decide_eq_decide.2 (by omega)
  · intro k; simp only [closeSrc_subs, hloop.subs k]; split <;> simp <;> omega

theorem merge_boot_zero (sub : Ctx) (cfg : Sources Int) (hc : MergeCfg 0 sub cfg) :
    (bootSt mergeM cfg sub).downOpen = false ∧ (bootSt mergeM cfg sub).out = [.complete sub] := by
  obtain ⟨rec', hrec⟩ := phasesAt_is_phases mergeM cfg cfg.n
  unfold bootSt
  simp only [phasesAt_depth, merge_boot_unfold cfg hc.outerSync, hc.outer, justScript, hrec]
  simp [deliver, mergeStart, mergeM, mergeAllM, phases, phase, MergeSt.onDone, act, MSt.emit, setAt, Comp.add]

/-- **Merge / MergeWith / MergeAll∘Just over `n` hot sources**: for every arrival order the output is
    the definition's; and once the output has ended every source is released. -/
theorem merge_spec (n : Nat) (sub : Ctx) (cfg : Sources Int) (hc : MergeCfg n sub cfg) (evs : List (MEvent Int)) :
    (feedAll mergeM cfg (bootSt mergeM cfg sub) evs).out =
      Spec.merge sub n (Spec.gateEvents (Spec.restrict (inner n) evs)) ∧
    ((feedAll mergeM cfg (bootSt mergeM cfg sub) evs).downOpen = false →
      ∀ k, inner n k = true → (feedAll mergeM cfg (bootSt mergeM cfg sub) evs).sopen k = false) := by
  cases n with
  | zero =>
    have hb := merge_boot_zero sub cfg hc
    have hf := feedAll_frozen mergeM cfg evs _ hb.1
    refine ⟨by rw [hf.2, hb.2]; simp [Spec.merge], ?_⟩
    intro _ k hk; simp [inner] at hk; omega
  | succ l =>
    have hb := merge_boot (l + 1) (by omega) sub cfg hc
    have h := emitOnly_out (merge_emitOnly (l + 1) cfg) evs _ (fun _ => false) hb.down hb.booted hb.ok
      (fun k hk => ⟨(hb.subs k).2 (by simp [inner] at hk; omega), by rw [hb.sopen k, hk]; rfl⟩)
      (fun k hk => Or.inr (by rw [hb.sopen k]; exact hk))
    rwa [merge_emits _ _ l hb.count, hb.pctx, hb.out] at h

end Ro.Multi
