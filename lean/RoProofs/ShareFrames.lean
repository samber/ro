/-
  RoProofs.ShareFrames — frame lemmas of RoModel.Share, each proved once per primitive: what the
  proxy's side (the proxy, the `sourceSubscription`, `reset`) leaves alone, what the bookkeeping of
  one downstream subscriber leaves alone, and what every step of an event other than `sub` keeps.
-/
import RoProofs.ShareSub
namespace Ro.Share
attribute [local simp] St.modGen_eq St.modSub_eq St.drop ite_else_same

/-- the shared pair can only be cleared -/
theorem cleared_trans {a b c : St} (h1 : b.subject = a.subject ∨ b.subject = none)
    (h2 : c.subject = b.subject ∨ c.subject = none) : c.subject = a.subject ∨ c.subject = none := by
  rcases h2 with h | h
  · rcases h1 with h' | h'
    · exact Or.inl (h.trans h')
    · exact Or.inr (h.trans h')
  · exact Or.inr h

/-! ### the proxy's side -/

/-- `s'` differs from `s` only in the generations' control fields: the downstream subscribers, the
    counters, the drop log and the subjects' own state are the same; the shared pair can only be cleared -/
structure GensOnly (s s' : St) : Prop where
  subs : s'.subs = s.subs
  nsubs : s'.nsubs = s.nsubs
  ngens : s'.ngens = s.ngens
  drops : s'.drops = s.drops
  subj : ∀ k, (s'.gens k).subj = (s.gens k).subj
  subject : s'.subject = s.subject ∨ s'.subject = none

theorem GensOnly.refl (s : St) : GensOnly s s := ⟨rfl, rfl, rfl, rfl, fun _ => rfl, Or.inl rfl⟩
theorem GensOnly.trans {a b c : St} (h1 : GensOnly a b) (h2 : GensOnly b c) : GensOnly a c :=
  ⟨h2.subs.trans h1.subs, h2.nsubs.trans h1.nsubs, h2.ngens.trans h1.ngens, h2.drops.trans h1.drops,
   fun k => (h2.subj k).trans (h1.subj k), cleared_trans h1.subject h2.subject⟩

theorem gensOnly_modGen (g : Nat) (f : Gen → Gen) (hf : ∀ x, (f x).subj = x.subj) (s : St) : GensOnly s (s.modGen g f) :=
  ⟨rfl, rfl, rfl, rfl, fun k => by simp only [St.modGen]; split <;> first | exact hf _ | rfl, Or.inl rfl⟩

theorem pSubnUnsub_go (g : Nat) (s : St) : GensOnly s (pSubnUnsub g s) := by
  rw [pSubnUnsub_eq]; split
  · exact GensOnly.refl s
  · exact gensOnly_modGen g _ (by intro; rfl) s

theorem pUnsubscribe_go (g : Nat) (s : St) : GensOnly s (pUnsubscribe g s) := by
  unfold pUnsubscribe; split
  · exact (gensOnly_modGen g _ (by intro; rfl) s).trans (pSubnUnsub_go g _)
  · exact GensOnly.refl s

theorem ssUnsub_go (g : Nat) (s : St) : GensOnly s (ssUnsub g s) := by
  unfold ssUnsub; split
  · exact GensOnly.refl s
  · exact (gensOnly_modGen g _ (by intro; rfl) s).trans
      (foldl_rel GensOnly.refl GensOnly.trans _ (fun s p => pUnsubscribe_go p s) _ _)

theorem reset_go (g : Nat) (s : St) : GensOnly s (reset g s) := by
  have h : ∀ u, GensOnly u (clearShared g u) := by
    intro u
    refine ⟨rfl, rfl, rfl, rfl, fun _ => rfl, ?_⟩
    simp only [clearShared]
    split
    · exact Or.inr rfl
    · exact Or.inl rfl
  exact (ssUnsub_go g s).trans (h _)

theorem zeroReset_go (fl : Flags) (g : Nat) (s : St) : GensOnly s (zeroReset fl g s) := by
  unfold zeroReset; split
  · exact reset_go g s
  · exact GensOnly.refl s

theorem pDecide_go (fl : Flags) (g : Nat) (t : Ev) (s : St) : GensOnly s (pDecide fl g t s) := by
  cases t with
  | error _ =>
    show GensOnly s (if fl.onError then reset g s else { s with flagE := true })
    split
    · exact reset_go g s
    · exact ⟨rfl, rfl, rfl, rfl, fun _ => rfl, Or.inl rfl⟩
  | next _ | complete =>
    show GensOnly s (if fl.onComplete then reset g s else { s with flagC := true })
    split
    · exact reset_go g s
    · exact ⟨rfl, rfl, rfl, rfl, fun _ => rfl, Or.inl rfl⟩

/-! ### one downstream subscriber -/

/-- the subjects' status and stored values are kept -/
def ValKeep (s s' : St) : Prop :=
  ∀ k, (s'.gens k).subj.status = (s.gens k).subj.status ∧ (s'.gens k).subj.buf = (s.gens k).subj.buf ∧
       (s'.gens k).subj.last = (s.gens k).subj.last

theorem ValKeep.refl (s : St) : ValKeep s s := fun _ => ⟨rfl, rfl, rfl⟩
theorem ValKeep.trans {a b c : St} (h1 : ValKeep a b) (h2 : ValKeep b c) : ValKeep a c :=
  fun k => ⟨(h2 k).1.trans (h1 k).1, (h2 k).2.1.trans (h1 k).2.1, (h2 k).2.2.trans (h1 k).2.2⟩

/-- `s'` differs from `s` at most in the record of downstream subscriber `i` — which stays closed if
    it was —, in the observers and control fields of the generations and in the reference count -/
structure Only (i : Nat) (s s' : St) : Prop where
  other : ∀ k, k ≠ i → s'.subs k = s.subs k
  nsubs : s'.nsubs = s.nsubs
  ngens : s'.ngens = s.ngens
  closed : (s.subs i).status ≠ 0 → (s'.subs i).status ≠ 0
  vals : ValKeep s s'
  subject : s'.subject = s.subject ∨ s'.subject = none

theorem Only.refl (i : Nat) (s : St) : Only i s s := ⟨fun _ _ => rfl, rfl, rfl, id, ValKeep.refl s, Or.inl rfl⟩
theorem Only.trans {i : Nat} {a b c : St} (h1 : Only i a b) (h2 : Only i b c) : Only i a c :=
  ⟨fun k hk => (h2.other k hk).trans (h1.other k hk), h2.nsubs.trans h1.nsubs, h2.ngens.trans h1.ngens,
   fun h => h2.closed (h1.closed h), h1.vals.trans h2.vals, cleared_trans h1.subject h2.subject⟩
theorem GensOnly.only {s s' : St} (h : GensOnly s s') (i : Nat) : Only i s s' :=
  ⟨fun k _ => by rw [h.subs], h.nsubs, h.ngens, by rw [h.subs]; exact id, fun k => by rw [h.subj k]; exact ⟨rfl, rfl, rfl⟩, h.subject⟩

theorem only_modSub (i : Nat) (f : DSub → DSub) (hf : ∀ d, d.status ≠ 0 → (f d).status ≠ 0) (s : St) : Only i s (s.modSub i f) :=
  ⟨fun k hk => by simp [hk], rfl, rfl, fun h => by simpa using hf _ h, ValKeep.refl s, Or.inl rfl⟩

/-- a step that touches neither the subscribers' records nor the subjects' status and stored values -/
theorem only_of_eq {i : Nat} {s s' : St} (h1 : s'.subs = s.subs) (h2 : s'.nsubs = s.nsubs) (h3 : s'.ngens = s.ngens)
    (h4 : ValKeep s s') (h5 : s'.subject = s.subject) : Only i s s' :=
  ⟨fun k _ => by rw [h1], h2, h3, by rw [h1]; exact id, h4, Or.inl h5⟩

theorem casClose_only (i : Nat) (s : St) : Only i s (casClose i s) := by
  unfold casClose; split
  · exact only_modSub i _ (by intro _ _; simp) s
  · exact Only.refl i s

theorem teardownT_only (fl : Flags) (i g : Nat) (s : St) : Only i s (teardownT fl i g s) := by
  have h : ∀ u, Only i u (decRef u) := fun u => only_of_eq rfl rfl rfl (ValKeep.refl _) rfl
  exact ((casClose_only i s).trans (h _)).trans ((zeroReset_go fl g _).only i)

theorem runDel_only (i : Nat) (o : Option Nat) (u : St) : Only i u (runDel i o u) := by
  cases o
  · exact Only.refl i u
  · refine only_of_eq rfl rfl rfl (fun k => ?_) rfl
    simp only [runDel, St.modGen]; split <;> exact ⟨rfl, rfl, rfl⟩

theorem runTear_only (fl : Flags) (i : Nat) (o : Option Nat) (u : St) : Only i u (runTear fl i o u) := by
  cases o
  · exact Only.refl i u
  · exact teardownT_only fl i _ u

theorem dSubnUnsub_only (fl : Flags) (i : Nat) (s : St) : Only i s (dSubnUnsub fl i s) := by
  unfold dSubnUnsub; split
  · exact Only.refl i s
  · exact ((only_modSub i _ (by intro _ h; exact h) s).trans (runDel_only i _ _)).trans (runTear_only fl i _ _)

theorem dUnsubscribe_only (fl : Flags) (i : Nat) (s : St) : Only i s (dUnsubscribe fl i s) := by
  unfold dUnsubscribe; split
  · exact (only_modSub i _ (by intro _ _; simp) s).trans (dSubnUnsub_only fl i _)
  · exact Only.refl i s

theorem dNext_only (i : Nat) (v : Int) (s : St) : Only i s (dNext i v s) := by
  unfold dNext; split
  · exact only_modSub i _ (by intro _ h; exact h) s
  · exact only_of_eq rfl rfl rfl (ValKeep.refl _) rfl

theorem dDeliver_only (i : Nat) (t : Ev) (s : St) : Only i s (dDeliver i t s) := by
  unfold dDeliver; split
  · exact only_modSub i _ (by intro _ _; exact t.code_ne_zero) s
  · exact only_of_eq rfl rfl rfl (ValKeep.refl _) rfl

theorem dTerm_only (fl : Flags) (i : Nat) (t : Ev) (s : St) : Only i s (dTerm fl i t s) :=
  (dDeliver_only i t s).trans (dSubnUnsub_only fl i _)

/-- what `dNext i v` does to subscriber `i` itself -/
theorem dNext_self (i : Nat) (v : Int) (s : St) :
    ((dNext i v s).subs i).trace = (if (s.subs i).status = 0 then (s.subs i).trace ++ [.next v] else (s.subs i).trace) ∧
    ((dNext i v s).subs i).status = (s.subs i).status := by
  unfold dNext; split <;> simp_all

theorem runDel_trace (i : Nat) (o : Option Nat) (u : St) (k : Nat) :
    ((runDel i o u).subs k).trace = (u.subs k).trace := by
  cases o <;> rfl

theorem runTear_trace (fl : Flags) (i : Nat) (o : Option Nat) (u : St) (k : Nat) :
    ((runTear fl i o u).subs k).trace = (u.subs k).trace := by
  cases o
  · rfl
  · simp only [runTear, teardownT]
    rw [(zeroReset_go fl _ _).subs]
    simp only [decRef, casClose]
    split
    · simp only [St.modSub_eq]; split <;> simp_all
    · rfl

/-- traces are never shortened or rewritten by the bookkeeping of a subscriber's end -/
theorem dSubnUnsub_trace (fl : Flags) (i : Nat) (s : St) (k : Nat) :
    ((dSubnUnsub fl i s).subs k).trace = (s.subs k).trace := by
  unfold dSubnUnsub; split
  · rfl
  · rw [runTear_trace, runDel_trace]
    simp only [St.modSub_eq]; split <;> simp_all

/-- what `dTerm i t` does to subscriber `i` itself -/
theorem dTerm_self (fl : Flags) (i : Nat) (t : Ev) (s : St) :
    ((dTerm fl i t s).subs i).trace = (if (s.subs i).status = 0 then (s.subs i).trace ++ [t] else (s.subs i).trace) ∧
    ((dTerm fl i t s).subs i).status ≠ 0 := by
  unfold dTerm
  rw [dSubnUnsub_trace]
  refine ⟨by unfold dDeliver; split <;> simp_all, (dSubnUnsub_only fl i _).closed ?_⟩
  unfold dDeliver; split <;> simp_all [t.code_ne_zero]

/-! ### every step of an event other than `sub` -/

/-- the counters stay, a closed subscriber stays closed, the shared pair can only be cleared -/
structure Quiet (s s' : St) : Prop where
  nsubs : s'.nsubs = s.nsubs
  ngens : s'.ngens = s.ngens
  closed : ∀ k, (s.subs k).status ≠ 0 → (s'.subs k).status ≠ 0
  subject : s'.subject = s.subject ∨ s'.subject = none

theorem Quiet.refl (s : St) : Quiet s s := ⟨rfl, rfl, fun _ h => h, Or.inl rfl⟩
theorem Quiet.trans {a b c : St} (h1 : Quiet a b) (h2 : Quiet b c) : Quiet a c :=
  ⟨h2.nsubs.trans h1.nsubs, h2.ngens.trans h1.ngens, fun k h => h2.closed k (h1.closed k h), cleared_trans h1.subject h2.subject⟩

theorem Only.quiet {i : Nat} {s s' : St} (h : Only i s s') : Quiet s s' :=
  ⟨h.nsubs, h.ngens, fun k hs => by
    by_cases hk : k = i
    · subst hk; exact h.closed hs
    · rw [h.other k hk]; exact hs, h.subject⟩
theorem GensOnly.quiet {s s' : St} (h : GensOnly s s') : Quiet s s' := (h.only 0).quiet
theorem Sim.quiet {s s' : St} (h : Sim s s') : Quiet s s' :=
  ⟨h.nsubs, h.ngens, fun k hs => by rw [h.status]; exact hs, Or.inl h.subject⟩
theorem quiet_modGen (g : Nat) (f : Gen → Gen) (s : St) : Quiet s (s.modGen g f) := ⟨rfl, rfl, fun _ h => h, Or.inl rfl⟩
theorem quiet_drop (x : Ev) (s : St) : Quiet s (s.drop x) := ⟨rfl, rfl, fun _ h => h, Or.inl rfl⟩

theorem subjTerm_quiet (fl : Flags) (g : Nat) (t : Ev) (s : St) : Quiet s (subjTerm fl g t s) := by
  unfold subjTerm
  split
  · exact ((quiet_modGen g _ s).trans
      (foldl_rel Quiet.refl Quiet.trans _ (fun s i => (dTerm_only fl i t s).quiet) _ _)).trans (quiet_modGen g _ _)
  · exact (quiet_drop t s).trans (quiet_modGen g _ _)

theorem pTerm_quiet (cfg : Cfg) (g : Nat) (t : Ev) (s : St) : Quiet s (pTerm cfg g t s) := by
  unfold pTerm
  split
  · exact (((quiet_modGen g _ s).trans (pDecide_go cfg.flags g t _).quiet).trans (subjTerm_quiet cfg.flags g t _)).trans
      (pSubnUnsub_go g _).quiet
  · exact (quiet_drop t s).trans (pSubnUnsub_go g _).quiet

theorem pEmit_quiet (cfg : Cfg) (g : Nat) (x : Ev) (s : St) : Quiet s (pEmit cfg g x s) := by
  cases x
  · exact (pNext_sim cfg g _ s).quiet
  · exact pTerm_quiet cfg g _ s
  · exact pTerm_quiet cfg g _ s

theorem playPre_quiet (cfg : Cfg) (g : Nat) (pre : List Ev) (s : St) : Quiet s (playPre cfg g pre s) :=
  foldl_rel Quiet.refl Quiet.trans _ (fun s x => pEmit_quiet cfg g x s) pre s

theorem push_quiet (cfg : Cfg) (x : Ev) (s : St) : Quiet s (push cfg x s) := by
  unfold push
  refine foldl_rel Quiet.refl Quiet.trans _ (fun u g => ?_) _ s
  split
  · exact pEmit_quiet cfg g x u
  · exact Quiet.refl u

end Ro.Share
