/-
  RoProofs.MultiOrder — facts about arrival orders and about the merge definition: every interleaving
  keeps each source's own order, without loss or duplication (`eventsFrom_ofSource_prefix`); the per-source
  gate commutes with projecting on one source (`ofSource_gateEventsFrom`); while no error has arrived and
  not every source has completed, `Spec.merge` forwards every value in arrival order (`merge_append`).
-/
import RoProofs.MultiCore
namespace Ro.Multi
open Ro

variable {α : Type}

theorem nextEvent_some (cfg : Sources α) (pos : Nat → Nat) (j : Nat) (e : MEvent α)
    (h : nextEvent cfg pos j = some e) : e.1 = j ∧ (cfg.script j)[pos j]? = some e.2 := by
  unfold nextEvent at h
  split at h
  · simp at h
  · rename_i n hn
    split at h
    · simp at h
    · simp at h; subst h; exact ⟨rfl, hn⟩

/-- every interleaving delivers, for each source, a prefix of that source's script from the current
    position on: the source's own order is kept, nothing is duplicated, nothing is skipped -/
theorem eventsFrom_ofSource_prefix (cfg : Sources α) (k : Nat) (order : List Nat) (pos : Nat → Nat) :
    Spec.ofSource k (eventsFrom cfg pos order) <+: (cfg.script k).drop (pos k) := by
  induction order generalizing pos with
  | nil => simp [eventsFrom, Spec.ofSource]
  | cons j ks ih =>
    unfold eventsFrom
    cases hne : nextEvent cfg pos j with
    | none => exact ih pos
    | some e =>
      obtain ⟨h1, h2⟩ := nextEvent_some cfg pos j e hne
      simp only
      by_cases hjk : j = k
      · subst hjk
        obtain ⟨hlt, hv⟩ := List.getElem?_eq_some_iff.1 h2
        have := ih (setAt pos j (pos j + 1))
        rw [setAt_same] at this
        rw [List.drop_eq_getElem_cons hlt, hv, show e = (j, e.2) from Prod.ext h1 rfl, ofSource_cons_same]
        exact (List.prefix_cons_inj e.2).2 this
      · have := ih (setAt pos j (pos j + 1))
        rw [setAt_other _ _ (fun h => hjk h.symm)] at this
        rwa [show e = (j, e.2) from Prod.ext h1 rfl, ofSource_cons_other _ _ _ _ hjk]

/-- projecting the gated arrival order on one source = that source's notifications up to its terminal -/
theorem ofSource_gateEventsFrom (k : Nat) (evs : List (MEvent α)) (cl : Nat → Bool) :
    Spec.ofSource k (Spec.gateEventsFrom cl evs) = if cl k then [] else gate (Spec.ofSource k evs) := by
  induction evs generalizing cl with
  | nil => simp [Spec.gateEventsFrom, Spec.ofSource]
  | cons e es ih =>
    obtain ⟨j, x⟩ := e
    unfold Spec.gateEventsFrom
    by_cases hjk : j = k
    · subst hjk
      cases hc : cl j with
      | true => simp [ih, hc]
      | false =>
        simp only [Bool.false_eq_true, if_false, ofSource_cons_same, ih, gate]
        cases x.isTerminal <;> simp [hc]
    · rw [ofSource_cons_other _ _ _ _ hjk]
      cases hc : cl j with
      | true => simp [ih]
      | false =>
        simp only [Bool.false_eq_true, if_false, ofSource_cons_other _ _ _ _ hjk, ih]
        split
        · rw [setAt_other _ _ (fun h => hjk h.symm)]
        · rfl

theorem gate_prefix (l : List (Notif α)) : gate l <+: l := by
  induction l with
  | nil => simp
  | cons x xs ih =>
    unfold gate
    split
    · exact ⟨xs, rfl⟩
    · exact (List.prefix_cons_inj x).2 ih

/-- the values of an arrival order, as the notifications a merge forwards -/
def valNotifs (g : List (MEvent α)) : List (Notif α) :=
  g.filterMap (fun e => match e.2 with | .next c v => some (.next c v) | _ => none)

def noError (g : List (MEvent α)) : Bool := g.all (fun e => match e.2 with | .error _ _ => false | _ => true)
def completes (g : List (MEvent α)) : Nat := (g.filter (fun e => match e.2 with | .complete _ => true | _ => false)).length

/-- while no error has arrived and fewer than `live` sources have completed, every value is forwarded, in
    arrival order, exactly once -/
theorem merge_append (sub : Ctx) (p q : List (MEvent α)) (live : Nat) (hne : noError p = true) (hc : completes p < live) :
    Spec.merge sub live (p ++ q) = valNotifs p ++ Spec.merge sub (live - completes p) q := by
  induction p generalizing live with
  | nil => rfl
  | cons e es ih =>
    obtain ⟨k, x⟩ := e
    cases live with
    | zero => cases hc
    | succ l =>
      have hne' : noError es = true := (Bool.and_eq_true_iff.1 hne).2
      cases x with
      | next c v => exact congrArg (_ :: ·) (ih (l + 1) hne' hc)
      | error c e => cases hne
      | complete c =>
        show Spec.merge sub l (es ++ q) = valNotifs es ++ Spec.merge sub (l + 1 - (completes es + 1)) q
        rw [Nat.add_sub_add_right]
        exact ih l hne' (Nat.lt_of_succ_lt_succ hc)

end Ro.Multi
