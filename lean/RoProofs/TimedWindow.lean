/-
  RoProofs.TimedWindow — ThrottleTime, SampleTime, BufferWithTime(OrCount) on their logical models:
  spacing of consecutive passes, at most one sample per tick and always the latest, buffers made of
  the source's values in source order, each once.
-/
import RoProofs.TimedBasic
namespace Ro.Timed
open List

/-! ### ThrottleTime -/

/-- every VALUE of the list is more than `w` after the previous value (after `last` for the first) -/
def Spaced (w : Nat) : Time → List Ev → Prop
  | _, [] => True
  | last, ⟨t0, _, .next _⟩ :: es => last + w < t0 ∧ Spaced w t0 es
  | last, _ :: es => Spaced w last es

/-- **ThrottleTime**: consecutive passes are more than the window apart (for every source
    timeline), the first one more than the window after instant 0 — the start of the process. -/
theorem throttle_spaced (w : Nat) : ∀ (last : Time) (emits : List (Time × TN)),
    Spaced w last (throttlePass w last emits)
  | _, [] => trivial
  | last, (t, n) :: r => by
    cases n with
    | next v =>
      simp only [throttlePass]
      split
      next h => exact ⟨h, throttle_spaced w t r⟩
      next => exact throttle_spaced w last r
    | _ => exact throttle_spaced w last r

/-- what is spaced stays spaced when it is cut short (gate, teardown) -/
theorem spaced_prefix (w : Nat) : ∀ (last : Time) (p l : List Ev), p <+: l → Spaced w last l → Spaced w last p
  | _, [], _, _, _ => trivial
  | last, e :: p, [], h, _ => by simp at h
  | last, ⟨t0, t1, n⟩ :: p, e' :: l, h, hs => by
    obtain ⟨rfl, hp⟩ := List.cons_prefix_cons.1 h
    cases n with
    | next v => exact ⟨hs.1, spaced_prefix w t0 p l hp hs.2⟩
    | _ => exact spaced_prefix w last p l hp hs

/-- two deliveries in a row that are both values are more than `w` apart -/
theorem spaced_adjacent (w : Nat) : ∀ (last : Time) (l : List Ev) (k : Nat) (a b : Ev) (va vb : Int),
    Spaced w last l → l[k]? = some a → l[k+1]? = some b → a.n = .next va → b.n = .next vb → a.t0 + w < b.t0
  | _, [], k, a, b, _, _, _, h, _, _, _ => by simp at h
  | last, _ :: [], 0, a, b, va, vb, hs, ha, hb, hna, hnb => by simp at hb
  | last, ⟨t0, t1, n⟩ :: ⟨t0', t1', n'⟩ :: es, 0, a, b, va, vb, hs, ha, hb, hna, hnb => by
    cases ha; cases hb
    cases hna; cases hnb
    exact hs.2.1
  | last, ⟨t0, t1, n⟩ :: es, k + 1, a, b, va, vb, hs, ha, hb, hna, hnb => by
    cases n with
    | next v => exact spaced_adjacent w t0 es k a b va vb hs.2 ha hb hna hnb
    | _ => exact spaced_adjacent w last es k a b va vb hs ha hb hna hnb

/-- nothing invented, source order kept: what passes is a sublist of what the source emitted -/
theorem throttle_sublist (w : Nat) : ∀ (last : Time) (emits : List (Time × TN)),
    (throttlePass w last emits).map (·.n) <+ emits.map (·.2)
  | _, [] => List.Sublist.slnil
  | last, (t, n) :: r => by
    cases n with
    | next v =>
      simp only [throttlePass]
      split
      · exact (throttle_sublist w t r).cons_cons _
      · exact (throttle_sublist w last r).cons _
    | _ => exact (throttle_sublist w last r).cons_cons _

/-- seen while modelling (C04's business, not a clause of C16): `lastAt` starts at the PROCESS start,
    so a value emitted during the first window of the process's life is dropped -/
theorem throttle_drops_during_first_window_of_process (w : Nat) (t : Time) (v : Int) (h : t ≤ w) :
    throttlePass w 0 [(t, .next v)] = [] := by
  simp [throttlePass]; omega

-- non-vacuity: window 5; values at 6, 8, 12, 13, 30 then completion
example : (throttlePass 5 0 [(6, .next 1), (8, .next 2), (12, .next 3), (13, .next 4), (30, .next 5), (30, .complete)]).map (·.n)
    = [.next 1, .next 3, .next 5, .complete] := by decide

/-! ### SampleTime -/

/-- the value a tick finds: the last one handed over since the previous sample, if any -/
def lastSrc : Option Int → List (Time × Int) → Option Int
  | st, [] => st
  | _, (_, v) :: r => lastSrc (some v) r

/-- a second tick without a new value emits nothing -/
theorem sample_no_repeat (k : Nat) (t t' : Time) (v : Int) (r : List SaEv) :
    sampleFrom (some v) k (.tick t :: .tick t' :: r) = (k, t, v) :: sampleFrom none (k + 2) r := by
  simp [sampleFrom]

/-- ticks of a ticker created after `sub`: the k-th (from 0) not before `k+1` periods -/
def TicksOK (sub p : Nat) : Nat → List SaEv → Prop
  | _, [] => True
  | k, .src _ _ :: r => TicksOK sub p k r
  | k, .tick t :: r => sub + (k + 1) * p ≤ t ∧ TicksOK sub p (k + 1) r

/-- **at most one sample per tick**: the i-th sample comes from tick number ≥ k+i, and never before
    that tick's earliest instant -/
theorem sample_bounds (sub p : Nat) : ∀ (st : Option Int) (k : Nat) (evs : List SaEv), TicksOK sub p k evs →
    ∀ (i : Nat) (o : Nat × Time × Int), (sampleFrom st k evs)[i]? = some o → k + i ≤ o.1 ∧ sub + (o.1 + 1) * p ≤ o.2.1
  | _, _, [], _, i, o, h => by simp [sampleFrom] at h
  | st, k, .src t v :: r, hok, i, o, h => by
    cases st <;> exact sample_bounds sub p (some v) k r hok i o (by simpa [sampleFrom] using h)
  | some v, k, .tick t :: r, hok, i, o, h => by
    simp only [sampleFrom] at h
    cases i with
    | zero => simp at h; subst h; exact ⟨by simp, hok.1⟩
    | succ i =>
      simp only [List.getElem?_cons_succ] at h
      have := sample_bounds sub p none (k + 1) r hok.2 i o h
      exact ⟨by omega, this.2⟩
  | none, k, .tick t :: r, hok, i, o, h => by
    simp only [sampleFrom] at h
    have := sample_bounds sub p none (k + 1) r hok.2 i o h
    exact ⟨by omega, this.2⟩

def saVals : List SaEv → List Int
  | [] => []
  | .src _ v :: r => v :: saVals r
  | .tick _ :: r => saVals r

/-- never invented, never out of source order, never twice -/
theorem sample_sublist : ∀ (st : Option Int) (k : Nat) (evs : List SaEv),
    (sampleFrom st k evs).map (·.2.2) <+ st.toList ++ saVals evs
  | st, _, [] => by simp [sampleFrom]
  | st, k, .src t v :: r => by
    have := sample_sublist (some v) k r
    cases st with
    | none => simpa [sampleFrom, saVals] using this
    | some w => simp only [sampleFrom, saVals, Option.toList]; exact List.Sublist.cons _ (by simpa using this)
  | some v, k, .tick t :: r => by
    have := sample_sublist none (k + 1) r
    simp only [sampleFrom, saVals, List.map_cons, Option.toList, List.singleton_append]
    exact List.Sublist.cons_cons _ (by simpa using this)
  | none, k, .tick t :: r => by
    have := sample_sublist none (k + 1) r
    simpa [sampleFrom, saVals] using this

-- non-vacuity: burst 1,2,3 then a tick, a tick without news, 4, tick
example : sampleFrom none 0 [.src 1 1, .src 1 2, .src 2 3, .tick 5, .tick 10, .src 12 4, .tick 15]
    = [(0, 5, 3), (2, 15, 4)] := by decide

/-! ### time buffers -/

def buVals : List BuEv → List Int
  | [] => []
  | .src _ v :: r => v :: buVals r
  | .tick _ :: r => buVals r
  | .complete _ :: _ => []

/-- **only source values, in source order, each at most once**: the buffers sent, concatenated, are a
    prefix of what was pending plus what the source emitted (what is missing was never flushed) -/
theorem buffer_concat_prefix (cnt : Option Nat) : ∀ (buf : List Int) (evs : List BuEv),
    ((bufferFrom cnt buf evs).map (·.2)).flatten <+: buf ++ buVals evs
  | buf, [] => by simp [bufferFrom]
  | buf, .src t v :: r => by
    cases cnt with
    | none =>
      simp only [bufferFrom, buVals]
      have := buffer_concat_prefix none (buf ++ [v]) r
      simpa using this
    | some n =>
      simp only [bufferFrom, buVals]
      split
      · have := buffer_concat_prefix (some n) [] r
        simp only [List.map_cons, List.flatten_cons]
        have h2 : buf ++ v :: buVals r = (buf ++ [v]) ++ buVals r := by simp
        rw [h2]
        exact (List.prefix_append_right_inj _).2 (by simpa using this)
      · have := buffer_concat_prefix (some n) (buf ++ [v]) r
        simpa using this
  | buf, .tick t :: r => by
    simp only [bufferFrom, buVals, List.map_cons, List.flatten_cons]
    have := buffer_concat_prefix cnt [] r
    exact (List.prefix_append_right_inj _).2 (by simpa using this)
  | buf, .complete t :: r => by
    simp [bufferFrom, buVals]

/-- with a count `n ≥ 1` no buffer is longer than `n` -/
theorem buffer_count_le (n : Nat) (hn : 0 < n) : ∀ (buf : List Int) (evs : List BuEv), buf.length < n →
    ∀ o ∈ bufferFrom (some n) buf evs, o.2.length ≤ n
  | buf, [], _, o, h => by simp [bufferFrom] at h
  | buf, .src t v :: r, hb, o, h => by
    simp only [bufferFrom] at h
    split at h
    · rcases List.mem_cons.1 h with rfl | h'
      · simp; omega
      · exact buffer_count_le n hn [] r (by simpa using hn) o h'
    · next hlt => exact buffer_count_le n hn (buf ++ [v]) r (by simp at hlt ⊢; omega) o h
  | buf, .tick t :: r, hb, o, h => by
    simp only [bufferFrom] at h
    rcases List.mem_cons.1 h with rfl | h'
    · simp; omega
    · exact buffer_count_le n hn [] r (by simpa using hn) o h'
  | buf, .complete t :: r, hb, o, h => by
    simp only [bufferFrom, List.mem_singleton] at h
    subst h; simp; omega

-- non-vacuity: count 2, ticks in between, completion flushes the rest
example : bufferFrom (some 2) [] [.src 1 1, .src 2 2, .src 3 3, .tick 5, .tick 10, .src 11 4, .complete 12]
    = [(2, [1, 2]), (5, [3]), (10, []), (12, [4])] := by decide
example : bufferFrom none [] [.src 1 1, .src 2 2, .tick 5, .src 6 3, .complete 7] = [(5, [1, 2]), (7, [3])] := by decide

end Ro.Timed
