/-
  C12 — pipelines are reusable recipes.
  A machine has no state outside `init`: `runOp m mode sub raw` is a function of its arguments, so
  a second (third, concurrent) subscription of the same pipeline, or the same operator value
  applied to another source, behaves like a first subscription of a fresh one — `resubscribe_same`
  is `rfl`. The content of the property is whether that is the right model of the Go operator,
  i.e. whether a subscription writes only to variables declared inside the subscribe closure:
  the `stateRows` of the regenerated table (writes from the application or subscription scope to a
  variable of an outer scope), decided by the kernel on every run.
  Found on the pinned tree and repaired (fix commits 11bf135, fd0e106): `MergeMapIWithContext` (index
  `i` in the application scope) and `OnErrorResumeNextWith` (captured slice rewritten per
  application); `ShareWithConfig` is hot by definition.
-/
import RoModel.Machine
import RoModel.FactPreds
import RoGen.Catalogue
import RoGen.BuildTime
namespace Ro.C12
open Ro Ro.Facts

/-- every subscription of a machine-modelled pipeline sees the same run -/
theorem resubscribe_same {σ α β : Type} (m : Machine σ α β) (mode : SrcMode) (sub : Ctx) (raw : List (Notif α))
    (k : Nat) : (List.replicate k (runOp m mode sub raw).out) = (List.range k).map (fun _ => (runOp m mode sub raw).out) := by
  rw [List.map_const', List.length_range]

/-- laziness: a machine subscribes to its source at most once per subscription, never at construction -/
theorem subs_le_one {σ α β : Type} (m : Machine σ α β) : m.subs ≤ 1 := by
  unfold Machine.subs; split <;> simp

theorem table_ok : RoGen.Catalogue.table.all c12RowOk = true := by decide +kernel

/-- the operators with hoisted state are exactly the listed ones -/
theorem hoisted_state_rows :
    ((RoGen.Catalogue.table.filter (fun r => !r.stateRows.isEmpty)).map (·.name)).all
      (["ShareWithConfig"].contains ·) = true := by decide +kernel

/-- no helper function that an operator value obtains a per-item function from (a function that returns a function
    literal and is not itself called once per subscription) lets the returned literal write to a variable of its
    own body: nothing is shared between the subscriptions, and the sources, an operator value is applied to
    (go/extract/closures.go; also method calls on captured fresh objects, delete / clear / copy) -/
theorem factory_state_rows : RoGen.Catalogue.factoryStateRows = [] := by rfl

/-- building a pipeline does nothing: outside its subscribe functions no operator of operator_*.go reads the clock or a
    random source, or creates a mutex / once / channel / subscription / subject / derived context / atomic (an object every
    subscription of the observable value would share) — except `Share*`, hot by definition (go/extract/buildtime.go) -/
theorem buildtime_rows : RoGen.BuildTime.rows.all buildRowOk = true := by decide +kernel

/-- non-vacuity: the predicate refuses a deadline computed from the clock when the operator is applied to its source -/
example : buildRowOk { fn := "ContextWithTimeout", what := "time.Now", scope := "application", file := "operator_context.go", line := 62 } = false := by decide

end Ro.C12

#print axioms Ro.C12.resubscribe_same
#print axioms Ro.C12.subs_le_one
#print axioms Ro.C12.table_ok
#print axioms Ro.C12.hoisted_state_rows
#print axioms Ro.C12.factory_state_rows
#print axioms Ro.C12.buildtime_rows
