/-
  C03 / C06 / C14 (teardown from inside a delivery never waits for the emitting goroutine itself).

  Statement: for every operator and every emission site, closing the subscription from inside the
  delivery (which runs the operator's teardown and finalizers synchronously on the emitting goroutine)
  returns — the teardown never waits for a lock the emission holds.

  Model: `teardownInside held td` (RoModel/EmitLockFacts.lean).  Theorem `teardownInside_returns_iff`:
  it returns iff no lock the teardown takes is held at the emission — for any lock sets.
  Tie (F): the emission sites with their held locks and the teardown locks of every operator are
  regenerated from operator_*.go on every run (go/extract/emitlock.go, on top of the lock-region and
  context analysis of locksets.go); `emit_table_ok` is decided by the kernel on the regenerated rows,
  `no_self_deadlock` lifts it to every regenerated emission site.
-/
import RoModel.EmitLockFacts
import RoGen.EmitLocks
namespace Ro.C03lock
open Ro.EmitLockFacts

theorem teardownInside_returns_iff (held td : List Nat) :
    teardownInside held td = .returns ↔ ∀ l ∈ td, l ∉ held := by
  induction td with
  | nil => simp [teardownInside]
  | cons l rest ih =>
    unfold teardownInside
    by_cases h : l ∈ held <;> simp [h, ih]

/-- the witness direction: a shared lock makes the teardown wait for its own goroutine -/
theorem teardownInside_stuck (held td : List Nat) (l : Nat) (hl : l ∈ td) (hh : l ∈ held) :
    ∃ k, teardownInside held td = .stuck k := by
  cases h : teardownInside held td with
  | returns => exact absurd hh ((teardownInside_returns_iff held td).mp h l hl)
  | stuck k => exact ⟨k, rfl⟩

theorem emitOk_sound (td : List TdRow) (e : EmitRow) (h : emitOk td e = true) :
    teardownInside e.held (tdLocksOf td e.op) = .returns := by
  rw [teardownInside_returns_iff]
  intro l hl hh
  unfold emitOk at h
  rw [List.all_eq_true] at h
  have := h l hh
  simp [hl] at this

/-- decided by the kernel on the rows regenerated from the repository under check on this run -/
theorem emit_table_ok : tableOk RoGen.EmitLocks.emits RoGen.EmitLocks.teardown = true := by decide +kernel

/-- **no emission site of any operator can make a teardown that runs inside its delivery wait for the
    emitting goroutine itself** -/
theorem no_self_deadlock : ∀ e ∈ RoGen.EmitLocks.emits,
    teardownInside e.held (tdLocksOf RoGen.EmitLocks.teardown e.op) = .returns := by
  intro e he
  apply emitOk_sound
  have h := emit_table_ok
  unfold tableOk at h
  rw [List.all_eq_true] at h
  exact h e he

/-- the analysis saw the operators it is about: the lock-holding emission sites of the pinned tree and the
    operators whose teardown takes a lock are not empty (a translator that stops recognising locks or
    teardowns would make `emit_table_ok` vacuous) -/
theorem table_not_vacuous : RoGen.EmitLocks.emits ≠ [] ∧ 6 ≤ RoGen.EmitLocks.teardown.length ∧ 200 ≤ RoGen.EmitLocks.emitsWithoutLock := by decide

/-- non-vacuity of the model: BufferWithTimeOrCount emitting under its spin lock (the change of seeded
    C03-C) against its own teardown -/
example : teardownInside [20] (tdLocksOf [{ op := "BufferWithTimeOrCount", locks := [20] }] "BufferWithTimeOrCount") = .stuck 20 := by decide
example : emitOk [{ op := "BufferWithTimeOrCount", locks := [20] }]
    { op := "BufferWithTimeOrCount", file := "operator_transformations.go", line := 503, kind := "next", ctx := "sourceCb", held := [20] } = false := by decide

end Ro.C03lock

#print axioms Ro.C03lock.teardownInside_returns_iff
#print axioms Ro.C03lock.teardownInside_stuck
#print axioms Ro.C03lock.emitOk_sound
#print axioms Ro.C03lock.emit_table_ok
#print axioms Ro.C03lock.no_self_deadlock
#print axioms Ro.C03lock.table_not_vacuous
