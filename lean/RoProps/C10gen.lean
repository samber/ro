/-
  C10 (generated subject methods) — the tie between the subject model and subject_*.go, tightened
  by a translator.

  `go/extract` (subjgen.go) re-translates, on every run, the bodies of SubscribeWithContext /
  NextWithContext / ErrorWithContext / CompleteWithContext, of the broadcast helpers, of
  unsubscribeAll, of the constructor and of the five state queries of the five subject
  implementations into Lean definitions over `Ro.Subj.State` (lean/RoGen/SubjGen.lean, namespace
  `RoGen.Subj`; the sequential reading: the mutex calls are erased — where the lock is held is the
  regenerated table RoGen.SubjectLocks, C10.subjects_wellLocked).

  This file proves, for EVERY state and EVERY argument, that each clause of the hand-written step
  functions of RoModel/Subjects.lean — the functions the C10 theorems (sequential definition,
  linearizability, grammar) are about — is the regenerated definition:

      publishStep s (.next c v)      = publish_next s c v
      publishStep s (.subscribe i c) = if (s.sub i).used then s else publish_subscribe s i c
      publishStep s (.unsubscribe i) = if (s.sub i).used then subUnsubscribe publish_td s i else s
      …

  (`Subscribe i` on an identity already used / `Unsubscribe i` without a subscription are the
  client conventions of RoModel/Subjects.lean, not subject code.)  Where the Go state encoding is
  coarser than the model's (`last` = exactly one stored value, `hasValue`/`value` = at most one,
  unicast's single `observer` field), the equality holds under the representation invariant
  (`OneValue`, `AtMostOneValue`, at most one observer), which is proved to hold in every reachable
  state (`…_reachable`, `unicast_one_observer`), so the equalities hold along every run (`run_gen`).

  A change to the Go code of a subject method changes the regenerated text and breaks the equality
  below at `lake build`, for all states and arguments, not only the sampled sequences; the C10
  correspondence then supplies a concrete operation sequence.
-/
import RoModel.Subjects
import RoProofs.Subjects
import RoProofs.SubjectsUnicast
import RoGen.SubjGen
namespace Ro.C10gen
open Ro Ro.Subj RoGen.Subj
variable {α : Type} [Inhabited α]

theorem foldl_filter_observers (l : List Nat) (s : State α) :
    (l.foldl (fun s key => { s with observers := s.observers.filter (· != key) }) s)
      = { s with observers := s.observers.filter (fun j => !(l.contains j)) } := by
  induction l generalizing s with
  | nil =>
    have : s.observers.filter (fun j => !([] : List Nat).contains j) = s.observers :=
      List.filter_eq_self.mpr (fun _ _ => rfl)
    rw [List.foldl_nil, this]
  | cons k l ih =>
    rw [List.foldl_cons, ih]
    simp only [List.filter_filter]
    congr 1
    apply List.filter_congr
    intro j _
    by_cases h : j = k <;> simp [h]

/-- `unsubscribeAll`: `Range` over the keys deleting each one leaves no key -/
theorem unsubscribeAll_gen (s : State α) :
    (s.observers.foldl (fun s key => { s with observers := s.observers.filter (· != key) }) s) = unsubscribeAll s := by
  rw [foldl_filter_observers]
  unfold unsubscribeAll
  congr 1
  apply List.filter_eq_nil_iff.mpr
  intro j hj
  simp [hj]

/-- `ErrorWithContext` / `CompleteWithContext` of the multicast subjects: the model calls `unsubscribeAll` after the
    status test, the regenerated method (`u` is its `unsubscribeAll`) at the end of either arm -/
theorem unsubscribeAll_arms (u : State α → State α) (hu : ∀ t, u t = unsubscribeAll t) (st : Status) (a b : State α) :
    unsubscribeAll (match st with | .active => a | _ => b) = match st with | .active => u a | _ => u b := by
  cases st <;> exact (hu _).symm

/-- `HasObserver`: the model asks whether the list is empty, the regenerated query matches on it -/
theorem hasObserver_gen (s : State α) : s.hasObserver = match s.observers with | _ :: _ => true | [] => false := by
  unfold State.hasObserver
  cases s.observers <;> rfl

/-! The other clauses hold by unfolding: the regenerated method is the model's clause written with `let`s. -/

theorem publish_td_gen : publish_td = TD.delete := rfl
theorem publish_broadcastNext_gen (s : State α) (c : Ctx) (v : α) : publish_broadcastNext s c v = broadcastNext s c v := rfl
theorem publish_broadcastError_gen (s : State α) (c : Ctx) (e : Err) :
    publish_broadcastError s c e = broadcastTerminal s (.error c e) := rfl
theorem publish_broadcastComplete_gen (s : State α) (c : Ctx) :
    publish_broadcastComplete s c = broadcastTerminal s (.complete c) := rfl
theorem publish_unsubscribeAll_gen (s : State α) : publish_unsubscribeAll s = unsubscribeAll s := unsubscribeAll_gen s

theorem publish_subscribe_gen (s : State α) (i : Nat) (c : Ctx) :
    publishStep s (.subscribe i c) = if (s.sub i).used then s else publish_subscribe s i c := rfl

theorem publish_next_gen (s : State α) (c : Ctx) (v : α) : publishStep s (.next c v) = publish_next s c v := rfl

theorem publish_error_gen (s : State α) (c : Ctx) (e : Err) : publishStep s (.error c e) = publish_error s c e :=
  unsubscribeAll_arms _ publish_unsubscribeAll_gen _ _ _

theorem publish_complete_gen (s : State α) (c : Ctx) : publishStep s (.complete c) = publish_complete s c :=
  unsubscribeAll_arms _ publish_unsubscribeAll_gen _ _ _

theorem publish_unsubscribe_gen (s : State α) (i : Nat) :
    publishStep s (.unsubscribe i) = if (s.sub i).used then subUnsubscribe publish_td s i else s := rfl

theorem publish_init_gen : (Kind.publish : Kind α).init = publish_init := rfl

theorem publish_queries_gen (s : State α) :
    s.countObservers = publish_countObservers s ∧ s.hasObserver = publish_hasObserver s ∧ s.isClosed = publish_isClosed s
      ∧ s.hasThrown = publish_hasThrown s ∧ s.isCompleted = publish_isCompleted s :=
  ⟨rfl, hasObserver_gen s, rfl, rfl, rfl⟩

/-! ### behavior: `last` is `values = [last]` -/

/-- the representation invariant of behavior's `last` field -/
def OneValue (s : State α) : Prop := ∃ p, s.values = [p]

theorem behavior_td_gen : behavior_td = TD.delete := rfl
theorem behavior_broadcastNext_gen (s : State α) (c : Ctx) (v : α) : behavior_broadcastNext s c v = broadcastNext s c v := rfl
theorem behavior_broadcastError_gen (s : State α) (c : Ctx) (e : Err) :
    behavior_broadcastError s c e = broadcastTerminal s (.error c e) := rfl
theorem behavior_broadcastComplete_gen (s : State α) (c : Ctx) :
    behavior_broadcastComplete s c = broadcastTerminal s (.complete c) := rfl
theorem behavior_unsubscribeAll_gen (s : State α) : behavior_unsubscribeAll s = unsubscribeAll s := unsubscribeAll_gen s

theorem behavior_subscribe_gen (s : State α) (h : OneValue s) (i : Nat) (c : Ctx) :
    behaviorStep s (.subscribe i c) = if (s.sub i).used then s else behavior_subscribe s i c := by
  obtain ⟨st, vals, obs, sub, drops⟩ := s
  obtain ⟨p, rfl⟩ := h
  rfl

theorem behavior_next_gen (s : State α) (c : Ctx) (v : α) : behaviorStep s (.next c v) = behavior_next s c v := rfl

theorem behavior_error_gen (s : State α) (c : Ctx) (e : Err) : behaviorStep s (.error c e) = behavior_error s c e :=
  unsubscribeAll_arms _ behavior_unsubscribeAll_gen _ _ _

theorem behavior_complete_gen (s : State α) (c : Ctx) : behaviorStep s (.complete c) = behavior_complete s c :=
  unsubscribeAll_arms _ behavior_unsubscribeAll_gen _ _ _

theorem behavior_unsubscribe_gen (s : State α) (i : Nat) :
    behaviorStep s (.unsubscribe i) = if (s.sub i).used then subUnsubscribe behavior_td s i else s := rfl

theorem behavior_init_gen (v : α) : (Kind.behavior v).init = behavior_init v := rfl

theorem behavior_queries_gen (s : State α) :
    s.countObservers = behavior_countObservers s ∧ s.hasObserver = behavior_hasObserver s ∧ s.isClosed = behavior_isClosed s
      ∧ s.hasThrown = behavior_hasThrown s ∧ s.isCompleted = behavior_isCompleted s :=
  ⟨rfl, hasObserver_gen s, rfl, rfl, rfl⟩

theorem replay_td_gen : replay_td = TD.delete := rfl
theorem replay_broadcastNext_gen (s : State α) (c : Ctx) (v : α) : replay_broadcastNext s c v = broadcastNext s c v := rfl
theorem replay_broadcastError_gen (s : State α) (c : Ctx) (e : Err) :
    replay_broadcastError s c e = broadcastTerminal s (.error c e) := rfl
theorem replay_broadcastComplete_gen (s : State α) (c : Ctx) :
    replay_broadcastComplete s c = broadcastTerminal s (.complete c) := rfl
theorem replay_unsubscribeAll_gen (s : State α) : replay_unsubscribeAll s = unsubscribeAll s := unsubscribeAll_gen s

/-- the regenerated append-then-evict statements (subject_replay.go / subject_unicast.go NextWithContext) are `push` -/
theorem push_gen (cap : Option Nat) (s : State α) (c : Ctx) (v : α) :
    (match cap with
     | some n =>
       if (s.values ++ [(c, v)]).length > n then
         { status := s.status, values := (s.values ++ [(c, v)]).drop ((s.values ++ [(c, v)]).length - n), observers := s.observers,
           sub := s.sub, drops := s.drops ++ [.next c ((s.values ++ [(c, v)]).getD 0 (Ctx.nil, default)).2] }
       else { s with values := s.values ++ [(c, v)] }
     | none => { s with values := s.values ++ [(c, v)] }) = push cap s c v := by
  obtain ⟨st, vals, obs, sub, drops⟩ := s
  cases cap with
  | none => rfl
  | some n => cases vals <;> rfl

theorem foldl_subNext_status (i : Nat) (vs : List (Ctx × α)) (t : State α) :
    (vs.foldl (fun s p => subNext s i p.1 p.2) t).status = t.status := by
  induction vs generalizing t with
  | nil => rfl
  | cons p vs ih =>
    rw [List.foldl_cons, ih]
    unfold subNext
    split <;> rfl

theorem replay_subscribe_gen (cap : Option Nat) (s : State α) (i : Nat) (c : Ctx) :
    replayStep cap s (.subscribe i c) = if (s.sub i).used then s else replay_subscribe cap s i c := by
  simp only [replay_subscribe]
  -- subject_replay.go replays before it reads the status, which the replay does not touch
  rw (occs := .pos [1]) [foldl_subNext_status i (fresh s i).values (fresh s i)]
  rfl

theorem replay_next_gen (cap : Option Nat) (s : State α) (c : Ctx) (v : α) :
    replayStep cap s (.next c v) = replay_next cap s c v := by
  obtain ⟨st, vals, obs, sub, drops⟩ := s
  cases st with
  | active => exact (push_gen cap _ c v).symm
  | errored ec e => rfl
  | completed => rfl

theorem replay_error_gen (cap : Option Nat) (s : State α) (c : Ctx) (e : Err) :
    replayStep cap s (.error c e) = replay_error cap s c e :=
  unsubscribeAll_arms _ replay_unsubscribeAll_gen _ _ _

theorem replay_complete_gen (cap : Option Nat) (s : State α) (c : Ctx) :
    replayStep cap s (.complete c) = replay_complete cap s c :=
  unsubscribeAll_arms _ replay_unsubscribeAll_gen _ _ _

theorem replay_unsubscribe_gen (cap : Option Nat) (s : State α) (i : Nat) :
    replayStep cap s (.unsubscribe i) = if (s.sub i).used then subUnsubscribe replay_td s i else s := rfl

theorem replay_init_gen (cap : Option Nat) : (Kind.replay cap : Kind α).init = replay_init := rfl

theorem replay_queries_gen (s : State α) :
    s.countObservers = replay_countObservers s ∧ s.hasObserver = replay_hasObserver s ∧ s.isClosed = replay_isClosed s
      ∧ s.hasThrown = replay_hasThrown s ∧ s.isCompleted = replay_isCompleted s :=
  ⟨rfl, hasObserver_gen s, rfl, rfl, rfl⟩

/-! ### async: `hasValue` / `value` is `values = []` / `values = [value]` -/

/-- the representation invariant of async's `hasValue` / `value` fields -/
def AtMostOneValue (s : State α) : Prop := s.values = [] ∨ ∃ p, s.values = [p]

theorem async_td_gen : async_td = TD.delete := rfl
theorem async_broadcastNext_gen (s : State α) (c : Ctx) (v : α) : async_broadcastNext s c v = broadcastNext s c v := rfl
theorem async_broadcastError_gen (s : State α) (c : Ctx) (e : Err) :
    async_broadcastError s c e = broadcastTerminal s (.error c e) := rfl
theorem async_broadcastComplete_gen (s : State α) (c : Ctx) :
    async_broadcastComplete s c = broadcastTerminal s (.complete c) := rfl
theorem async_unsubscribeAll_gen (s : State α) : async_unsubscribeAll s = unsubscribeAll s := unsubscribeAll_gen s

theorem async_subscribe_gen (s : State α) (h : AtMostOneValue s) (i : Nat) (c : Ctx) :
    asyncStep s (.subscribe i c) = if (s.sub i).used then s else async_subscribe s i c := by
  obtain ⟨st, vals, obs, sub, drops⟩ := s
  rcases h with rfl | ⟨p, rfl⟩ <;> rfl

theorem async_next_gen (s : State α) (c : Ctx) (v : α) : asyncStep s (.next c v) = async_next s c v := rfl

theorem async_error_gen (s : State α) (c : Ctx) (e : Err) : asyncStep s (.error c e) = async_error s c e :=
  unsubscribeAll_arms _ async_unsubscribeAll_gen _ _ _

theorem async_complete_gen (s : State α) (h : AtMostOneValue s) (c : Ctx) :
    asyncStep s (.complete c) = async_complete s c := by
  obtain ⟨st, vals, obs, sub, drops⟩ := s
  rcases h with rfl | ⟨p, rfl⟩ <;> exact unsubscribeAll_arms _ async_unsubscribeAll_gen _ _ _

theorem async_unsubscribe_gen (s : State α) (i : Nat) :
    asyncStep s (.unsubscribe i) = if (s.sub i).used then subUnsubscribe async_td s i else s := rfl

theorem async_init_gen : (Kind.async : Kind α).init = async_init := rfl

theorem async_queries_gen (s : State α) :
    s.countObservers = async_countObservers s ∧ s.hasObserver = async_hasObserver s ∧ s.isClosed = async_isClosed s
      ∧ s.hasThrown = async_hasThrown s ∧ s.isCompleted = async_isCompleted s :=
  ⟨rfl, hasObserver_gen s, rfl, rfl, rfl⟩

/-! ### unicast: the single `observer` field is `observers = []` / `observers = [o]` -/

theorem unicast_td_gen : unicast_td = TD.clear := rfl

theorem unicast_subscribe_gen (cap : Option Nat) (s : State α) (i : Nat) (c : Ctx) :
    unicastStep cap s (.subscribe i c) = if (s.sub i).used then s else unicast_subscribe cap s i c := rfl

theorem unicast_next_gen (cap : Option Nat) (s : State α) (c : Ctx) (v : α) :
    unicastStep cap s (.next c v) = unicast_next cap s c v := by
  obtain ⟨st, vals, obs, sub, drops⟩ := s
  cases st with
  | active =>
    cases obs with
    | nil => exact (push_gen cap _ c v).symm
    | cons o r => rfl
  | errored ec e => rfl
  | completed => rfl

theorem unicast_error_gen (cap : Option Nat) (s : State α) (c : Ctx) (e : Err) :
    unicastStep cap s (.error c e) = unicast_error cap s c e := rfl

theorem unicast_complete_gen (cap : Option Nat) (s : State α) (c : Ctx) :
    unicastStep cap s (.complete c) = unicast_complete cap s c := rfl

theorem unicast_unsubscribe_gen (cap : Option Nat) (s : State α) (i : Nat) :
    unicastStep cap s (.unsubscribe i) = if (s.sub i).used then subUnsubscribe unicast_td s i else s := rfl

theorem unicast_init_gen (cap : Option Nat) : (Kind.unicast cap : Kind α).init = unicast_init := rfl

theorem unicast_queries_gen (s : State α) (h : s.observers.length ≤ 1) :
    s.countObservers = unicast_countObservers s ∧ s.hasObserver = unicast_hasObserver s ∧ s.isClosed = unicast_isClosed s
      ∧ s.hasThrown = unicast_hasThrown s ∧ s.isCompleted = unicast_isCompleted s := by
  refine ⟨?_, ?_, rfl, rfl, rfl⟩
  · unfold State.countObservers unicast_countObservers
    match hs : s.observers with
    | [] => rfl
    | [_] => rfl
    | _ :: _ :: _ => simp [hs] at h
  · exact hasObserver_gen s

theorem subNext_values (s : State α) (i : Nat) (c : Ctx) (v : α) : (subNext s i c v).values = s.values := by
  unfold subNext; split <;> rfl

theorem runTeardown_values (m : TD) (s : State α) (i : Nat) : (runTeardown m s i).values = s.values := by
  unfold runTeardown
  split
  · cases m <;> rfl
  · rfl

theorem subTerminal_values (m : TD) (s : State α) (i : Nat) (n : Notif α) : (subTerminal m s i n).values = s.values := by
  unfold subTerminal
  rw [runTeardown_values]
  split <;> rfl

theorem subUnsubscribe_values (m : TD) (s : State α) (i : Nat) : (subUnsubscribe m s i).values = s.values := by
  unfold subUnsubscribe
  split
  · rw [runTeardown_values]; rfl
  · rfl

theorem foldl_values {β : Type} (f : State α → β → State α) (hf : ∀ s b, (f s b).values = s.values) (l : List β) (s : State α) :
    (l.foldl f s).values = s.values :=
  List.foldlRecOn (motive := fun t => t.values = s.values) l f rfl (fun t ht b _ => (hf t b).trans ht)

theorem broadcastNext_values (s : State α) (c : Ctx) (v : α) : (broadcastNext s c v).values = s.values :=
  foldl_values _ (fun s i => subNext_values s i c v) _ _

theorem broadcastTerminal_values (s : State α) (n : Notif α) : (broadcastTerminal s n).values = s.values :=
  foldl_values _ (fun s i => subTerminal_values .delete s i n) _ _

theorem replayTo_values (s : State α) (i : Nat) (vs : List (Ctx × α)) : (replayTo s i vs).values = s.values :=
  foldl_values (fun s (p : Ctx × α) => subNext s i p.1 p.2) (fun s p => subNext_values s i p.1 p.2) _ _

/-- the stored values change only in `NextWithContext` on a live subject (the four multicast subjects) -/
theorem multiStep_values (P : MP α) (s : State α) (o : Op α) :
    (multiStep P s o).values = match s.status, o with
      | .active, .next c v => (P.onNext s c v).values
      | _, _ => s.values := by
  cases o with
  | next c v => cases hs : s.status <;> simp only [multiStep, hs] <;> rfl
  | error c e =>
    simp only [multiStep, unsubscribeAll]
    cases s.status <;> simp only [broadcastTerminal_values] <;> rfl
  | complete c =>
    simp only [multiStep, unsubscribeAll, flushAll]
    cases s.status <;> simp only [broadcastTerminal_values]
    · split
      · exact foldl_values (fun s (p : Ctx × α) => broadcastNext s p.1 p.2) (fun s p => broadcastNext_values s p.1 p.2) _ _
      · rfl
    · rfl
    · rfl
  | subscribe i c =>
    have hrep : ∀ b, (rep b s i).values = s.values := fun b => by
      unfold rep; split
      · exact replayTo_values _ _ _
      · rfl
    simp only [multiStep]
    split
    · cases s.status <;> rfl
    · cases s.status <;> simp only [subTerminal_values, register, modSub_values, hrep] <;> rfl
  | unsubscribe i =>
    simp only [multiStep]
    split
    · rw [subUnsubscribe_values]; cases s.status <;> rfl
    · cases s.status <;> rfl

theorem behaviorStep_oneValue {s : State α} (h : OneValue s) (o : Op α) : OneValue (behaviorStep s o) := by
  unfold OneValue
  rw [behaviorStep_eq, multiStep_values]
  split
  · exact ⟨_, broadcastNext_values _ _ _⟩
  · exact h

theorem behavior_reachable (init : α) (ops : List (Op α)) : OneValue (run (.behavior init) ops) :=
  List.foldlRecOn ops _ ⟨_, rfl⟩ (fun _ h o _ => behaviorStep_oneValue h o)

theorem asyncStep_atMostOne {s : State α} (h : AtMostOneValue s) (o : Op α) : AtMostOneValue (asyncStep s o) := by
  unfold AtMostOneValue
  rw [asyncStep_eq, multiStep_values]
  split
  · exact Or.inr ⟨_, rfl⟩
  · exact h

theorem async_reachable (ops : List (Op α)) : AtMostOneValue (run (.async : Kind α) ops) :=
  List.foldlRecOn ops _ (Or.inl rfl) (fun _ h o _ => asyncStep_atMostOne h o)

/-- the client conventions of RoModel/Subjects.lean around the regenerated methods: `Subscribe i` on an
    identity already used and `Unsubscribe i` without a subscription are not issued -/
def guardSub (s : State α) (i : Nat) (t : State α) : State α := if (s.sub i).used then s else t
def guardUnsub (m : TD) (s : State α) (i : Nat) : State α := if (s.sub i).used then subUnsubscribe m s i else s

/-- one operation executed by the definitions regenerated from subject_*.go -/
def genStep : Kind α → State α → Op α → State α
  | .publish, s, .subscribe i c => guardSub s i (publish_subscribe s i c)
  | .publish, s, .next c v => publish_next s c v
  | .publish, s, .error c e => publish_error s c e
  | .publish, s, .complete c => publish_complete s c
  | .publish, s, .unsubscribe i => guardUnsub publish_td s i
  | .behavior _, s, .subscribe i c => guardSub s i (behavior_subscribe s i c)
  | .behavior _, s, .next c v => behavior_next s c v
  | .behavior _, s, .error c e => behavior_error s c e
  | .behavior _, s, .complete c => behavior_complete s c
  | .behavior _, s, .unsubscribe i => guardUnsub behavior_td s i
  | .replay cap, s, .subscribe i c => guardSub s i (replay_subscribe cap s i c)
  | .replay cap, s, .next c v => replay_next cap s c v
  | .replay cap, s, .error c e => replay_error cap s c e
  | .replay cap, s, .complete c => replay_complete cap s c
  | .replay _, s, .unsubscribe i => guardUnsub replay_td s i
  | .async, s, .subscribe i c => guardSub s i (async_subscribe s i c)
  | .async, s, .next c v => async_next s c v
  | .async, s, .error c e => async_error s c e
  | .async, s, .complete c => async_complete s c
  | .async, s, .unsubscribe i => guardUnsub async_td s i
  | .unicast cap, s, .subscribe i c => guardSub s i (unicast_subscribe cap s i c)
  | .unicast cap, s, .next c v => unicast_next cap s c v
  | .unicast cap, s, .error c e => unicast_error cap s c e
  | .unicast cap, s, .complete c => unicast_complete cap s c
  | .unicast _, s, .unsubscribe i => guardUnsub unicast_td s i

def genInit : Kind α → State α
  | .publish => publish_init
  | .behavior v => behavior_init v
  | .replay _ => replay_init
  | .async => async_init
  | .unicast _ => unicast_init

/-- the representation invariant of a kind (trivial for publish, replay, unicast) -/
def RepInv : Kind α → State α → Prop
  | .behavior _, s => OneValue s
  | .async, s => AtMostOneValue s
  | _, _ => True

theorem step_gen (k : Kind α) (s : State α) (h : RepInv k s) (o : Op α) : k.step s o = genStep k s o := by
  cases k with
  | publish =>
    cases o with
    | subscribe i c => exact publish_subscribe_gen s i c
    | next c v => exact publish_next_gen s c v
    | error c e => exact publish_error_gen s c e
    | complete c => exact publish_complete_gen s c
    | unsubscribe i => rfl
  | behavior init =>
    cases o with
    | subscribe i c => exact behavior_subscribe_gen s h i c
    | next c v => exact behavior_next_gen s c v
    | error c e => exact behavior_error_gen s c e
    | complete c => exact behavior_complete_gen s c
    | unsubscribe i => rfl
  | replay cap =>
    cases o with
    | subscribe i c => exact replay_subscribe_gen cap s i c
    | next c v => exact replay_next_gen cap s c v
    | error c e => exact replay_error_gen cap s c e
    | complete c => exact replay_complete_gen cap s c
    | unsubscribe i => rfl
  | async =>
    cases o with
    | subscribe i c => exact async_subscribe_gen s h i c
    | next c v => exact async_next_gen s c v
    | error c e => exact async_error_gen s c e
    | complete c => exact async_complete_gen s h c
    | unsubscribe i => rfl
  | unicast cap =>
    cases o with
    | subscribe i c => exact unicast_subscribe_gen cap s i c
    | next c v => exact unicast_next_gen cap s c v
    | error c e => exact unicast_error_gen cap s c e
    | complete c => exact unicast_complete_gen cap s c
    | unsubscribe i => rfl

theorem repInv_step (k : Kind α) {s : State α} (h : RepInv k s) (o : Op α) : RepInv k (k.step s o) := by
  cases k with
  | behavior init => exact behaviorStep_oneValue h o
  | async => exact asyncStep_atMostOne h o
  | publish => trivial
  | replay cap => trivial
  | unicast cap => trivial

theorem repInv_init (k : Kind α) : RepInv k k.init := by
  cases k with
  | behavior init => exact ⟨_, rfl⟩
  | async => exact Or.inl rfl
  | publish => trivial
  | replay cap => trivial
  | unicast cap => trivial

theorem init_gen (k : Kind α) : k.init = genInit k := by cases k <;> rfl

/-- two step functions that agree on the states satisfying an invariant of the first have the same runs from such a state -/
theorem foldl_congr_of_inv {σ ο : Type} {f g : σ → ο → σ} {Q : σ → Prop} (hQ : ∀ s o, Q s → Q (f s o))
    (hfg : ∀ s o, Q s → f s o = g s o) : ∀ (l : List ο) (s : σ), Q s → l.foldl f s = l.foldl g s
  | [], _, _ => rfl
  | o :: l, s, h => by
    rw [List.foldl_cons, List.foldl_cons, ← hfg s o h]
    exact foldl_congr_of_inv hQ hfg l _ (hQ s o h)

/-- **The model's runs are the regenerated code's runs**: for every kind, buffer size and operation
    sequence, the state reached by the hand-written step functions (the ones every C10 theorem is
    about) is the state reached by executing the definitions regenerated from subject_*.go. -/
theorem run_gen (k : Kind α) (ops : List (Op α)) : run k ops = ops.foldl (genStep k) (genInit k) := by
  rw [← init_gen]
  exact foldl_congr_of_inv (fun _ o h => repInv_step k h o) (fun s o h => step_gen k s h o) ops _ (repInv_init k)

/-- the queries read after every step of the correspondence are the regenerated ones, in every
    reachable state (unicast: `CountObservers` returns 0 or 1) -/
theorem unicast_queries_run_gen (cap : Option Nat) (ops : List (Op α)) :
    let s := run (.unicast cap) ops
    s.countObservers = unicast_countObservers s ∧ s.hasObserver = unicast_hasObserver s ∧ s.isClosed = unicast_isClosed s
      ∧ s.hasThrown = unicast_hasThrown s ∧ s.isCompleted = unicast_isCompleted s :=
  unicast_queries_gen _ (unicast_one_observer cap ops)

/-! ### the translator read everything -/

theorem nothing_skipped : RoGen.Subj.skipped = [] := by decide

theorem translated_names : RoGen.Subj.translated =
    ["publish_td", "publish_broadcastNext", "publish_broadcastError", "publish_broadcastComplete", "publish_unsubscribeAll",
     "publish_subscribe", "publish_next", "publish_error", "publish_complete", "publish_init",
     "publish_hasObserver", "publish_countObservers", "publish_isClosed", "publish_hasThrown", "publish_isCompleted",
     "behavior_td", "behavior_broadcastNext", "behavior_broadcastError", "behavior_broadcastComplete", "behavior_unsubscribeAll",
     "behavior_subscribe", "behavior_next", "behavior_error", "behavior_complete", "behavior_init",
     "behavior_hasObserver", "behavior_countObservers", "behavior_isClosed", "behavior_hasThrown", "behavior_isCompleted",
     "replay_td", "replay_broadcastNext", "replay_broadcastError", "replay_broadcastComplete", "replay_unsubscribeAll",
     "replay_subscribe", "replay_next", "replay_error", "replay_complete", "replay_init",
     "replay_hasObserver", "replay_countObservers", "replay_isClosed", "replay_hasThrown", "replay_isCompleted",
     "async_td", "async_broadcastNext", "async_broadcastError", "async_broadcastComplete", "async_unsubscribeAll",
     "async_subscribe", "async_next", "async_error", "async_complete", "async_init",
     "async_hasObserver", "async_countObservers", "async_isClosed", "async_hasThrown", "async_isCompleted",
     "unicast_td", "unicast_subscribe", "unicast_next", "unicast_error", "unicast_complete", "unicast_init",
     "unicast_hasObserver", "unicast_countObservers", "unicast_isClosed", "unicast_hasThrown", "unicast_isCompleted"] := rfl

/-! ### non-vacuity: the regenerated definitions compute -/

example : ((([Op.subscribe 0 (Ctx.bg), .next Ctx.bg 7, .next Ctx.bg 8, .subscribe 1 Ctx.bg, .complete Ctx.bg] : List (Op Nat)).foldl
    (genStep (.replay (some 1))) (genInit (.replay (some 1)))).sub 1).got = [.next Ctx.bg 8, .complete Ctx.bg] := by decide

example : ((([Op.next Ctx.bg 7, .next Ctx.bg 8, .subscribe 0 Ctx.bg, .next Ctx.bg 9] : List (Op Nat)).foldl
    (genStep (.unicast none)) (genInit (.unicast none))).sub 0).got = [.next Ctx.bg 7, .next Ctx.bg 8, .next Ctx.bg 9] := by decide

end Ro.C10gen

#print axioms Ro.C10gen.foldl_filter_observers
#print axioms Ro.C10gen.unsubscribeAll_gen
#print axioms Ro.C10gen.publish_td_gen
#print axioms Ro.C10gen.publish_broadcastNext_gen
#print axioms Ro.C10gen.publish_broadcastError_gen
#print axioms Ro.C10gen.publish_broadcastComplete_gen
#print axioms Ro.C10gen.publish_unsubscribeAll_gen
#print axioms Ro.C10gen.publish_subscribe_gen
#print axioms Ro.C10gen.publish_next_gen
#print axioms Ro.C10gen.publish_error_gen
#print axioms Ro.C10gen.publish_complete_gen
#print axioms Ro.C10gen.publish_unsubscribe_gen
#print axioms Ro.C10gen.publish_init_gen
#print axioms Ro.C10gen.publish_queries_gen
#print axioms Ro.C10gen.behavior_td_gen
#print axioms Ro.C10gen.behavior_broadcastNext_gen
#print axioms Ro.C10gen.behavior_broadcastError_gen
#print axioms Ro.C10gen.behavior_broadcastComplete_gen
#print axioms Ro.C10gen.behavior_unsubscribeAll_gen
#print axioms Ro.C10gen.behavior_subscribe_gen
#print axioms Ro.C10gen.behavior_next_gen
#print axioms Ro.C10gen.behavior_error_gen
#print axioms Ro.C10gen.behavior_complete_gen
#print axioms Ro.C10gen.behavior_unsubscribe_gen
#print axioms Ro.C10gen.behavior_init_gen
#print axioms Ro.C10gen.behavior_queries_gen
#print axioms Ro.C10gen.replay_td_gen
#print axioms Ro.C10gen.replay_broadcastNext_gen
#print axioms Ro.C10gen.replay_broadcastError_gen
#print axioms Ro.C10gen.replay_broadcastComplete_gen
#print axioms Ro.C10gen.replay_unsubscribeAll_gen
#print axioms Ro.C10gen.push_gen
#print axioms Ro.C10gen.foldl_subNext_status
#print axioms Ro.C10gen.replay_subscribe_gen
#print axioms Ro.C10gen.replay_next_gen
#print axioms Ro.C10gen.replay_error_gen
#print axioms Ro.C10gen.replay_complete_gen
#print axioms Ro.C10gen.replay_unsubscribe_gen
#print axioms Ro.C10gen.replay_init_gen
#print axioms Ro.C10gen.replay_queries_gen
#print axioms Ro.C10gen.async_td_gen
#print axioms Ro.C10gen.async_broadcastNext_gen
#print axioms Ro.C10gen.async_broadcastError_gen
#print axioms Ro.C10gen.async_broadcastComplete_gen
#print axioms Ro.C10gen.async_unsubscribeAll_gen
#print axioms Ro.C10gen.async_subscribe_gen
#print axioms Ro.C10gen.async_next_gen
#print axioms Ro.C10gen.async_error_gen
#print axioms Ro.C10gen.async_complete_gen
#print axioms Ro.C10gen.async_unsubscribe_gen
#print axioms Ro.C10gen.async_init_gen
#print axioms Ro.C10gen.async_queries_gen
#print axioms Ro.C10gen.unicast_td_gen
#print axioms Ro.C10gen.unicast_subscribe_gen
#print axioms Ro.C10gen.unicast_next_gen
#print axioms Ro.C10gen.unicast_error_gen
#print axioms Ro.C10gen.unicast_complete_gen
#print axioms Ro.C10gen.unicast_unsubscribe_gen
#print axioms Ro.C10gen.unicast_init_gen
#print axioms Ro.C10gen.unicast_queries_gen
#print axioms Ro.C10gen.subNext_values
#print axioms Ro.C10gen.runTeardown_values
#print axioms Ro.C10gen.subTerminal_values
#print axioms Ro.C10gen.subUnsubscribe_values
#print axioms Ro.C10gen.foldl_values
#print axioms Ro.C10gen.broadcastNext_values
#print axioms Ro.C10gen.broadcastTerminal_values
#print axioms Ro.C10gen.replayTo_values
#print axioms Ro.C10gen.multiStep_values
#print axioms Ro.C10gen.behaviorStep_oneValue
#print axioms Ro.C10gen.behavior_reachable
#print axioms Ro.C10gen.asyncStep_atMostOne
#print axioms Ro.C10gen.async_reachable
#print axioms Ro.C10gen.step_gen
#print axioms Ro.C10gen.repInv_step
#print axioms Ro.C10gen.repInv_init
#print axioms Ro.C10gen.init_gen
#print axioms Ro.C10gen.run_gen
#print axioms Ro.C10gen.unicast_queries_run_gen
#print axioms Ro.C10gen.nothing_skipped
#print axioms Ro.C10gen.translated_names
