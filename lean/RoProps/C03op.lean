/-
  C03, operator-level half — teardowns below operators run exactly once; a panicking teardown stops
  none of the others; the panic is re-raised to the caller of Unsubscribe after all of them have
  run, wrapped as an unsubscription error; once the downstream side is closed the source is released.
  (The kernel half — races between Complete / Error / Unsubscribe / Add under every schedule — is
  RoProps/C03.lean.)

  (1) the finalizer loop of subscription.go:114-150 over arbitrary TREES of subscriptions (an
      operator's teardown is the Unsubscribe of another subscription) and arbitrary subsets of
      panicking teardowns: `teardown_tree`, `teardown_every_subset`, `teardown_flat`;
  (2) that tree is the right model for a set-up is read from the operator's code
      (RoModel/Drivers/Cut.lean `setupTree`) and compared with the running code on every run
      (kind `teardown`); `setups_isolated` decides that EVERY set-up tree the driver uses is in the
      domain of (1) — no exception since fix 694a874;
  (3) `ObserveOn`/`SubscribeOn` (detachOn), `ThrowOnContextCancel` and `ToChannel` release their
      goroutine / channel in a deferred action of the teardown closure (fix 694a874; before it the
      release followed the upstream `Unsubscribe` unisolated and a panicking teardown skipped it):
      `deferred_release` — the release runs and the panic still reaches the caller;
  (4) release: `released`, `released_from_inside` (machines; the facts that make the model apply
      to an operator are decided in RoProps/C14.lean `table_ok`).
-/
import RoProofs.CutIn
import RoModel.Drivers.Cut
namespace Ro.C03op
open Ro Ro.Driver.Drivers.Cut

/-- **C03, panicking teardowns, every tree of subscriptions** (no unisolated multi-action closure:
    `closureFree`; see `closure_skips_witness` for what such a closure does).
    `Unsubscribe` runs every teardown reachable from the subscription exactly once, depth first — a
    panic stops nothing; it raises nothing when nothing panicked; otherwise it raises, after the
    loop, a join of unsubscription errors whose root causes are exactly the values the panicking
    teardowns panicked with, in the order they ran. -/
theorem teardown_tree (fs : List Fin) (hc : Fin.closureFreeL fs = true) :
    (unsubscribe fs).1 = Fin.idsL fs ∧
    ((unsubscribe fs).2 = none ↔ Fin.panicsL fs = []) ∧
    (∀ e, (unsubscribe fs).2 = some e → e.isJoinOfUn = true ∧ e.leaves = Fin.panicsL fs) := by
  have hl := Fin.loop_leaves fs hc
  refine ⟨Fin.loop_log fs hc, ?_, fun e he => ?_⟩ <;> simp only [unsubscribe, Fin.run] at *
  · cases hL : (Fin.loop fs).2 with
    | nil => simpa [hL, TErr.leavesL] using hl.symm
    | cons e es => simpa using fun h => by simp [Fin.loop_nil fs h] at hL
  · split at he <;> cases he
    exact ⟨Bool.and_eq_true _ _ ▸ ⟨by simp_all, Fin.loop_all_un fs⟩, hl⟩

/-- the shape of the tree does not matter for the normal form -/
theorem teardown_normal (fs : List Fin) (hc : Fin.closureFreeL fs = true) :
    normalize (unsubscribe fs) = (Fin.idsL fs, if Fin.panicsL fs = [] then none else some (Fin.panicsL fs)) := by
  obtain ⟨h1, h2, h3⟩ := teardown_tree fs hc
  unfold normalize
  rw [h1]
  cases h : (unsubscribe fs).2 with
  | none => simp [h2.1 h]
  | some e =>
    have hne : Fin.panicsL fs ≠ [] := fun hh => by rw [h2.2 hh] at h; cases h
    simp [hne, (h3 e h).2]

/-- … for every subset of panicking teardowns (`pan` chooses who panics and with what) -/
theorem teardown_every_subset (fs : List Fin) (hc : Fin.closureFreeL fs = true) (pan : Nat → Option Err) :
    normalize (unsubscribe (Fin.assignL pan fs)) =
      (Fin.idsL fs, if (Fin.uidsL fs).filterMap pan = [] then none else some ((Fin.uidsL fs).filterMap pan)) := by
  rw [teardown_normal _ (by rw [Fin.assignL_closureFree]; exact hc), Fin.assignL_ids, Fin.assignL_panics]

/-- one subscription, user teardowns only: the exact value raised -/
theorem teardown_flat (l : List (Nat × Option Err)) :
    unsubscribe (l.map (fun p => Fin.leaf p.1 p.2)) =
      (l.map (·.1),
       if (l.filterMap (·.2)).isEmpty then none
       else some (.join (l.filterMap (fun p => p.2.map (fun e => TErr.un (.val e)))))) := by
  have h : Fin.loop (l.map (fun p => Fin.leaf p.1 p.2)) =
      (l.map (·.1), l.filterMap (fun p => p.2.map (fun e => TErr.un (.val e)))) := by
    induction l with
    | nil => rfl
    | cons p ps ih =>
      simp only [List.map_cons, Fin.loop, ih, Fin.run]
      cases hp : p.2 <;> simp [hp]
  have hE : (l.filterMap (fun p => p.2.map (fun e => TErr.un (.val e)))).isEmpty = (l.filterMap (·.2)).isEmpty := by
    clear h
    induction l with
    | nil => rfl
    | cons p ps ih => cases hp : p.2 <;> simp [hp, ih]
  simp only [unsubscribe, Fin.run, h, hE]

/-- nothing panics: every teardown once, nothing raised — whatever the shape, closures included -/
theorem teardown_quiet (fs : List Fin) (h : Fin.panicsL fs = []) : unsubscribe fs = (Fin.idsL fs, none) :=
  Prod.ext (Fin.run_log_quiet (.sub fs) h) (Fin.run_none (.sub fs) h)

/-- the set-ups whose teardown closure performs a second release after the upstream Unsubscribe
    without isolating it: none (ObserveOn and ThrowOnContextCancel were, before fix 694a874) -/
def knownUnisolated : List (String × String) := []

def allSetups : List (String × String) :=
  [("plain", ""), ("tapAbove", ""), ("tapBelow", ""), ("merge", ""), ("merge3", ""), ("takeUntil", ""), ("combineLatest", ""),
   ("leak", "ObserveOn"), ("leak", "ThrowOnContextCancel"), ("leak", "Delay"), ("leak", "Timeout"), ("leak", "ToChannel"),
   ("leak", "BufferWithTime"), ("leak", "BufferWithTimeOrCount"), ("leak", "SampleTime"), ("leak", "ThrottleTime"),
   ("leak", "TakeUntilInterval"), ("leak", "MergeWithInterval")]

/-- every set-up tree the driver uses (`setupTree`, all set-ups and both kinds of ending) is in the
    domain of `teardown_tree`: none contains an unisolated multi-action closure. This is a statement
    about the MODELLED set-ups only — the teardown closures of `GroupBy` and `ShareWithConfig`
    (release after `sub.Unsubscribe()`, not observable as a library goroutine) are not among them. -/
theorem setups_isolated :
    allSetups.all (fun s => ["unsub", "complete"].all (fun e =>
      match setupTree s.1 e s.2 with
      | none => true
      | some t => Fin.closureFreeL t == !(knownUnisolated.contains s))) = true := by decide +kernel

/-- a deferred release runs although the teardown below it panics, and the panic reaches the caller -/
theorem deferred_release :
    normalize (unsubscribe [.deferred (.sub [.sub [.leaf 1 (some (.user 5))]]) [90]]) = ([1, 90], some [.user 5]) := by
  decide

/-- closed downstream ⇒ the source is released (hot source, every machine, every script) -/
theorem released {σ α β : Type} (m : Machine σ α β) (sub : Ctx) (raw : List (Notif α)) (hs : m.subscribes = true) :
    (runOp m .hot sub raw).downOpen = false → (runOp m .hot sub raw).upOpen = false :=
  runOp_hot_released m sub raw hs

/-- … also when the subscription is closed from inside a callback -/
theorem released_from_inside {σ α β : Type} (m : Machine σ α β) (sub : Ctx) (raw : List (Notif α)) {k : Nat} (hk : 0 < k)
    (hs : m.subscribes = true) (h : k ≤ (runOp m .hot sub raw).out.length) :
    (runOpCutIn m sub raw k).downOpen = false ∧ (runOpCutIn m sub raw k).upOpen = false :=
  runOpCutIn_released m sub raw hk hs h

/-! ### non-vacuity -/
-- three teardowns, the first and the last panic: all run, in order; two root causes, in order
example : normalize (unsubscribe [.leaf 1 (some (.user 5)), .leaf 2 none, .leaf 3 (some (.panicVal 6))])
    = ([1, 2, 3], some [.user 5, .panicVal 6]) := by decide
-- the same teardowns behind an operator's upstream subscriber and a composite subscription
example : normalize (unsubscribe [.sub [.leaf 1 (some (.user 5))], .sub [.sub [.leaf 2 none], .sub [.leaf 3 (some (.panicVal 6))]]])
    = ([1, 2, 3], some [.user 5, .panicVal 6]) := by decide
example : (unsubscribe [.sub [.leaf 1 (some (.user 5))], .leaf 2 none]).2.map TErr.isJoinOfUn = some true := by decide

end Ro.C03op

#print axioms Ro.C03op.teardown_tree
#print axioms Ro.C03op.teardown_every_subset
#print axioms Ro.C03op.teardown_flat
#print axioms Ro.C03op.teardown_quiet
#print axioms Ro.C03op.setups_isolated
#print axioms Ro.C03op.deferred_release
#print axioms Ro.C03op.released
#print axioms Ro.C03op.released_from_inside
