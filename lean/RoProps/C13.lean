/-
  C13 — goroutine-safe parts of the API are free of data races.

  (1) `no_data_race` (RoProofs.Lockset): the lockset theorem in the abstract machine of
      RoModel.Lockset — any number of threads, any schedule; accesses are atomic / under locks /
      plain; locks are acquired only when free; invariant "each lock has at most one holder and a
      thread at an `under L` access holds L" by induction over the schedule. If every conflicting
      pair that is not ordered by a *named* structural rule is (both atomic) ∨ (common lock), no
      reachable state that respects those orderings has two different threads simultaneously at
      conflicting accesses that are not both atomic.
  (2) `table_ok`: the per-pair predicate, decided by the kernel on the `Locksets` table that
      go/extract/locksets.go regenerates from the source on every run (one row per access to a field
      of a kernel struct or to a shared captured variable of an operator).
  (3) `table_race_free_partial`: the per-pair step of (1) (`atomic_of_pair`), with (2) for its
      hypothesis: no data race among the recorded accesses of any location outside `knownRacy`.

  What is assumed (trusted base, besides the extractor): the four orderings of
  `Ro.Lockset.tableOrderings` are respected by real executions —
    initBeforePublication            a literal that mentions a variable is created after the write
                                     that precedes it in the same function; a struct is not shared
                                     before its constructor returns;
    subscribeBodyBeforeTeardown      observable.go:310 registers the teardown after the subscribe
                                     function returned, and a subscription runs it once (C03);
    sameSequentialSource             a source delivers the callbacks of one subscription one at a
                                     time (C02 for safe sources, the Observable contract otherwise);
    awaitedSourceBeforeContinuation  Subscription.Wait() returns after the subscription was torn
                                     down, which follows its terminal callback (subscriber.go:218,240).

  Current tree: four locations fail the predicate (`knownRacy`), each confirmed with the race
  detector on the real code (harness kind `race`); the repaired ones are recorded in
  known_findings.jsonl (`fixed:` lines). The full statement is
  `tableOk [] RoGen.Locksets.table = true`; it is false on the pinned tree (the check names the failing pairs).
-/
import RoProofs.Lockset
import RoGen.Locksets
namespace Ro.C13
open Ro Ro.Lockset Ro.LockFacts

/-- the lockset theorem (any number of threads, any schedule) -/
theorem no_data_race {T L A Loc : Type} [DecidableEq T] (acc : A → Acc Loc L) (o : Orderings A)
    (hpairs : ∀ a b, Conflict (acc a) (acc b) → ¬ o.ordered a b →
      ((acc a).isAtomic ∧ (acc b).isAtomic) ∨ ∃ l, l ∈ (acc a).locks ∧ l ∈ (acc b).locks)
    (xs : List (Action T L A)) (s : State T L A) (hrun : Run acc State.init xs s) (hresp : Respects o s) :
    ¬ Race acc s :=
  Ro.Lockset.no_data_race acc o hpairs xs s hrun hresp

/-- the invariant behind it: after every schedule each lock has at most one holder and a thread at
    an `under L` access holds L -/
theorem lock_invariant {T L A Loc : Type} [DecidableEq T] (acc : A → Acc Loc L)
    (xs : List (Action T L A)) (s : State T L A) (hrun : Run acc State.init xs s) : Inv acc s :=
  inv_run acc hrun (inv_init acc)

/-- every location of the regenerated table outside `knownRacy` satisfies the per-pair predicate -/
theorem table_ok : tableOk knownRacy RoGen.Locksets.table = true := by
  rw [← tableCheck_eq]
  decide +kernel

/-- no data race among the recorded accesses of the locations that are not listed -/
theorem table_race_free_partial {T : Type} [DecidableEq T]
    (xs : List (Action T Nat TAcc)) (s : State T Nat TAcc) (hrun : Run tacc State.init xs s)
    (hresp : Respects tableOrderings s)
    (l : Loc) (hl : l ∈ RoGen.Locksets.table) (hk : knownRacy.contains l.name = false)
    (th u : T) (a b : Access) (hne : th ≠ u) (ha : a ∈ l.rows) (hb : b ∈ l.rows)
    (hca : s.cur th = some (l.name, a)) (hcb : s.cur u = some (l.name, b))
    (hw : a.write = true ∨ b.write = true) :
    a.prot.isAtomic = true ∧ b.prot.isAtomic = true :=
  table_race_free knownRacy RoGen.Locksets.table table_ok xs s hrun hresp l hl hk th u a b hne ha hb hca hcb hw

/-! ### deviation witnesses (rows as on the pinned tree; independent of the regenerated table) -/

/-- connectable: `s.subject` written by the disconnect finalizer without `s.mu` (observable.go:551)
    against the read under `s.mu` in ConnectWithContext (:547) -/
theorem connectable_subject_witness :
    pairOk { line := 547, write := false, fn := "connectableObservableImpl.ConnectWithContext", ctx := .method, prot := .under [1] }
           { line := 551, write := true, fn := "connectableObservableImpl.ConnectWithContext", ctx := .method, prot := .none } = false := by decide

/-- ObserveOn / SubscribeOn (detachOn), ToChannel: the teardown closes the hand-off channel
    (write of its open/closed state, operator_utility.go:585) while a source callback may be
    sending on it (read, :597); the two contexts are not ordered and neither holds a lock -/
theorem handoff_close_witness :
    pairOk { line := 597, write := false, fn := "detachOn", ctx := .sourceCb 593 false, prot := .sameSequentialSource }
           { line := 585, write := true, fn := "detachOn", ctx := .teardown, prot := .subscribeBodyBeforeTeardown } = false := by decide

/-- what the repaired GroupBy looks like: teardown and callbacks only call sync.Map methods -/
example : pairOk { line := 365, write := true, fn := "GroupByIWithContext", ctx := .sourceCb 358 false, prot := .atomic }
                 { line := 345, write := true, fn := "GroupByIWithContext", ctx := .teardown, prot := .atomic } = true := by decide

-- non-vacuity of the rules: each accepts the situation it is named after and nothing weaker
example : pairOk { line := 1, write := true, fn := "f", ctx := .body, prot := .initBeforePublication }
                 { line := 2, write := false, fn := "f", ctx := .sourceCb 3 true, prot := .none } = true := by decide
example : pairOk { line := 1, write := true, fn := "f", ctx := .body, prot := .subscribeBodyBeforeTeardown }
                 { line := 2, write := true, fn := "f", ctx := .teardown, prot := .subscribeBodyBeforeTeardown } = true := by decide
example : pairOk { line := 1, write := true, fn := "f", ctx := .sourceCb 3 false, prot := .sameSequentialSource }
                 { line := 2, write := true, fn := "f", ctx := .sourceCb 3 false, prot := .sameSequentialSource } = true := by decide
example : pairOk { line := 1, write := true, fn := "f", ctx := .sourceCb 3 false, prot := .sameSequentialSource }
                 { line := 2, write := true, fn := "f", ctx := .sourceCb 4 false, prot := .sameSequentialSource } = false := by decide
example : pairOk { line := 1, write := true, fn := "f", ctx := .sourceCb 3 true, prot := .none }
                 { line := 1, write := true, fn := "f", ctx := .sourceCb 3 true, prot := .none } = false := by decide
example : pairOk { line := 1, write := true, fn := "f", ctx := .awaitedCb 3, prot := .awaitedSourceBeforeContinuation }
                 { line := 2, write := false, fn := "f", ctx := .body, prot := .subscribeBodyBeforeTeardown } = true := by decide
example : pairOk { line := 1, write := true, fn := "f", ctx := .method, prot := .under [1, 2] }
                 { line := 2, write := true, fn := "f", ctx := .method, prot := .under [2] } = true := by decide
example : pairOk { line := 1, write := true, fn := "f", ctx := .method, prot := .under [1] }
                 { line := 2, write := false, fn := "f", ctx := .method, prot := .atomic } = false := by decide

end Ro.C13

#print axioms Ro.C13.no_data_race
#print axioms Ro.C13.lock_invariant
#print axioms Ro.C13.table_ok
#print axioms Ro.C13.table_race_free_partial
#print axioms Ro.C13.connectable_subject_witness
#print axioms Ro.C13.handoff_close_witness
