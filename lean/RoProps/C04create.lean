/-
  C04 (generated creation operators) — the tie between the script generators and operator_creation.go, tightened
  by a translator.

  `go/extract` (gengen.go) re-translates, on every run, the bodies of the synchronous creation operators Of (Just),
  Start, Range, Repeat, FromSlice, Empty and Throw into `Ro.Gen` values built from the statement combinators of
  RoModel/Ops/CreateGen.lean (lean/RoGen/GenGen.lean, namespace RoGen.Gen). This file proves, for ALL parameters,
  that each regenerated generator EQUALS the hand-written generator of RoModel/Ops/Create.lean — the one the C04
  creation theorems (generator = documented script, RoProofs/Ops/CreateSpecs.lean) and the correspondence are about.
  For Range the Go loop `for cursor*sign < end*sign` is translated with a fuel parameter; the equality is proved for
  every fuel ≥ |end − start| (the loop provably ends within that many iterations).
-/
import RoModel.Ops.CreateGen
import RoProofs.Ops.CreateSpecs
import RoGen.GenGen
namespace Ro.C04create
open Ro Ro.GenB
variable {α β : Type}

/-! ### the combinators on a run that has not panicked -/

theorem emit_ok (n : Notif α) (e : Emission α) (h : e.panic = none) :
    emit n e = { e with script := e.script ++ [n] } := by
  unfold emit; rw [h]

theorem forEach_emit (f : β → Notif α) (xs : List β) (e : Emission α) (h : e.panic = none) :
    forEach xs (fun x => emit (f x)) e = { e with script := e.script ++ xs.map f } := by
  unfold forEach
  induction xs generalizing e with
  | nil => simp
  | cons x xs ih =>
    simp only [List.foldl_cons]
    rw [emit_ok (f x) e h, ih { e with script := e.script ++ [f x] } h]
    simp [List.append_assoc]

theorem forEach_forEach_emit {γ : Type} (g : β → List γ) (f : γ → Notif α) (xs : List β) (e : Emission α)
    (h : e.panic = none) :
    forEach xs (fun x => forEach (g x) (fun y => emit (f y))) e
      = { e with script := e.script ++ xs.flatMap (fun x => (g x).map f) } := by
  induction xs generalizing e with
  | nil => simp [forEach]
  | cons x xs ih =>
    have h1 := forEach_emit f (g x) e h
    show forEach xs _ (forEach (g x) (fun y => emit (f y)) e) = _
    rw [h1, ih { e with script := e.script ++ (g x).map f } h]
    simp [List.append_assoc]

/-! ### the generators -/

theorem emptyG_gen : (RoGen.Gen.emptyG : Gen α) = Ro.emptyG := rfl

theorem throwG_gen (e : Err) : (RoGen.Gen.throwG e : Gen α) = Ro.throwG e := rfl

theorem ofG_gen (vs : List α) : RoGen.Gen.ofG vs = Ro.ofG vs := by
  funext c
  unfold RoGen.Gen.ofG Ro.ofG run seq
  rw [forEach_emit (fun v => Notif.next c v) vs _ rfl, emit_ok _ _ rfl]
  simp only [List.nil_append, foldr_next_eq]

theorem startG_gen (cb : Outcome α) : RoGen.Gen.startG cb = Ro.startG cb := by
  funext c
  cases cb <;> rfl

theorem fromSliceG_gen (vss : List (List α)) : RoGen.Gen.fromSliceG vss = Ro.fromSliceG vss := by
  funext c
  unfold RoGen.Gen.fromSliceG Ro.fromSliceG run seq
  rw [forEach_forEach_emit (fun vs => vs) (fun v => Notif.next c v) vss _ rfl, emit_ok _ _ rfl]
  simp only [List.nil_append]
  congr 1
  induction vss with
  | nil => rfl
  | cons vs vss ih =>
    simp only [List.flatMap_cons, List.foldr_cons, List.append_assoc]
    rw [ih, foldr_next_eq]

theorem repeatG_gen (item : α) (count : Nat) : RoGen.Gen.repeatG item count = Ro.repeatG item count := by
  unfold RoGen.Gen.repeatG Ro.repeatG
  split
  · exact emptyG_gen
  · funext c
    unfold run seq forCount
    rw [forEach_emit (fun _ => Notif.next c item) (List.range count) _ rfl, emit_ok _ _ rfl, repeatLoop_eq]
    simp [List.map_const']

theorem forWhileStep_emit (sign step endv : Int) (c : Ctx) (fuel : Nat) (cur : Int) (e : Emission Int) (h : e.panic = none) :
    forWhile (fun cursor => decide (cursor * sign < endv * sign)) (fun cursor => cursor + step * sign)
        (fun cursor => emit (.next c cursor)) fuel cur e
      = { e with script := e.script ++ (rangeStepLoop sign step endv fuel cur).map (Notif.next c) } := by
  induction fuel generalizing cur e with
  | zero => simp [forWhile, rangeStepLoop, skip]
  | succ n ih =>
    unfold forWhile rangeStepLoop
    by_cases hc : cur * sign < endv * sign
    · simp only [hc, decide_true, if_true, seq]
      rw [emit_ok _ _ h, ih (cur + step * sign) { e with script := e.script ++ [Notif.next c cur] } h]
      simp [List.append_assoc]
    · simp [hc, skip]

/-- RangeWithStep (integral bounds, positive integral step — the constructor panics otherwise): the regenerated
    generator is the hand-written one for EVERY fuel that covers the distance -/
theorem rangeWithStepG_gen (start endv : Int) (s : Nat) (hs : 0 < s) (fuel : Nat) (hf : (endv - start).natAbs ≤ fuel) :
    RoGen.Gen.rangeWithStepG start endv (s : Int) fuel = Ro.rangeStepG start endv (s : Int) := by
  unfold RoGen.Gen.rangeWithStepG Ro.rangeStepG
  split
  · exact emptyG_gen
  · funext c
    unfold run seq
    rw [forWhileStep_emit _ _ _ _ _ _ _ rfl, emit_ok _ _ rfl]
    simp only [List.nil_append]
    congr 2
    by_cases hd : start > endv
    · simp only [hd, if_true]
      rw [natAbs_sub_of_not_le (Int.not_le.2 hd)] at hf ⊢
      rw [rangeStepLoop_down endv s hs fuel start hf, rangeStepLoop_down endv s hs _ start (Nat.le_refl _)]
    · simp only [hd, if_false]
      rw [natAbs_sub_of_le (Int.not_lt.1 hd)] at hf ⊢
      rw [rangeStepLoop_up endv s hs fuel start hf, rangeStepLoop_up endv s hs _ start (Nat.le_refl _)]

/-- Range is RangeWithStep with step 1, in the regenerated text as in the hand-written generator: the equality holds
    for EVERY fuel that covers the distance — the Go loop `for cursor*sign < end*sign { …; cursor += sign }` ends within
    |end − start| iterations -/
theorem rangeG_gen (start endv : Int) (fuel : Nat) (hf : (endv - start).natAbs ≤ fuel) :
    RoGen.Gen.rangeG start endv fuel = Ro.rangeG start endv := by
  have h : RoGen.Gen.rangeG start endv fuel = RoGen.Gen.rangeWithStepG start endv 1 fuel := by
    unfold RoGen.Gen.rangeG RoGen.Gen.rangeWithStepG
    simp only [Int.one_mul]
  exact h.trans ((rangeWithStepG_gen start endv 1 Nat.one_pos fuel hf).trans (rangeG_eq_step start endv).symm)

/-- what a subscriber of the REGENERATED `RangeWithStep` receives is the documented range — every `start ± i·step`
    inside `[start:end)`, the last one included when the span is not a multiple of the step -/
theorem rangeWithStepG_delivered_gen (start endv : Int) (s : Nat) (hs : 0 < s) (fuel : Nat) (hf : (endv - start).natAbs ≤ fuel) (c : Ctx) :
    (RoGen.Gen.rangeWithStepG start endv (s : Int) fuel).delivered c = Spec.rangeStepScript start endv s c := by
  rw [rangeWithStepG_gen start endv s hs fuel hf]
  exact (rangeStepG_delivered start endv s hs c).1

example : ((RoGen.Gen.rangeWithStepG 0 5 2 5) Ctx.bg).script.length = 4 := by decide +kernel

/-- the creation theorems transfer to the regenerated generators: what a subscriber of the REGENERATED `Range`
    receives is the documented script -/
theorem rangeG_delivered_gen (start endv : Int) (fuel : Nat) (hf : (endv - start).natAbs ≤ fuel) (c : Ctx) :
    (RoGen.Gen.rangeG start endv fuel).delivered c = (Ro.rangeG start endv).delivered c := by
  rw [rangeG_gen start endv fuel hf]

/-- non-vacuity: the regenerated generators compute -/
example : ((RoGen.Gen.rangeG 3 0 5) Ctx.bg).script.length = 4 := by decide +kernel
example : ((RoGen.Gen.fromSliceG [[1, 2], [], [3]]) Ctx.bg).script = [.next Ctx.bg 1, .next Ctx.bg 2, .next Ctx.bg 3, .complete Ctx.bg] := by decide +kernel
example : ((RoGen.Gen.startG (.panic (.user 5) : Outcome Nat)) Ctx.bg).script = [] ∧
    ((RoGen.Gen.startG (.panic (.user 5) : Outcome Nat)) Ctx.bg).panic = some (.user 5) := by decide +kernel

theorem nothing_skipped : RoGen.Gen.skipped = [] := rfl
theorem translated_names : RoGen.Gen.translated = ["Empty", "Of", "Start", "Range", "RangeWithStep", "Repeat", "FromSlice", "Throw"] := rfl

end Ro.C04create

#print axioms Ro.C04create.emptyG_gen
#print axioms Ro.C04create.throwG_gen
#print axioms Ro.C04create.ofG_gen
#print axioms Ro.C04create.startG_gen
#print axioms Ro.C04create.fromSliceG_gen
#print axioms Ro.C04create.repeatG_gen
#print axioms Ro.C04create.rangeG_gen
#print axioms Ro.C04create.rangeG_delivered_gen
#print axioms Ro.C04create.rangeWithStepG_gen
#print axioms Ro.C04create.rangeWithStepG_delivered_gen
#print axioms Ro.C04create.nothing_skipped
#print axioms Ro.C04create.translated_names
