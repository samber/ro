/-
  RoProps.C05gen — the multi-source machines REGENERATED from the Go source on every run
  (go/extract/multigen.go → RoGen/MultiGen.lean: TakeUntil, SkipUntil, SampleWhen, ThrottleWhen, MergeAll — and with it
  Merge / MergeWith* / MergeMap*, which are MergeAll over a synchronous or projected outer observable) refine the
  hand-written machines of RoModel/Multi/OpsA.lean, which are what the C05 theorems (RoProps/C05a.lean) are about.

  For each operator: `…_sim` (`MMachine.Sim` through an explicit relation between the Go locals as the translator
  encodes them and the hand-written state), hence — `MMachine.Sim.run` / `.runCut`, RoProofs/MultiSim.lean — for EVERY
  configuration of sources (hot or synchronous, any scripts, legal or not), subscription context, interleaving and
  external cut, the regenerated machine and the hand-written one deliver the same trace, refuse the same
  notifications, subscribe and release the same sources with the same contexts. `…_gen` restates the C05 theorem of
  each operator for the regenerated machine.

  A change of the Go source of one of these operators changes RoGen/MultiGen.lean; if the change alters what the
  operator does, the corresponding `…_sim` fails to check and `lake build RoProps.C05gen` fails (the check then
  searches the correspondence runs of that operator for a failing input, tools/checks/C05_gen.py).
-/
import RoGen.MultiGen
import RoProofs.MultiSim
import RoProps.C05a
namespace Ro.C05gen
open Ro Ro.Multi Ro.Multi.GenB RoGen.Multi

variable {α : Type}

/-! The hand-written machine's locals determine the regenerated machine's (`…Enc`), except for SampleWhen. The two
    reactions to a notification have the same number of phases, and each pair of phases commutes with the encoding:
    after the case split on the flag both sides are the same straight-line code. -/

/-! ## TakeUntil — Go's `uint32` flag against the model's `Bool` -/

def takeUntilEnc (h : UntilSt) : TakeUntilSt := ⟨if h.ready then 1 else 0, h.comp⟩

theorem takeUntil_sim : (takeUntilG (α := α)).Sim (fun g h => g = takeUntilEnc h) takeUntilM where
  init := rfl
  boot c := by
    repeat' (first | exact .nil | apply PhasesRel.cons)
    all_goals exact .of_enc _ fun ⟨r, c⟩ => by cases r <;> rfl
  react k n := by
    rcases k with _ | k <;> cases n <;> (repeat' (first | exact .nil | apply PhasesRel.cons)) <;>
      exact .of_enc _ fun ⟨r, c⟩ => by cases r <;> rfl
  teardown s1 s2 h := by subst h; exact ⟨rfl, rfl⟩

/-! ## SkipUntil -/

def skipUntilEnc (h : UntilSt) : SkipUntilSt := ⟨if h.ready then 1 else 0, h.comp⟩

theorem skipUntil_sim : (skipUntilG (α := α)).Sim (fun g h => g = skipUntilEnc h) skipUntilM where
  init := rfl
  boot c := by
    repeat' (first | exact .nil | apply PhasesRel.cons)
    all_goals exact .of_enc _ fun ⟨r, c⟩ => by cases r <;> rfl
  react k n := by
    rcases k with _ | k <;> cases n <;> (repeat' (first | exact .nil | apply PhasesRel.cons)) <;>
      exact .of_enc _ fun ⟨r, c⟩ => by cases r <;> rfl
  teardown s1 s2 h := by subst h; exact ⟨rfl, rfl⟩

/-! ## SampleWhen — the Go code keeps the last value in a zero-initialised tuple next to `hasValue`; the
    hand-written machine keeps an `Option`. Related: same `hasValue`, and while it is set the same pair. -/

def sampleWhenRel (g : SampleWhenSt α) (h : SampleSt α) : Prop :=
  g.v1 = h.hasValue ∧ (h.hasValue = true → h.last = some g.v0) ∧ g.comp = h.comp

theorem sampleWhen_sim [Inhabited α] : (sampleWhenG (α := α)).Sim sampleWhenRel sampleWhenM where
  init := ⟨rfl, nofun, rfl⟩
  boot c := by
    repeat' (first | exact .nil | apply PhasesRel.cons)
    all_goals (rintro ⟨v0, v1, comp⟩ ⟨last, hv, comp'⟩ ⟨h1, h2, h3⟩; cases h1; cases h3; exact ⟨⟨rfl, h2, rfl⟩, rfl⟩)
  react k n := by
    rcases k with _ | k <;> cases n <;> refine .cons ?_ .nil <;>
      rintro ⟨v0, v1, comp⟩ ⟨last, hv, comp'⟩ ⟨h1, h2, h3⟩ <;> cases h1 <;> cases h3
    · exact ⟨⟨rfl, fun _ => rfl, rfl⟩, rfl⟩          -- a value of the source: kept, `hasValue` set
    · exact ⟨⟨rfl, h2, rfl⟩, rfl⟩
    · exact ⟨⟨rfl, h2, rfl⟩, rfl⟩
    · cases v1 with                                 -- a tick
      | false => exact ⟨⟨rfl, h2, rfl⟩, rfl⟩
      | true => cases h2 rfl; exact ⟨⟨rfl, nofun, rfl⟩, rfl⟩
    · exact ⟨⟨rfl, h2, rfl⟩, rfl⟩
    · exact ⟨⟨rfl, h2, rfl⟩, rfl⟩
  teardown := by
    rintro ⟨v0, v1, comp⟩ ⟨last, hv, comp'⟩ ⟨h1, h2, h3⟩
    cases h1; cases h3
    exact ⟨⟨rfl, h2, rfl⟩, rfl⟩

/-! ## ThrottleWhen -/

def throttleWhenEnc (h : ThrottleSt) : ThrottleWhenSt := ⟨if h.send then 1 else 0, h.comp⟩

theorem throttleWhen_sim : (throttleWhenG (α := α)).Sim (fun g h => g = throttleWhenEnc h) throttleWhenM where
  init := rfl
  boot c := by
    repeat' (first | exact .nil | apply PhasesRel.cons)
    all_goals exact .of_enc _ fun ⟨r, c⟩ => by cases r <;> rfl
  react k n := by
    rcases k with _ | k <;> cases n <;> (repeat' (first | exact .nil | apply PhasesRel.cons)) <;>
      exact .of_enc _ fun ⟨r, c⟩ => by cases r <;> rfl
  teardown s1 s2 h := by subst h; exact ⟨rfl, rfl⟩

/-! ## MergeAll — `idx v` is the inner source a value `v` of the outer observable stands for. The hand-written
    machine also carries MergeMap's index `i` (unused by MergeAll's own projection). -/

def mergeAllEnc (h : MergeSt) : MergeAllSt := ⟨h.parentCtx, h.count, h.comp⟩

theorem mergeAll_sim (idx : α → Nat) :
    (mergeAllG idx).Sim (fun g h => g = mergeAllEnc h) (mergeAllM (fun c v _ => (c, idx v))) where
  init := rfl
  boot c := by
    repeat' (first | exact .nil | apply PhasesRel.cons)
    all_goals exact .of_enc _ fun s => rfl
  react k n := by
    rcases k with _ | k <;> cases n <;> (repeat' (first | exact .nil | apply PhasesRel.cons)) <;>
      refine .of_enc _ fun s => ?_
    -- a completion counts down and tests the counter: `onDone`
    case zero.complete | succ.complete =>
      simp only [single, mergeAllEnc, MergeSt.onDone, Int.sub_eq_add_neg]
      by_cases h : s.count + -1 = 0 <;> simp [h]
    all_goals rfl
  teardown s1 s2 h := by subst h; exact ⟨rfl, rfl⟩

/-! ## what the ties buy: the C05 theorems hold of the machines regenerated from the source -/

open Ro.C05a in
/-- TakeUntil as regenerated from operator_filter.go: for every pair of scripts and EVERY interleaving the delivered
    trace is the definition's output for that arrival order (minus the signal's error: the known finding) -/
theorem takeUntil_impl_gen (scripts : List (List (Notif α))) (sub : Ctx) (order : List Nat) :
    (runMulti takeUntilG (Sources.hot scripts) sub order).out =
      Spec.takeUntil false (heard2 (eventsOf (Sources.hot scripts) order)) := by
  rw [takeUntil_sim.out]; exact takeUntil_impl scripts sub order

open Ro.C05a in
theorem takeUntil_partial_gen (scripts : List (List (Notif α))) (sub : Ctx) (order : List Nat)
    (h : noSignalError (heard2 (eventsOf (Sources.hot scripts) order)) = true) :
    (runMulti takeUntilG (Sources.hot scripts) sub order).out =
      Spec.takeUntil true (heard2 (eventsOf (Sources.hot scripts) order)) := by
  rw [takeUntil_sim.out]; exact takeUntil_partial scripts sub order h

open Ro.C05a in
theorem skipUntil_impl_gen (scripts : List (List (Notif α))) (sub : Ctx) (order : List Nat) :
    (runMulti skipUntilG (Sources.hot scripts) sub order).out =
      Spec.skipUntil false false (heard2 (eventsOf (Sources.hot scripts) order)) := by
  rw [skipUntil_sim.out]; exact skipUntil_impl scripts sub order

open Ro.C05a in
theorem sampleWhen_gen [Inhabited α] (scripts : List (List (Notif α))) (sub : Ctx) (order : List Nat) :
    (runMulti sampleWhenG (Sources.hot scripts) sub order).out =
      Spec.sampleWhen none (heard2 (eventsOf (Sources.hot scripts) order)) := by
  rw [sampleWhen_sim.out]; exact sampleWhen scripts sub order

open Ro.C05a in
theorem throttleWhen_gen (scripts : List (List (Notif α))) (sub : Ctx) (order : List Nat) :
    (runMulti throttleWhenG (Sources.hot scripts) sub order).out =
      Spec.throttleWhen false (heard2 (eventsOf (Sources.hot scripts) order)) := by
  rw [throttleWhen_sim.out]; exact throttleWhen scripts sub order

open Ro.C05a in
/-- MergeAll as regenerated from operator_combining.go, hot outer observable: the delivered trace is the definition's
    output for the arrival order, for every tuple of scripts and EVERY interleaving -/
theorem mergeAll_gen (idx : α → Nat) (scripts : List (List (Notif α))) (sub : Ctx) (order : List Nat)
    (hf : freshNames (fun c v _ => (c, idx v)) (fun k => k == 0) (fun _ => false) 0 (eventsOf (Sources.hot scripts) order) = true) :
    (runMulti (mergeAllG idx) (Sources.hot scripts) sub order).out =
      Spec.mergeAll 1 Ctx.nil (Spec.heard (fun c v _ => (c, idx v)) (fun k => k == 0) (fun _ => false) 0 (eventsOf (Sources.hot scripts) order)) := by
  rw [(mergeAll_sim idx).out]; exact mergeAll _ scripts sub order hf

open Ro.C05a in
/-- `Merge(s₁…sₙ)` / `MergeWith*` (= `MergeAll()(Just(s₁…sₙ))`, synchronous outer) on the regenerated machine -/
theorem merge_gen (scripts : List (List (Notif Int))) (sub : Ctx) (order : List Nat) :
    (runMulti (mergeAllG Int.toNat) (mergeSources sub scripts) sub order).out =
      Spec.merge sub scripts.length
        (Spec.gateEvents (Spec.restrict (inner scripts.length) (eventsOf (mergeSources sub scripts) order))) := by
  rw [(mergeAll_sim Int.toNat).out]; exact merge scripts sub order

open Ro.C05a in
theorem merge_releases_gen (scripts : List (List (Notif Int))) (sub : Ctx) (order : List Nat)
    (h : (runMulti (mergeAllG Int.toNat) (mergeSources sub scripts) sub order).downOpen = false) (k : Nat)
    (hk : 1 ≤ k ∧ k ≤ scripts.length) :
    (runMulti (mergeAllG Int.toNat) (mergeSources sub scripts) sub order).sopen k = false := by
  have r := (mergeAll_sim Int.toNat).run (mergeSources sub scripts) sub order
  rw [r.downOpen] at h
  rw [r.sopen]; exact merge_releases scripts sub order h k hk

/-- release (C03 / C14 for these operators): once the regenerated machine's output has ended, both sources are released -/
theorem release_gen [Inhabited α] (scripts : List (List (Notif α))) (sub : Ctx) (order : List Nat) (k : Nat) (hk : k < 2) :
    ((runMulti takeUntilG (Sources.hot scripts) sub order).downOpen = false →
      (runMulti takeUntilG (Sources.hot scripts) sub order).sopen k = false) ∧
    ((runMulti skipUntilG (Sources.hot scripts) sub order).downOpen = false →
      (runMulti skipUntilG (Sources.hot scripts) sub order).sopen k = false) ∧
    ((runMulti sampleWhenG (Sources.hot scripts) sub order).downOpen = false →
      (runMulti sampleWhenG (Sources.hot scripts) sub order).sopen k = false) ∧
    ((runMulti throttleWhenG (Sources.hot scripts) sub order).downOpen = false →
      (runMulti throttleWhenG (Sources.hot scripts) sub order).sopen k = false) := by
  have h := Ro.C05a.until_sample_throttle_release scripts sub order k hk
  have t := (takeUntil_sim (α := α)).run (Sources.hot scripts) sub order
  have s := (skipUntil_sim (α := α)).run (Sources.hot scripts) sub order
  have a := (sampleWhen_sim (α := α)).run (Sources.hot scripts) sub order
  have w := (throttleWhen_sim (α := α)).run (Sources.hot scripts) sub order
  rw [t.downOpen, t.sopen, s.downOpen, s.sopen, a.downOpen, a.sopen, w.downOpen, w.sopen]
  exact h

/-- every operator of the list was translated (a source that leaves the fragment is reported, not skipped silently) -/
theorem nothing_skipped : RoGen.Multi.skipped = [] := by decide
theorem translated_names : RoGen.Multi.translated = ["TakeUntil", "SkipUntil", "SampleWhen", "ThrottleWhen", "MergeAll"] := by decide

/-! ### tests of the regenerated machines (labelled as tests): the witness runs of C05a, on the regenerated text -/
example : (runMulti (takeUntilG (α := Int)) (Sources.hot Ro.C05a.wScriptsTake) { marks := [7] } [0, 1, 0, 0]).out
    = [.next (Ro.C05a.wc 1) 11, .next (Ro.C05a.wc 2) 12, .complete (Ro.C05a.wc 3)] := by decide
example : (runMulti (sampleWhenG (α := Int)) (Sources.hot [[.next {} 1, .next {} 2, .complete {}], [.next {} 9, .next {} 9]]) {} [0, 0, 1, 1, 0]).out
    = [.next {} 2, .complete {}] := by decide

end Ro.C05gen

#print axioms Ro.C05gen.takeUntil_sim
#print axioms Ro.C05gen.skipUntil_sim
#print axioms Ro.C05gen.sampleWhen_sim
#print axioms Ro.C05gen.throttleWhen_sim
#print axioms Ro.C05gen.mergeAll_sim
#print axioms Ro.C05gen.takeUntil_impl_gen
#print axioms Ro.C05gen.takeUntil_partial_gen
#print axioms Ro.C05gen.skipUntil_impl_gen
#print axioms Ro.C05gen.sampleWhen_gen
#print axioms Ro.C05gen.throttleWhen_gen
#print axioms Ro.C05gen.release_gen
#print axioms Ro.C05gen.mergeAll_gen
#print axioms Ro.C05gen.merge_gen
#print axioms Ro.C05gen.merge_releases_gen
#print axioms Ro.C05gen.nothing_skipped
#print axioms Ro.C05gen.translated_names
