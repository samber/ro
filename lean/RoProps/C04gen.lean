/-
  C04 (generated machines) — the tie between model and code, tightened by a translator.

  `go/extract` (opgen.go) re-translates, on every run, the Go source of every single-source
  template operator into a Lean `Machine` (lean/RoGen/OpsGen.lean, namespace `RoGen.Ops`).
  This file proves, for ALL parameters, that each regenerated machine EQUALS the hand-written
  machine of lean/RoModel/Ops/*.lean — the machine the C04 property theorems (machine =
  specification, for all raw scripts and source modes) are about. A change to the Go code of such
  an operator changes the regenerated text and breaks the equality below at `lake build`, for all
  inputs, not only the sampled ones; the correspondence run then supplies a concrete input.

  Parameter preconditions: where the Go constructor panics or returns `Empty()` before building the
  observable, the guard conditions are regenerated too (`RoGen.Ops.<op>M_pre`, `RoGen.Ops.guards`);
  the equality is stated under the regenerated precondition and the precondition is proved
  equivalent to the expected one (`…_pre_iff`), so a changed guard breaks the build as well.

  Where the natural state encoding of the Go code differs from the hand-written machine's (ring
  buffer vs FIFO, counter vs flag, zero value vs `Option`, float accumulator vs exact integer sum,
  no index vs index), the regenerated machine keeps the Go encoding and is proved to SIMULATE the
  hand-written machine (`Machine.Sim`, RoProofs/OpsGen.lean), which gives the same trace, drops,
  steps and gates for every raw script, mode and subscription context (`Machine.Sim.run`), so the
  specification theorems transfer (`…_spec_gen`).

  Still outside the fragment although a hand-written machine exists: Dematerialize (delegates to
  helpers that take function values), TimeInterval / Timestamp (read the clock), the `Tap` effect
  log (`tapM`'s state; `tap_sim` covers the stream). See `skipped_names` and docs/opgen.md.
-/
import RoProofs.OpsGen
import RoProofs.Ops.Basic
import RoProofs.Ops.FilterSpecs
import RoProofs.Ops.TransformSpecs
import RoProofs.Ops.MoreSpecs
import RoGen.OpsGen
namespace Ro.C04gen
open Ro
variable {α β κ φ δ τ ι : Type}

/-! ### operator_filter.go -/

theorem filter_gen (p : Pred α) : RoGen.Ops.filterIWithContextM p = Ro.filterM p := by
  machine_eq RoGen.Ops.filterIWithContextM Ro.filterM

/-- `Distinct` is `DistinctBy` with the identity key and the context unchanged -/
theorem distinct_gen [DecidableEq α] : RoGen.Ops.distinctM (α := α) = Ro.distinctByM (fun c v => (c, v)) := by
  machine_eq RoGen.Ops.distinctM Ro.distinctByM

theorem distinctBy_gen [DecidableEq κ] (key : Ctx → α → Ctx × κ) :
    RoGen.Ops.distinctByWithContextM key = Ro.distinctByM key := by
  machine_eq RoGen.Ops.distinctByWithContextM Ro.distinctByM

theorem ignoreElements_gen : RoGen.Ops.ignoreElementsM (α := α) = Ro.ignoreElementsM := by
  machine_eq RoGen.Ops.ignoreElementsM Ro.ignoreElementsM

/-- `Skip(count)`: the constructor panics for `count < 0`; `count : Nat` -/
theorem skip_pre_iff (count : Nat) : RoGen.Ops.skipM_pre count ↔ True := by
  simp [RoGen.Ops.skipM_pre]
theorem skip_gen (count : Nat) (_h : RoGen.Ops.skipM_pre count) : RoGen.Ops.skipM (α := α) count = Ro.skipM count := by
  machine_eq RoGen.Ops.skipM Ro.skipM

theorem skipWhile_gen (p : Pred α) : RoGen.Ops.skipWhileIWithContextM p = Ro.skipWhileM p := by
  apply Machine.ext' <;> intros <;> first | rfl | skip
  rename_i s c v
  obtain ⟨b, i⟩ := s
  cases b
  · rfl
  · show (if _ then _ else _) = (if _ then _ else _); split <;> rfl

/-- `Take(count)`: panics for `count < 0`, returns `Empty()` for `count = 0` (`Ro.emptyM`);
    the machine is the one built for `0 < count` -/
theorem take_pre_iff (count : Nat) : RoGen.Ops.takeM_pre count ↔ 0 < count := by
  simp [RoGen.Ops.takeM_pre]; omega
theorem take_gen (count : Nat) (_h : RoGen.Ops.takeM_pre count) : RoGen.Ops.takeM (α := α) count = Ro.takeM count := by
  machine_eq RoGen.Ops.takeM Ro.takeM

theorem takeWhile_gen (p : Pred α) : RoGen.Ops.takeWhileIWithContextM p = Ro.takeWhileM p := by
  apply Machine.ext' <;> intros <;> first | rfl | skip
  · rename_i s c v; obtain ⟨b, i⟩ := s; cases b <;> rfl
  · rename_i s c e; obtain ⟨b, i⟩ := s; cases b <;> rfl
  · rename_i s c; obtain ⟨b, i⟩ := s; cases b <;> rfl

theorem head_gen : RoGen.Ops.headM (α := α) = Ro.headM := by
  machine_eq RoGen.Ops.headM Ro.headM

theorem tail_gen : RoGen.Ops.tailM (α := α) = Ro.tailM := by
  machine_eq RoGen.Ops.tailM Ro.tailM

theorem first_gen (p : Pred α) : RoGen.Ops.firstIWithContextM p = Ro.firstM p := by
  machine_eq RoGen.Ops.firstIWithContextM Ro.firstM

theorem last_gen (p : Pred α) : RoGen.Ops.lastIWithContextM p = Ro.lastM p := by
  apply Machine.ext' <;> intros <;> first | rfl | skip
  · rename_i s c v; show (if _ then _ else _) = (_, _); split <;> rfl
  · rename_i s c; obtain ⟨o, i⟩ := s; cases o <;> rfl

theorem elementAt_pre_iff (nth : Nat) : RoGen.Ops.elementAtM_pre nth ↔ True := by
  simp [RoGen.Ops.elementAtM_pre]
theorem elementAt_gen (nth : Nat) (_h : RoGen.Ops.elementAtM_pre nth) : RoGen.Ops.elementAtM (α := α) nth = Ro.elementAtM nth := by
  machine_eq RoGen.Ops.elementAtM Ro.elementAtM

theorem elementAtOrDefault_pre_iff (nth : Nat) (d : α) : RoGen.Ops.elementAtOrDefaultM_pre nth d ↔ True := by
  simp [RoGen.Ops.elementAtOrDefaultM_pre]
theorem elementAtOrDefault_gen (nth : Nat) (d : α) (_h : RoGen.Ops.elementAtOrDefaultM_pre nth d) :
    RoGen.Ops.elementAtOrDefaultM nth d = Ro.elementAtOrDefaultM nth d := by
  machine_eq RoGen.Ops.elementAtOrDefaultM Ro.elementAtOrDefaultM

/-! ### operator_transformations.go, operator_combining.go, operator_utility.go, operator_sink.go,
    operator_error_handling.go, operator_context.go -/

theorem map_gen (f : Ctx → α → Nat → Ctx × β) : RoGen.Ops.mapIWithContextM f = Ro.mapM f := by
  machine_eq RoGen.Ops.mapIWithContextM Ro.mapM

theorem mapTo_gen (b : β) : RoGen.Ops.mapToM (α := α) b = Ro.mapToM b := by
  machine_eq RoGen.Ops.mapToM Ro.mapToM

theorem mapErr_gen (f : Ctx → α → Nat → β × Ctx × Option Err) : RoGen.Ops.mapErrIWithContextM f = Ro.mapErrM f := by
  machine_eq RoGen.Ops.mapErrIWithContextM Ro.mapErrM

theorem flatten_gen : RoGen.Ops.flattenM (α := α) = Ro.flattenM := by
  machine_eq RoGen.Ops.flattenM Ro.flattenM

theorem scan_gen (f : Ctx → β → α → Nat → Ctx × β) (seed : β) : RoGen.Ops.scanIWithContextM f seed = Ro.scanM f seed := by
  machine_eq RoGen.Ops.scanIWithContextM Ro.scanM

/-- `BufferWithCount(size)`: panics for `size < 1` -/
theorem bufferWithCount_pre_iff (size : Nat) : RoGen.Ops.bufferWithCountM_pre size ↔ 1 ≤ size := by
  simp [RoGen.Ops.bufferWithCountM_pre]; omega
theorem bufferWithCount_gen (size : Nat) (_h : RoGen.Ops.bufferWithCountM_pre size) :
    RoGen.Ops.bufferWithCountM (α := α) size = Ro.bufferCountM size := by
  machine_eq RoGen.Ops.bufferWithCountM Ro.bufferCountM

theorem startWith_gen (pre : List α) : RoGen.Ops.startWithM pre = Ro.startWithM pre := by
  machine_eq RoGen.Ops.startWithM Ro.startWithM

theorem endWith_gen (suf : List α) : RoGen.Ops.endWithM suf = Ro.endWithM suf := by
  machine_eq RoGen.Ops.endWithM Ro.endWithM

/-- `TapWithContext`: the user callbacks return nothing; as far as the stream goes it is the identity -/
theorem tap_gen (n : Ctx → α → Unit) (e : Ctx → Err → Unit) (c : Ctx → Unit) :
    RoGen.Ops.tapWithContextM n e c = Ro.idM := by
  machine_eq RoGen.Ops.tapWithContextM Ro.idM

theorem tapOnSubscribe_gen (f : Ctx → Unit) : RoGen.Ops.tapOnSubscribeWithContextM (α := α) f = Ro.idM := by
  machine_eq RoGen.Ops.tapOnSubscribeWithContextM Ro.idM

theorem tapOnFinalize_gen (f : Unit) : RoGen.Ops.tapOnFinalizeM (α := α) f = Ro.idM := by
  machine_eq RoGen.Ops.tapOnFinalizeM Ro.idM

theorem materialize_gen : RoGen.Ops.materializeM (α := α) = Ro.materializeM := by
  machine_eq RoGen.Ops.materializeM Ro.materializeM

theorem toSlice_gen : RoGen.Ops.toSliceM (α := α) = Ro.toSliceM := by
  machine_eq RoGen.Ops.toSliceM Ro.toSliceM

theorem onErrorReturn_gen (v : α) : RoGen.Ops.onErrorReturnM v = Ro.onErrorReturnM v := by
  machine_eq RoGen.Ops.onErrorReturnM Ro.onErrorReturnM

/-- `ContextMapI` is `MapIWithContext` with a projection that replaces the context and keeps the
    value (its own machine `contextMapM` of RoModel/Ops/More.lean: `contextMapI_gen` below) -/
theorem contextMapI_as_map (project : Ctx → Nat → Ctx) :
    RoGen.Ops.contextMapIM (α := α) project = Ro.mapM (fun c v i => (project c i, v)) := by
  machine_eq RoGen.Ops.contextMapIM Ro.mapM

/-! ### operator_conditional.go, operator_math.go -/

theorem all_gen (p : Ctx → α → Nat → Bool) : RoGen.Ops.allIWithContextM p = Ro.allM p := by
  machine_eq RoGen.Ops.allIWithContextM Ro.allM

theorem contains_gen (p : Ctx → α → Nat → Bool) : RoGen.Ops.containsIWithContextM p = Ro.containsM p := by
  machine_eq RoGen.Ops.containsIWithContextM Ro.containsM

theorem find_gen (p : Ctx → α → Nat → Bool) : RoGen.Ops.findIWithContextM p = Ro.findM p := by
  machine_eq RoGen.Ops.findIWithContextM Ro.findM

theorem defaultIfEmpty_gen (dc : Ctx) (d : α) : RoGen.Ops.defaultIfEmptyWithContextM dc d = Ro.defaultIfEmptyM dc d := by
  machine_eq RoGen.Ops.defaultIfEmptyWithContextM Ro.defaultIfEmptyM

theorem count_gen : RoGen.Ops.countM (α := α) = Ro.countM := by
  machine_eq RoGen.Ops.countM Ro.countM

theorem sum_gen : RoGen.Ops.sumM = Ro.sumM := by
  machine_eq RoGen.Ops.sumM Ro.sumM

theorem min_gen : RoGen.Ops.minM = Ro.minM := by
  apply Machine.ext' <;> intros <;> first | rfl | skip
  · rename_i s c v
    cases s with
    | none => rfl
    | some b => by_cases h : v < b.2 <;> simp only [RoGen.Ops.minM, Ro.minM, h, if_true, if_false]
  · rename_i s c; cases s <;> rfl

/-- `Max` as written, including the unguarded emission at completion (zero value, nil context) -/
theorem max_gen : RoGen.Ops.maxM = Ro.maxM := by
  apply Machine.ext' <;> intros <;> first | rfl | skip
  · rename_i s c v
    cases s with
    | none => rfl
    | some b => by_cases h : v > b.2 <;> simp only [RoGen.Ops.maxM, Ro.maxM, h, if_true, if_false]
  · rename_i s c; cases s <;> rfl

/-- `Clamp(lower, upper)`: panics for `lower > upper` -/
theorem clamp_pre_iff (lo hi : Int) : RoGen.Ops.clampM_pre lo hi ↔ lo ≤ hi := by
  simp [RoGen.Ops.clampM_pre]
theorem clamp_gen (lo hi : Int) (_h : RoGen.Ops.clampM_pre lo hi) : RoGen.Ops.clampM lo hi = Ro.clampM lo hi := by
  machine_eq RoGen.Ops.clampM Ro.clampM

theorem reduce_gen (f : Ctx → β → α → Nat → Ctx × β) (seed : β) : RoGen.Ops.reduceIWithContextM f seed = Ro.reduceM f seed := by
  machine_eq RoGen.Ops.reduceIWithContextM Ro.reduceM


/-! ### operators added to the fragment later: further equalities (RoModel/Ops/More.lean) -/

theorem contextMapI_gen (project : Ctx → Nat → Ctx) : RoGen.Ops.contextMapIM (α := α) project = Ro.contextMapM project := by
  machine_eq RoGen.Ops.contextMapIM Ro.contextMapM

theorem contextReset_gen (nc : Ctx) :
    RoGen.Ops.contextResetM (α := α) nc = Ro.contextResetM (if nc.isNil then Ctx.bg else nc) := by
  machine_eq RoGen.Ops.contextResetM Ro.contextResetM

theorem contextReset_gen_nonnil (nc : Ctx) (h : nc.isNil = false) : RoGen.Ops.contextResetM (α := α) nc = Ro.contextResetM nc := by
  rw [contextReset_gen, h]; rfl

theorem contextWithValue_gen (k v : ι) (wv : Ctx → ι → ι → Ctx) (m : Nat) (h : ∀ c, wv c k v = c.tag m) :
    RoGen.Ops.contextWithValueM (α := α) k v wv = Ro.ctxWithValueM m := by
  apply Machine.ext' <;> intros <;> simp [RoGen.Ops.contextWithValueM, Ro.ctxWithValueM, h]

theorem contextWithValue_up_gen (k v : ι) (wv : Ctx → ι → ι → Ctx) (m : Nat) (h : ∀ c, wv c k v = c.tag m) (sub : Ctx) :
    RoGen.Ops.contextWithValueM_up k v wv sub = Ro.ctxWithValueUp m sub := by
  simp [RoGen.Ops.contextWithValueM_up, Ro.ctxWithValueUp, h]

theorem cast_gen (ok : α → Option β) (err : Err) : RoGen.Ops.castM ok err = Ro.castM ok err := by
  machine_eq RoGen.Ops.castM Ro.castM

theorem toMap_gen [DecidableEq κ] (kv : Ctx → α → Nat → κ × β) : RoGen.Ops.toMapIWithContextM kv = Ro.toMapM kv := by
  machine_eq RoGen.Ops.toMapIWithContextM Ro.toMapM

theorem serialize_gen : RoGen.Ops.serializeM (α := α) = Ro.idM := by
  machine_eq RoGen.Ops.serializeM Ro.idM
theorem delayEach_gen (d : δ) : RoGen.Ops.delayEachM (α := α) d = Ro.idM := by
  machine_eq RoGen.Ops.delayEachM Ro.idM


/-! ### refinements: the regenerated machine keeps the Go code's own state encoding and SIMULATES
    the hand-written machine (`Machine.Sim`): same emissions from related states, hence
    (`Machine.Sim.run`) the same trace, drops, steps and gates for every raw script, source mode and
    subscription context — so the C04 specification theorems transfer (`…_spec_gen`). -/

theorem contextWithTimeout_sim (d : δ) (wt : Ctx → δ → Ctx) :
    (RoGen.Ops.contextWithTimeoutM (α := α) d wt).Sim (fun _ _ => True) (Ro.contextMapM (fun c _ => wt c d)) := by
  sim_any RoGen.Ops.contextWithTimeoutM Ro.contextMapM
theorem contextWithDeadline_sim (d : τ) (wd : Ctx → τ → Ctx) :
    (RoGen.Ops.contextWithDeadlineM (α := α) d wd).Sim (fun _ _ => True) (Ro.contextMapM (fun c _ => wd c d)) := by
  sim_any RoGen.Ops.contextWithDeadlineM Ro.contextMapM
theorem round_sim (f : φ → φ) : (RoGen.Ops.roundM f).Sim (fun _ _ => True) (Ro.mapM (fun c v _ => (c, f v))) := by
  sim_any RoGen.Ops.roundM Ro.mapM
theorem abs_sim (f : φ → φ) : (RoGen.Ops.absM f).Sim (fun _ _ => True) (Ro.mapM (fun c v _ => (c, f v))) := by
  sim_any RoGen.Ops.absM Ro.mapM
theorem floor_sim (f : φ → φ) : (RoGen.Ops.floorM f).Sim (fun _ _ => True) (Ro.mapM (fun c v _ => (c, f v))) := by
  sim_any RoGen.Ops.floorM Ro.mapM
theorem ceil_sim (f : φ → φ) : (RoGen.Ops.ceilM f).Sim (fun _ _ => True) (Ro.mapM (fun c v _ => (c, f v))) := by
  sim_any RoGen.Ops.ceilM Ro.mapM
theorem trunc_sim (f : φ → φ) : (RoGen.Ops.truncM f).Sim (fun _ _ => True) (Ro.mapM (fun c v _ => (c, f v))) := by
  sim_any RoGen.Ops.truncM Ro.mapM
theorem tap_sim (n : Ctx → α → Unit) (e : Ctx → Err → Unit) (c : Ctx → Unit) (sel : Notif α → Bool) :
    (RoGen.Ops.tapWithContextM n e c).Sim (fun _ _ => True) (Ro.tapM sel) := by
  sim_any RoGen.Ops.tapWithContextM Ro.tapM

theorem pairwise_sim [Inhabited α] :
    (RoGen.Ops.pairwiseM (α := α)).Sim (fun s o => (s.1 = 0 ∧ o = none) ∨ (0 < s.1 ∧ o = some s.2)) Ro.pairwiseM := by
  refine ⟨Or.inl ⟨rfl, rfl⟩, rfl, fun s1 s2 c h => ⟨h, rfl⟩, fun s1 s2 c v h => ?_, fun s1 s2 c e h => ⟨h, rfl⟩, fun s1 s2 c h => ⟨h, rfl⟩⟩
  simp only [RoGen.Ops.pairwiseM, Ro.pairwiseM]
  rcases h with ⟨h0, rfl⟩ | ⟨h0, rfl⟩
  · simp [h0]
  · simp [h0]

theorem throwIfEmpty_sim (e : Err) :
    (RoGen.Ops.throwIfEmptyM (α := α) e).Sim (fun n b => b = decide (0 < n)) (Ro.throwIfEmptyM e) := by
  refine ⟨rfl, rfl, fun s1 s2 c h => ⟨h, rfl⟩, fun s1 s2 c v h => ?_, fun s1 s2 c e h => ⟨h, rfl⟩, fun s1 s2 c h => ?_⟩
  · simp [RoGen.Ops.throwIfEmptyM, Ro.throwIfEmptyM]
  · subst h
    simp only [RoGen.Ops.throwIfEmptyM, Ro.throwIfEmptyM]
    by_cases h0 : s1 = 0 <;> simp [h0]

theorem average_sim (ofInt : Int → φ) (add : φ → φ → φ) (nan : φ) (ofNat : Nat → φ) (div : φ → φ → φ)
    (hadd : ∀ a b, add (ofInt a) (ofInt b) = ofInt (a + b)) :
    (RoGen.Ops.averageM ofInt add nan ofNat div).Sim (fun s1 s2 => s1.1 = ofInt s2.1 ∧ s1.2 = s2.2)
      (Ro.averageM (fun s n => div (ofInt s) (ofNat n)) nan) := by
  refine ⟨⟨rfl, rfl⟩, rfl, fun s1 s2 c h => ⟨h, rfl⟩, fun s1 s2 c v h => ?_, fun s1 s2 c e h => ⟨h, rfl⟩, fun s1 s2 c h => ?_⟩
  · simp [RoGen.Ops.averageM, Ro.averageM, h.1, h.2, hadd]
  · simp only [RoGen.Ops.averageM, Ro.averageM]
    rw [h.1, h.2]
    by_cases h0 : s2.2 = 0 <;> simp [h0, h]

theorem takeLast_pre_iff (count : Nat) : RoGen.Ops.takeLastM_pre count ↔ 0 < count := by
  simp [RoGen.Ops.takeLastM_pre]; omega
theorem skipLast_pre_iff (count : Nat) : RoGen.Ops.skipLastM_pre count ↔ 0 < count := by
  simp [RoGen.Ops.skipLastM_pre]; omega

/-- `TakeLast`: the Go buffer *is* the hand-written list; the index only tells whether it is full -/
theorem takeLast_sim [Inhabited α] (count : Nat) (hc : 0 < count) :
    (RoGen.Ops.takeLastM (α := α) count).Sim (fun s q => s.1 = q ∧ q.length = min s.2 count) (Ro.takeLastM count) := by
  refine ⟨⟨rfl, (Nat.zero_min count).symm⟩, rfl, fun s1 s2 c h => ⟨h, rfl⟩, fun s1 s2 c v h => ?_, fun s1 s2 c e h => ⟨h, rfl⟩, fun s1 s2 c h => ?_⟩
  · obtain ⟨rfl, h2⟩ := h
    simp only [RoGen.Ops.takeLastM, Ro.takeLastM]
    by_cases hfull : s1.2 ≥ count
    · have hlen : s1.1.length = count := h2.trans (Nat.min_eq_right hfull)
      rw [if_pos hfull, if_pos (Nat.le_of_eq hlen.symm)]
      refine ⟨⟨rfl, ?_⟩, rfl⟩
      show (s1.1.drop 1 ++ [(c, v)]).length = min (s1.2 + 1) count
      rw [List.length_append, List.length_drop, List.length_singleton, hlen, Nat.sub_add_cancel hc,
        Nat.min_eq_right (Nat.le_succ_of_le hfull)]
    · have hlen : s1.1.length = s1.2 := h2.trans (Nat.min_eq_left (Nat.le_of_not_le hfull))
      rw [if_neg hfull, if_neg (hlen ▸ hfull)]
      refine ⟨⟨rfl, ?_⟩, rfl⟩
      show (s1.1 ++ [(c, v)]).length = min (s1.2 + 1) count
      rw [List.length_append, List.length_singleton, hlen, Nat.min_eq_left (Nat.lt_of_not_le hfull)]
  · obtain ⟨h1, h2⟩ := h
    simp only [RoGen.Ops.takeLastM, Ro.takeLastM]
    subst h1
    refine ⟨⟨rfl, h2⟩, ?_⟩
    rw [(Nat.min_comm count s1.2).trans h2.symm]
    congr 1
    exact map_range_getD s1.1 (Ctx.nil, default) (fun p => Notif.next p.1 p.2)

/-- the relation between `SkipLast`'s ring buffer (buffer, size, index) and the FIFO `q` of the
    hand-written machine: while filling, `q` is the written prefix; once full, `q` is the buffer
    rotated to start at `index` -/
def skipLastRel (count : Nat) (s : List (Ctx × α) × Nat × Nat) (q : List (Ctx × α)) : Prop :=
  s.1.length = count ∧ s.2.2 < count ∧ q.length = s.2.1 ∧
    ((s.2.1 < count ∧ s.2.2 = s.2.1 ∧ q = s.1.take s.2.1) ∨ (s.2.1 = count ∧ q = s.1.drop s.2.2 ++ s.1.take s.2.2))

theorem skipLast_sim [Inhabited α] (count : Nat) (hc : 0 < count) :
    (RoGen.Ops.skipLastM (α := α) count).Sim (skipLastRel count) (Ro.skipLastM count) := by
  refine ⟨?_, rfl, fun s1 s2 c h => ⟨h, rfl⟩, fun s1 s2 c v h => ?_, fun s1 s2 c e h => ⟨h, rfl⟩, fun s1 s2 c h => ⟨h, rfl⟩⟩
  · exact ⟨List.length_replicate, hc, rfl, Or.inl ⟨hc, rfl, rfl⟩⟩
  · obtain ⟨buf, size, idx⟩ := s1
    obtain ⟨hlen, hidx, hq, hcase⟩ := h
    simp only at hlen hidx hq hcase
    simp only [RoGen.Ops.skipLastM, Ro.skipLastM]
    have hrot := rotate_set_succ buf idx (c, v) count hlen hidx
    have hib : idx < buf.length := hlen.symm ▸ hidx
    rcases hcase with ⟨hs, hi, hqe⟩ | ⟨hs, hqe⟩
    · -- filling
      subst hi
      have hql : s2.length < count := hq.symm ▸ hs
      simp only [hs, hql, if_true]
      refine ⟨⟨List.length_set.trans hlen, Nat.mod_lt _ hc, List.length_append.trans (congrArg (· + 1) hq), ?_⟩, trivial⟩
      by_cases hnext : idx + 1 < count
      · left
        refine ⟨hnext, Nat.mod_eq_of_lt hnext, ?_⟩
        simp only []
        rw [take_succ_set _ _ _ hib, hqe]
      · right
        have he : idx + 1 = count := Nat.le_antisymm hidx (Nat.le_of_not_lt hnext)
        refine ⟨he, ?_⟩
        simp only []
        rw [hrot, List.drop_of_length_le (Nat.le_of_eq (hlen.trans he.symm)), hqe]
        rfl
    · -- full
      subst hs
      have hql : ¬ s2.length < size := hq.symm ▸ Nat.lt_irrefl size
      have hsz : ¬ size < size := Nat.lt_irrefl size
      simp only [hsz, hql, if_false]
      rw [drop_eq_getD_cons buf idx (Ctx.nil, default) hib] at hqe
      subst hqe
      simp only [List.cons_append]
      refine ⟨⟨List.length_set.trans hlen, Nat.mod_lt _ hc, List.length_append.trans hq, ?_⟩, trivial⟩
      exact Or.inr ⟨rfl, hrot.symm⟩

/-! ### what the equalities buy: the C04 theorems hold for the regenerated machines -/

theorem take_spec_gen (n : Nat) (h : RoGen.Ops.takeM_pre n) (mode : SrcMode) (sub : Ctx) (raw : List (Notif α)) :
    (runOp (RoGen.Ops.takeM n) mode sub raw).out = Spec.take n (values raw) (ending raw) := by
  rw [take_gen n h]; exact take_spec n ((take_pre_iff n).1 h) mode sub raw

theorem map_spec_gen (f : Ctx → α → Nat → Ctx × β) (mode : SrcMode) (sub : Ctx) (raw : List (Notif α)) :
    (runOp (RoGen.Ops.mapIWithContextM f) mode sub raw).out = Spec.map f (values raw) (ending raw) := by
  rw [map_gen f]; exact map_spec f mode sub raw


/-! ### what the refinements buy: the specification theorems of the hand-written machines hold for
    the regenerated ones (under the regenerated parameter preconditions) -/

theorem skipLast_spec_gen [Inhabited α] (n : Nat) (h : RoGen.Ops.skipLastM_pre n) (mode : SrcMode) (sub : Ctx) (raw : List (Notif α)) :
    (runOp (RoGen.Ops.skipLastM n) mode sub raw).out = Spec.skipLast n (values raw) (ending raw) := by
  rw [(skipLast_sim n ((skipLast_pre_iff n).1 h)).out]; exact skipLast_spec n ((skipLast_pre_iff n).1 h) mode sub raw

theorem takeLast_spec_gen [Inhabited α] (n : Nat) (h : RoGen.Ops.takeLastM_pre n) (mode : SrcMode) (sub : Ctx) (raw : List (Notif α)) :
    (runOp (RoGen.Ops.takeLastM n) mode sub raw).out = Spec.takeLast n (values raw) (ending raw) := by
  rw [(takeLast_sim n ((takeLast_pre_iff n).1 h)).out]; exact takeLast_spec n ((takeLast_pre_iff n).1 h) mode sub raw

theorem pairwise_spec_gen [Inhabited α] (mode : SrcMode) (sub : Ctx) (raw : List (Notif α)) :
    (runOp (RoGen.Ops.pairwiseM (α := α)) mode sub raw).out = Spec.pairwise (values raw) (ending raw) := by
  rw [pairwise_sim.out]; exact pairwise_spec mode sub raw

theorem throwIfEmpty_spec_gen (err : Err) (mode : SrcMode) (sub : Ctx) (raw : List (Notif α)) :
    (runOp (RoGen.Ops.throwIfEmptyM (α := α) err) mode sub raw).out = Spec.throwIfEmpty err (values raw) (ending raw) := by
  rw [(throwIfEmpty_sim err).out]; exact throwIfEmpty_spec err mode sub raw

/-- `Average`: floats are uninterpreted; the hand-written machine sums integers exactly, so the
    transfer needs float addition to be exact on the integers summed (`hadd`) -/
theorem average_spec_gen (ofInt : Int → φ) (add : φ → φ → φ) (nan : φ) (ofNat : Nat → φ) (div : φ → φ → φ)
    (hadd : ∀ a b, add (ofInt a) (ofInt b) = ofInt (a + b)) (mode : SrcMode) (sub : Ctx) (raw : List (Notif Int)) :
    (runOp (RoGen.Ops.averageM ofInt add nan ofNat div) mode sub raw).out
      = Spec.average (fun s n => div (ofInt s) (ofNat n)) nan (values raw) (ending raw) := by
  rw [(average_sim ofInt add nan ofNat div hadd).out]; exact average_spec _ nan mode sub raw

theorem cast_spec_gen (ok : α → Option β) (err : Err) (mode : SrcMode) (sub : Ctx) (raw : List (Notif α)) :
    (runOp (RoGen.Ops.castM ok err) mode sub raw).out = (runOp (Ro.castM ok err) mode sub raw).out := by
  rw [cast_gen]

/-- the whole observable run state agrees, not only the trace: refused notifications and steps too -/
theorem skipLast_run_gen [Inhabited α] (n : Nat) (hn : 0 < n) (mode : SrcMode) (sub : Ctx) (raw : List (Notif α)) :
    (runOp (RoGen.Ops.skipLastM n) mode sub raw).drops = (runOp (Ro.skipLastM n) mode sub raw).drops ∧
    (runOp (RoGen.Ops.skipLastM n) mode sub raw).steps = (runOp (Ro.skipLastM n) mode sub raw).steps :=
  ⟨((skipLast_sim n hn).run mode sub raw).drops, ((skipLast_sim n hn).run mode sub raw).steps⟩

example : (runOp (RoGen.Ops.skipLastM 2) .sync {} [.next {} (1 : Int), .next {} 2, .next {} 3, .complete {}]).out
    = [.next {} 1, .complete {}] := by decide +kernel
example : (runOp (RoGen.Ops.takeLastM 2) .sync {} [.next {} (1 : Int), .next {} 2, .next {} 3, .complete {}]).out
    = [.next {} 2, .next {} 3, .complete {}] := by decide +kernel

-- non-vacuity: the regenerated machines compute
example : (runOp (RoGen.Ops.takeM 2) .sync {} [.next {} (1 : Int), .next {} 2, .next {} 3, .complete {}]).out
    = [.next {} 1, .next {} 2, .complete {}] := by decide +kernel
example : (runOp RoGen.Ops.maxM .sync {} [.complete {}]).out = [.next Ctx.nil 0, .complete {}] := by decide +kernel
example : (runOp (RoGen.Ops.skipM 1) .hot {} [.next {} (1 : Int), .next {} 2, .error {} (.user 1), .next {} 3]).out
    = [.next {} 2, .error {} (.user 1)] := by decide +kernel

/-! ### the regenerated bookkeeping: which operators are translated, which fell out of the
    fragment, which guards the constructors have. An operator silently leaving the fragment after a
    code change (or a changed guard) breaks one of these. -/

theorem translated_names : RoGen.Ops.translated =
    ["StartWith", "EndWith", "Pairwise", "AllIWithContext", "ContainsIWithContext", "FindIWithContext",
     "DefaultIfEmptyWithContext", "ContextWithValue", "ContextWithTimeout", "ContextWithDeadline",
     "ContextReset", "ContextMapI", "OnErrorReturn", "ThrowIfEmpty", "FilterIWithContext",
     "Distinct", "DistinctByWithContext", "IgnoreElements", "Skip", "SkipWhileIWithContext",
     "SkipLast", "Take", "TakeWhileIWithContext", "TakeLast", "Head", "Tail", "FirstIWithContext",
     "LastIWithContext", "ElementAt", "ElementAtOrDefault", "Average", "Count", "Sum", "Round",
     "Min", "Max", "Clamp", "Abs", "Floor", "Ceil", "Trunc", "ReduceIWithContext", "ToSlice",
     "ToMapIWithContext", "MapIWithContext", "MapTo", "MapErrIWithContext", "Flatten", "Cast",
     "ScanIWithContext", "BufferWithCount", "TapWithContext", "TapOnSubscribeWithContext",
     "TapOnFinalize", "DelayEach", "Materialize", "Serialize"] := rfl

theorem skipped_names : RoGen.Ops.skipped.map (·.1) =
    ["MergeAll", "MergeMapIWithContext", "CombineLatestWith1", "CombineLatestWith2",
     "CombineLatestWith3", "CombineLatestWith4", "CombineLatestAll", "ConcatAll", "RaceWith",
     "ZipWith1", "ZipWith2", "ZipWith3", "ZipWith4", "ZipWith5", "ZipAll", "SequenceEqual",
     "ShareWithConfig", "ThrowOnContextCancel", "Catch", "OnErrorResumeNextWith", "RetryWithConfig",
     "DoWhileIWithContext", "WhileIWithContext", "SkipUntil", "TakeUntil",
     "ceilWithInfiniteNegativePrecision", "floorWithInfiniteNegativePrecision", "precisionRound",
     "roundWithLargePositivePrecision", "roundWithLargeNegativePrecision", "ToChannel",
     "FlatMapIWithContext", "GroupByIWithContext", "BufferWhen", "BufferWithTimeOrCount",
     "WindowWhen", "SampleWhen", "ThrottleWhen", "ThrottleTime", "TimeInterval", "Timestamp",
     "Delay", "RepeatWith", "Timeout", "Dematerialize", "detachOn"] := rfl

theorem guards_as_expected : RoGen.Ops.guards =
    [("Skip", [("panic", "count < 0")]),
      ("SkipLast", [("panic", "count < 1")]),
      ("Take", [("panic", "count < 0"), ("empty", "count == 0")]),
      ("TakeLast", [("panic", "count < 0"), ("empty", "count == 0")]),
      ("ElementAt", [("panic", "nth < 0")]),
      ("ElementAtOrDefault", [("panic", "nth < 0")]),
      ("Clamp", [("panic", "lower > upper")]),
      ("BufferWithCount", [("panic", "size < 1")])] := rfl

end Ro.C04gen

#print axioms Ro.C04gen.filter_gen
#print axioms Ro.C04gen.distinct_gen
#print axioms Ro.C04gen.distinctBy_gen
#print axioms Ro.C04gen.ignoreElements_gen
#print axioms Ro.C04gen.skip_pre_iff
#print axioms Ro.C04gen.skip_gen
#print axioms Ro.C04gen.skipWhile_gen
#print axioms Ro.C04gen.take_pre_iff
#print axioms Ro.C04gen.take_gen
#print axioms Ro.C04gen.takeWhile_gen
#print axioms Ro.C04gen.head_gen
#print axioms Ro.C04gen.tail_gen
#print axioms Ro.C04gen.first_gen
#print axioms Ro.C04gen.last_gen
#print axioms Ro.C04gen.elementAt_pre_iff
#print axioms Ro.C04gen.elementAt_gen
#print axioms Ro.C04gen.elementAtOrDefault_pre_iff
#print axioms Ro.C04gen.elementAtOrDefault_gen
#print axioms Ro.C04gen.map_gen
#print axioms Ro.C04gen.mapTo_gen
#print axioms Ro.C04gen.mapErr_gen
#print axioms Ro.C04gen.flatten_gen
#print axioms Ro.C04gen.scan_gen
#print axioms Ro.C04gen.bufferWithCount_pre_iff
#print axioms Ro.C04gen.bufferWithCount_gen
#print axioms Ro.C04gen.startWith_gen
#print axioms Ro.C04gen.endWith_gen
#print axioms Ro.C04gen.tap_gen
#print axioms Ro.C04gen.tapOnSubscribe_gen
#print axioms Ro.C04gen.tapOnFinalize_gen
#print axioms Ro.C04gen.materialize_gen
#print axioms Ro.C04gen.toSlice_gen
#print axioms Ro.C04gen.onErrorReturn_gen
#print axioms Ro.C04gen.contextMapI_as_map
#print axioms Ro.C04gen.all_gen
#print axioms Ro.C04gen.contains_gen
#print axioms Ro.C04gen.find_gen
#print axioms Ro.C04gen.defaultIfEmpty_gen
#print axioms Ro.C04gen.count_gen
#print axioms Ro.C04gen.sum_gen
#print axioms Ro.C04gen.min_gen
#print axioms Ro.C04gen.max_gen
#print axioms Ro.C04gen.clamp_pre_iff
#print axioms Ro.C04gen.clamp_gen
#print axioms Ro.C04gen.reduce_gen
#print axioms Ro.C04gen.contextMapI_gen
#print axioms Ro.C04gen.contextReset_gen
#print axioms Ro.C04gen.contextReset_gen_nonnil
#print axioms Ro.C04gen.contextWithValue_gen
#print axioms Ro.C04gen.contextWithValue_up_gen
#print axioms Ro.C04gen.cast_gen
#print axioms Ro.C04gen.toMap_gen
#print axioms Ro.C04gen.serialize_gen
#print axioms Ro.C04gen.delayEach_gen
#print axioms Ro.C04gen.contextWithTimeout_sim
#print axioms Ro.C04gen.contextWithDeadline_sim
#print axioms Ro.C04gen.round_sim
#print axioms Ro.C04gen.abs_sim
#print axioms Ro.C04gen.floor_sim
#print axioms Ro.C04gen.ceil_sim
#print axioms Ro.C04gen.trunc_sim
#print axioms Ro.C04gen.tap_sim
#print axioms Ro.C04gen.pairwise_sim
#print axioms Ro.C04gen.throwIfEmpty_sim
#print axioms Ro.C04gen.average_sim
#print axioms Ro.C04gen.takeLast_pre_iff
#print axioms Ro.C04gen.skipLast_pre_iff
#print axioms Ro.C04gen.takeLast_sim
#print axioms Ro.C04gen.skipLast_sim
#print axioms Ro.C04gen.skipLast_spec_gen
#print axioms Ro.C04gen.takeLast_spec_gen
#print axioms Ro.C04gen.pairwise_spec_gen
#print axioms Ro.C04gen.throwIfEmpty_spec_gen
#print axioms Ro.C04gen.average_spec_gen
#print axioms Ro.C04gen.cast_spec_gen
#print axioms Ro.C04gen.skipLast_run_gen
#print axioms Ro.C04gen.take_spec_gen
#print axioms Ro.C04gen.map_spec_gen
#print axioms Ro.C04gen.translated_names
#print axioms Ro.C04gen.skipped_names
#print axioms Ro.C04gen.guards_as_expected
