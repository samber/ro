/-
  C05 / C04 (the numbered arities treat every source position alike).

  ZipWith1..5, CombineLatestWith1..4, MergeWith1..5 and their creation forms are written out per source position
  (valueA / valueB / …, completedA / …, one subscription block and one clause of the completion test per source).
  `go/extract/symmetry.go` cuts every such function into its maximal single-position units and normalises the
  position away; `symmetric_families` — decided by the kernel on the rows regenerated from the repository under
  check on this run — says that every unit occurs equally often for every position (or only for the piped
  source). It is a syntactic NECESSARY condition for "the operator's definition is applied to each source alike",
  not a proof of the operator: what the operator computes for every arrival order is C05's machine = specification
  theorems (stated for the arities the hand-written machines cover) and the correspondence over every arity and
  position (positional stories of kind=multib). What the table adds is universality over the places a per-position
  copy can go wrong: a flag, queue or subscription of the neighbouring position in ONE clause of ONE arity, or two
  statements swapped in one callback, changes a row — also where no sampled interleaving reaches it (a stale read
  that needs two goroutines).
-/
import RoModel.SymFacts
import RoGen.Symmetry
namespace Ro.C05sym
open Ro.SymFacts

theorem uniform_length (n k : Nat) : (uniform n k).length = n * k := by
  unfold uniform
  induction n with
  | zero => simp
  | succ m ih => simp [List.range_succ, List.flatMap_append, ih, Nat.add_mul]

theorem count_uniform (n k p : Nat) : (uniform n k).count p = if p < n then k else 0 := by
  unfold uniform
  induction n with
  | zero => rfl
  | succ m ih =>
    rw [List.range_succ, List.flatMap_append, List.count_append, ih, List.flatMap_singleton, List.count_replicate]
    by_cases h : p < m
    · simp [h, Nat.lt_succ_of_lt h, Nat.ne_of_gt h]
    · by_cases e : m = p
      · simp [e]
      · have : ¬ p < m + 1 := by omega
        simp [h, e, this]

/-- in a regular row every position occurs exactly `k` times -/
theorem uniform_count (n k p : Nat) (hp : p < n) : (uniform n k).count p = k := by
  rw [count_uniform, if_pos hp]

/-- decided by the kernel on the rows regenerated on this run -/
theorem symmetric_families : (irregular RoGen.Symmetry.rows).isEmpty = true := by decide +kernel

/-- the analysis saw the families it is about (a translator that stops recognising them would make the
    statement vacuous) -/
theorem families_seen :
    ["ZipWith1", "ZipWith2", "ZipWith3", "ZipWith4", "ZipWith5", "CombineLatestWith1", "CombineLatestWith2",
     "CombineLatestWith3", "CombineLatestWith4"].all
      (fun f => decide (10 ≤ (RoGen.Symmetry.rows.filter (fun r => r.fn == f)).length) ||
                decide (6 ≤ (RoGen.Symmetry.rows.filter (fun r => r.fn == f)).length)) = true := by decide +kernel

/-- non-vacuity: the row the slip of seeded C05-D produces (`len(valueC) == 0` in the clause of position D of the
    4-source zip) is rejected -/
example : rowOk { fn := "ZipWith3", n := 4, letters := [0, 1, 2, 2], unit := "len(value#) == 0" } = false := by decide
example : rowOk { fn := "ZipWith3", n := 4, letters := [0, 1, 2, 3], unit := "len(value#) == 0" } = true := by decide
example : rowOk { fn := "ZipWith3", n := 4, letters := [0], unit := "Observable[#]" } = true := by decide

end Ro.C05sym

#print axioms Ro.C05sym.uniform_length
#print axioms Ro.C05sym.uniform_count
#print axioms Ro.C05sym.symmetric_families
#print axioms Ro.C05sym.families_seen
