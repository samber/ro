/-
  C02 (a) — an observer's callbacks never overlap: the concurrent kernel.

  `Kernel.Conc.step` interprets the statement-language programs of subscriberImpl /
  subscriptionImpl (`Kernel.Expected`, proved equal to the programs regenerated from the Go
  sources: RoProps/KernelTie.lean) for any number of threads, any scripts of API calls
  {Next, Error, Complete, Unsubscribe, Add, Wait, IsClosed} and any schedule (`List Tid`).

  * safe and eventually-safe mode: in every reachable state at most one thread is between
    callback-begin and callback-end (invariant: a thread's control state says "holds mu" iff the
    mutex names it the owner, and whoever is inside or about to call the destination holds mu).
  * any mode (in particular the no-op mutex of the unsafe mode) under the single-producer
    hypothesis: same conclusion, because only a thread whose current call is Next/Error/Complete
    can reach the destination.
  * without that hypothesis the unsafe mode does overlap (witness below): that is its documented
    contract ("not safe for concurrent use"), not a deviation.
-/
import RoProofs.Kernel.Producer
import RoProofs.Kernel.WellLockedSound
import RoProofs.Kernel.Overlap
import RoProps.KernelTie
namespace Ro.C02
open Ro.Kernel

/-- at most one thread is inside a callback -/
def OneInside (s : St) : Prop :=
  ∀ (t u : Tid) (th thu : Thread), s.threads[t]? = some th → s.threads[u]? = some thu →
    th.ctl.inside = true → thu.ctl.inside = true → t = u

/-- C02(a), safe / eventually-safe mode: every number of threads, scripts, schedule -/
theorem kernel_callbacks_never_overlap (mode : Mode) (hm : mode ≠ .unsafeMode) (destNil : Bool)
    (panicky : List FinId) (scripts : List (List ApiCall)) (sched : List Tid) :
    OneInside (run Expected.progs (init mode destNil panicky scripts) sched) := by
  intro t u th thu ht hu h1 h2
  have hi := sinv_reachable mode hm destNil panicky scripts sched
  exact hi.k.lock.excl hi.serial t u th thu ht hu (by simp [h1]) (by simp [h2])

/-- C02(a), any mode (the no-op mutex included) with one producer thread -/
theorem kernel_callbacks_never_overlap_single_producer (mode : Mode) (destNil : Bool)
    (panicky : List FinId) (scripts : List (List ApiCall)) (hsp : SingleProducer scripts) (sched : List Tid) :
    OneInside (run Expected.progs (init mode destNil panicky scripts) sched) := by
  intro t u th thu ht hu h1 h2
  have hi := uinv_reachable mode destNil panicky scripts hsp sched
  exact hi.prod.excl hi.k.lock hsp t u th thu ht hu (by simp [h1]) (by simp [h2])

/-- C02(a) on the history: scanning the log of any run, a callback begins only when none is running
    (`noOverlapLog`, the predicate the harness evaluates on the log recorded from the real subscriber) -/
theorem kernel_noOverlapLog (mode : Mode) (hm : mode ≠ .unsafeMode) (destNil : Bool)
    (panicky : List FinId) (scripts : List (List ApiCall)) (sched : List Tid) :
    noOverlapLog (run Expected.progs (init mode destNil panicky scripts) sched).sh.log = true := by
  have := run_inv (progs := Expected.progs) (fun s => SInv (idBound scripts) s ∧ OvInv s)
    (fun _ _ _ hi h => ⟨hi.1.step h, hi.2.step hi.1.k.lock (hi.1.k.lock.excl hi.1.serial) h⟩) sched
    (init mode destNil panicky scripts) ⟨⟨KInv.init .., hm, GramInv.init ..⟩, OvInv.init ..⟩
  exact this.2.ok

/-- … and in any mode with one producer thread -/
theorem kernel_noOverlapLog_single_producer (mode : Mode) (destNil : Bool) (panicky : List FinId)
    (scripts : List (List ApiCall)) (hsp : SingleProducer scripts) (sched : List Tid) :
    noOverlapLog (run Expected.progs (init mode destNil panicky scripts) sched).sh.log = true := by
  have := run_inv (progs := Expected.progs) (fun s => UInv scripts s ∧ OvInv s)
    (fun _ _ _ hi h => ⟨hi.1.step hsp h, hi.2.step hi.1.k.lock (hi.1.prod.excl hi.1.k.lock hsp) h⟩) sched
    (init mode destNil panicky scripts) ⟨⟨KInv.init .., ProdInv.init .., GramInv.init ..⟩, OvInv.init ..⟩
  exact this.2.ok

/-- the lock discipline behind it: in safe / eventually-safe mode a thread's control state holds
    `mu` exactly when the mutex names it the owner, and every thread inside a callback holds `mu` -/
theorem kernel_inside_holds_mu (mode : Mode) (hm : mode ≠ .unsafeMode) (destNil : Bool)
    (panicky : List FinId) (scripts : List (List ApiCall)) (sched : List Tid) (t : Tid) (th : Thread)
    (ht : (run Expected.progs (init mode destNil panicky scripts) sched).threads[t]? = some th)
    (hin : th.ctl.inside = true) :
    (run Expected.progs (init mode destNil panicky scripts) sched).sh.mu = some t := by
  have hi := sinv_reachable mode hm destNil panicky scripts sched
  have a := lfArmedHolds_ok (hi.k.lock.inReach t th ht)
  simp only [lfArmedHolds, hin, Bool.true_or, Bool.not_true, Bool.false_or] at a
  exact (hi.k.lock.own .mu t th ht (hi.serial.noLock _)).mp a

/-- the subscription's lock likewise, in every mode: whoever executes a statement that reads or
    writes `done` / `finalizers` owns `subMu` -/
theorem kernel_subscription_state_under_lock (mode : Mode) (destNil : Bool)
    (panicky : List FinId) (scripts : List (List ApiCall)) (sched : List Tid) (t : Tid) (th : Thread)
    (ht : (run Expected.progs (init mode destNil panicky scripts) sched).threads[t]? = some th)
    (hh : th.ctl.head = .stmt .setDone ∨ th.ctl.head = .stmt .swapFinalizers ∨
          th.ctl.head = .stmt .appendFinalizer ∨ th.ctl.head = .stmt .runNow) :
    (run Expected.progs (init mode destNil panicky scripts) sched).sh.subMu = some t := by
  have hi := kinv_reachable mode destNil panicky scripts sched
  have a := lfSubHeld_ok (hi.lock.inReach t th ht)
  have : th.ctl.holds .subMu = true := by
    rcases hh with h | h | h | h <;> simpa [lfSubHeld, h] using a
  exact (hi.lock.own .subMu t th ht rfl).mp this

/-! ### the same for arbitrary programs that keep the lock discipline -/

/-- soundness of the decidable lock-discipline checker `wellLocked` (RoModel/Kernel/WellLocked.lean)
    for ARBITRARY program tables: accepted ⇒ in safe / eventually-safe mode at most one thread is
    inside a callback, for every number of threads, scripts and schedule -/
theorem wellLocked_programs_never_overlap (table : List (Meth × Prog)) (hw : wellLocked table = true)
    (mode : Mode) (hm : mode ≠ .unsafeMode) (destNil : Bool) (panicky : List FinId)
    (scripts : List (List ApiCall)) (sched : List Tid) :
    OneInside (run (lookup table) (init mode destNil panicky scripts) sched) :=
  fun t u th thu ht hu h1 h2 => wellLocked_sound table hw mode hm destNil panicky scripts sched t u th thu ht hu h1 h2

/-- the programs regenerated from the Go sources on this run keep the discipline (evaluated by the
    Lean kernel on `RoGen.Kernel.table` itself; survives any rewrite of the kernel that keeps it) -/
theorem regenerated_programs_wellLocked : wellLocked RoGen.Kernel.table = true := by decide

/-- hence C02(a) for the regenerated programs, independently of the program-equality tie -/
theorem regenerated_callbacks_never_overlap (mode : Mode) (hm : mode ≠ .unsafeMode) (destNil : Bool)
    (panicky : List FinId) (scripts : List (List ApiCall)) (sched : List Tid) :
    OneInside (run (lookup RoGen.Kernel.table) (init mode destNil panicky scripts) sched) :=
  wellLocked_programs_never_overlap _ regenerated_programs_wellLocked mode hm destNil panicky scripts sched

-- the checker is not vacuous: it rejects a Next that calls the destination after unlocking, and one
-- that returns with the lock held
example : wellLocked [(.subNext, [.lock .mu, .unlock .mu, .callDest .next])] = false := by decide
example : wellLocked [(.subNext, [.lock .mu, .ifLoadEq .status 0 [.callDest .next] [.ret], .unlock .mu])] = false := by decide
example : wellLocked Expected.table = true := by decide

/-! ### non-vacuity and the witness for the unsafe mode -/

-- a reachable state in which a thread IS inside a callback (safe mode, two producers)
example : ((run Expected.progs (init .safe false [] [[.next 1], [.next 2]]) [0, 0, 0, 0, 0, 0, 1, 1, 1]).threads.map
    (·.ctl.inside)) = [true, false] := by decide
-- … and the other producer is blocked on the lock there
example : step Expected.progs (run Expected.progs (init .safe false [] [[.next 1], [.next 2]]) [0, 0, 0, 0, 0, 0, 1, 1, 1]) 1 = none := by
  decide
-- single-producer hypothesis is satisfiable and not trivial
example : SingleProducer [[.next 1, .complete], [.unsubscribe], [.add 1, .isClosed]] := by
  intro t u sct scu ht hu ⟨c, hc, hp⟩ ⟨c', hc', hp'⟩
  match t, u with
  | 0, 0 => rfl
  | 0, 1 => simp at hu; subst hu; simp at hc'; subst hc'; cases hp'
  | 0, 2 => simp at hu; subst hu; simp at hc'; rcases hc' with rfl | rfl <;> cases hp'
  | 1, _ => simp at ht; subst ht; simp at hc; subst hc; cases hp
  | 2, _ => simp at ht; subst ht; simp at hc; rcases hc with rfl | rfl <;> cases hp
  | t + 3, _ => simp at ht
  | 0, u + 3 => simp at hu

/-- witness: with the no-op mutex and two producers the callbacks DO overlap (both inside) -/
theorem unsafe_two_producers_overlap_witness :
    ((run Expected.progs (init .unsafeMode false [] [[.next 1], [.next 2]]) [0, 0, 0, 0, 0, 0, 1, 1, 1, 1, 1, 1]).threads.map
      (·.ctl.inside)) = [true, true] := by decide

end Ro.C02

#print axioms Ro.KernelTie.progs_are_the_source
#print axioms Ro.KernelTie.subscriber_ctor_is_the_source
#print axioms Ro.KernelTie.modes_are_the_source
#print axioms Ro.KernelTie.mutexes_are_the_source
#print axioms Ro.C02.kernel_callbacks_never_overlap
#print axioms Ro.C02.kernel_callbacks_never_overlap_single_producer
#print axioms Ro.C02.kernel_noOverlapLog
#print axioms Ro.C02.kernel_noOverlapLog_single_producer
#print axioms Ro.C02.wellLocked_programs_never_overlap
#print axioms Ro.C02.regenerated_programs_wellLocked
#print axioms Ro.C02.regenerated_callbacks_never_overlap
#print axioms Ro.C02.kernel_inside_holds_mu
#print axioms Ro.C02.kernel_subscription_state_under_lock
#print axioms Ro.C02.unsafe_two_producers_overlap_witness
