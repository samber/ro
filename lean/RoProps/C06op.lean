/-
  C06, operator-level half — Unsubscribe cuts delivery through every operator and chain, from
  outside, from inside the observer's callback, or from another goroutine while a callback is in
  progress; Collect returns exactly what was delivered, exactly when the stream has terminated.
  (The subscriber/subscription kernel — status CAS, IsClosed, Wait under every schedule — is
  RoProps/C06.lean; this file is about what that kernel does *around an operator*.)

  Model: RoModel/CutIn.lean §1-§2 over the machines of RoModel/Machine.lean (a chain is a machine:
  `Machine.seq`, so every statement holds for chains). Tie: go/harness/cutin.go, collect.go against
  RoModel/Drivers/Cut.lean on every catalogue operator and random chains.
-/
import RoProofs.CutIn
import RoModel.Ops.Aggregate
namespace Ro.C06op
open Ro

variable {σ α β : Type}

/-- Unsubscribe called by the observer during its k-th callback (or by another goroutine while
    that callback is in progress): the observer receives exactly the first k notifications of the
    undisturbed run — no notification whose emission began afterwards is delivered. -/
theorem cut_in_out (m : Machine σ α β) (sub : Ctx) (raw : List (Notif α)) {k : Nat} (hk : 0 < k) :
    (runOpCutIn m sub raw k).out = ((runOp m .hot sub raw).out).take k := by
  have h : SimP k (runOp m .hot sub raw) (runOpCutIn m sub raw k) := by
    cases hs : m.subscribes
    · -- the operator never subscribes to its source (`Take(0)` …): only subscribe-time emissions
      simpa [runOp, runOpCutIn, hs] using start_simP m sub hk
    · exact (runOpCutIn_sim m sub raw hk hs).imp id fun ⟨h1, h2, _, h3⟩ => ⟨h1, h2, h3⟩
  rcases h with ⟨hlt, heq⟩ | ⟨_, _, ho⟩
  · rw [heq, List.take_of_length_le (by omega)]
  · exact ho

/-- … as soon as k notifications have been delivered the subscription is closed and the source
    released (before the callback returns: the flags are those of the state right after it) -/
theorem cut_in_released (m : Machine σ α β) (sub : Ctx) (raw : List (Notif α)) {k : Nat} (hk : 0 < k)
    (hs : m.subscribes = true) (h : k ≤ (runOp m .hot sub raw).out.length) :
    (runOpCutIn m sub raw k).downOpen = false ∧ (runOpCutIn m sub raw k).upOpen = false :=
  runOpCutIn_released m sub raw hk hs h

/-- … whatever the source emits afterwards changes nothing -/
theorem cut_in_stable (m : Machine σ α β) (sub : Ctx) (raw more : List (Notif α)) {k : Nat} (hk : 0 < k)
    (h : k ≤ (runOpCutIn m sub raw k).out.length) :
    (runOpCutIn m sub (raw ++ more) k).out = (runOpCutIn m sub raw k).out := by
  rw [cut_in_out m sub raw hk, List.length_take] at h
  have hp : (runOp m .hot sub raw).out <+: (runOp m .hot sub (raw ++ more)).out := by
    unfold runOp
    split
    · rw [List.foldl_append]; exact fold_out_prefix m .hot more _
    · exact List.prefix_refl _
  rw [cut_in_out m sub (raw ++ more) hk, cut_in_out m sub raw hk, (take_of_prefix hp (by omega)).2]

/-- … each later input is refused by the operator's upstream subscriber: dropped, the operator's
    callbacks are not invoked -/
theorem cut_in_refuses_later (m : Machine σ α β) (k : Nat) (r : RunSt σ α β) (x : Notif α) (h : r.upOpen = false) :
    (r.feedCutIn m k x).out = r.out ∧ (r.feedCutIn m k x).st = r.st ∧
    (r.feedCutIn m k x).drops = r.drops ++ [.up x] ∧ (r.feedCutIn m k x).upOpen = false := by
  simp [RunSt.feedCutIn, h]

/-- … and an observer that never reaches its k-th callback disturbs nothing at all -/
theorem cut_in_unchanged (m : Machine σ α β) (sub : Ctx) (raw : List (Notif α)) {k : Nat} (hk : 0 < k)
    (hs : m.subscribes = true) (h : (runOp m .hot sub raw).out.length < k) :
    runOpCutIn m sub raw k = runOp m .hot sub raw := by
  rcases runOpCutIn_sim m sub raw hk hs with ⟨_, heq⟩ | ⟨hle, _, _, _⟩
  · exact heq
  · omega

/-- the handle returned by Subscribe: deciding to unsubscribe inside Subscribe takes effect when
    Subscribe returns; otherwise as above -/
theorem cut_in_returned_handle (m : Machine σ α β) (sub : Ctx) (raw : List (Notif α)) {k : Nat} (hk : 0 < k)
    (hs : m.subscribes = true) :
    (k ≤ (m.start sub).out.length →
        (runOpCutInRet m sub raw k).out = (runOp m .hot sub []).out ∧ (runOpCutInRet m sub raw k).upOpen = false) ∧
    ((m.start sub).out.length < k → runOpCutInRet m sub raw k = runOpCutIn m sub raw k) := by
  refine ⟨fun h => ?_, fun h => ?_⟩
  · simpa [runOpCutInRet, hk, h] using runOpCut_out m sub raw 0 hs
  · simp [runOpCutInRet, Nat.not_le.2 h]

/-- Unsubscribe called from outside between two inputs (after the k-th): what was delivered is the
    run over the first k inputs; the source is released (RoProofs/Release.lean) -/
theorem cut_between (m : Machine σ α β) (sub : Ctx) (raw : List (Notif α)) (k : Nat) (hs : m.subscribes = true) :
    (runOpCut m sub raw k).out = (runOp m .hot sub (raw.take k)).out ∧ (runOpCut m sub raw k).upOpen = false :=
  runOpCut_out m sub raw k hs

/-- Collect is the specification applied to the gated trace, for every machine, mode and script -/
theorem collect_spec (m : Machine σ α β) (mode : SrcMode) (sub : Ctx) (raw : List (Notif α)) (hs : m.subscribes = true) :
    collect (runOp m mode sub raw) =
      Spec.collect ((m.onSubscribe m.init sub).2 ++ m.emits (m.onSubscribe m.init sub).1 (gate raw)) :=
  collect_of_gate _ _ (runOp_outInv m mode sub raw) (runOp_out m mode sub raw hs)

theorem collect_sync_async (m : Machine σ α β) (sub : Ctx) (raw : List (Notif α)) :
    collect (runOp m .sync sub raw) = collect (runOp m .hot sub raw) := by
  cases hs : m.subscribes
  · simp [runOp, hs]
  · rw [collect_spec m .sync sub raw hs, collect_spec m .hot sub raw hs]

/-- Collect returns exactly when the delivered trace has a terminal -/
theorem collect_returns_iff (m : Machine σ α β) (mode : SrcMode) (sub : Ctx) (raw : List (Notif α)) :
    (collect (runOp m mode sub raw)).isSome = hasTerm (runOp m mode sub raw).out := by
  unfold collect
  rw [runOp_outInv m mode sub raw]
  cases hasTerm (runOp m mode sub raw).out <;> rfl

/-- … and then exactly the delivered values, in order, with the terminal's error and context -/
theorem collect_exact (m : Machine σ α β) (mode : SrcMode) (sub : Ctx) (raw : List (Notif α)) (c : CollectSt β)
    (h : collect (runOp m mode sub raw) = some c) :
    c.values = (values (runOp m mode sub raw).out).map (·.2) ∧
    c.err = (ending (runOp m mode sub raw).out).err ∧
    c.lastCtx = (ending (runOp m mode sub raw).out).ctx := by
  rw [collect_of_gate _ _ (runOp_outInv m mode sub raw) (runOp_out_gated m mode sub raw)] at h
  unfold Spec.collect at h
  split at h <;> cases h
  exact ⟨rfl, rfl, rfl⟩

/-! ### non-vacuity -/

-- EndWith(8,9) over `1, complete`: undisturbed 1 8 9 C; the observer unsubscribes during its 2nd callback
example : (runOp (endWithM [8, 9]) .hot {} [.next {} (1 : Int), .complete {}]).out
    = [.next {} 1, .next {} 8, .next {} 9, .complete {}] := by decide
example : (runOpCutIn (endWithM [8, 9]) {} [.next {} (1 : Int), .complete {}] 2).out = [.next {} 1, .next {} 8] := by decide
-- the rest of the same reaction (9, C) is refused downstream, the source is released
example : (runOpCutIn (endWithM [8, 9]) {} [.next {} (1 : Int), .complete {}] 2).drops.length = 2 := by decide
example : (runOpCutIn (endWithM [8, 9]) {} [.next {} (1 : Int), .complete {}] 2).upOpen = false := by decide
-- a later input is refused upstream
example : (runOpCutIn (mapToM (α := Int) (7 : Int)) {} [.next {} 1, .next {} 2, .next {} 3] 1).out = [.next {} 7] := by decide
example : (runOpCutIn (mapToM (α := Int) (7 : Int)) {} [.next {} 1, .next {} 2, .next {} 3] 1).drops.length = 2 := by decide
-- cut during Subscribe (StartWith's prefix): ready-made subscriber vs returned handle
example : (runOpCutIn (startWithM [8, 9]) {} [.next {} (1 : Int)] 1).out = [.next {} 8] := by decide
example : (runOpCutInRet (startWithM [8, 9]) {} [.next {} (1 : Int)] 1).out = [.next {} 8, .next {} 9] := by decide
-- external cut after one input
example : (runOpCut (mapToM (α := Int) (7 : Int)) {} [.next {} 1, .next {} 2] 1).out = [.next {} 7] := by decide
-- Collect: Take(2) over a never-ending source returns; the bare source does not
example : collect (runOp (takeM (α := Int) 2) .sync {} [.next {} 1, .next {} 2, .next {} 3])
    = some { values := [1, 2], lastCtx := some {}, err := none } := by decide
example : collect (runOp (mapToM (α := Int) (7 : Int)) .hot {} [.next {} 1, .next {} 2]) = none := by decide
example : collect (runOp (mapToM (α := Int) (7 : Int)) .hot {} [.next {} 1, .error {} (.user 3), .next {} 2])
    = some { values := [7], lastCtx := some {}, err := some (.user 3) } := by decide

end Ro.C06op

#print axioms Ro.C06op.cut_in_out
#print axioms Ro.C06op.cut_in_released
#print axioms Ro.C06op.cut_in_stable
#print axioms Ro.C06op.cut_in_refuses_later
#print axioms Ro.C06op.cut_in_unchanged
#print axioms Ro.C06op.cut_in_returned_handle
#print axioms Ro.C06op.cut_between
#print axioms Ro.C06op.collect_spec
#print axioms Ro.C06op.collect_sync_async
#print axioms Ro.C06op.collect_returns_iff
#print axioms Ro.C06op.collect_exact
