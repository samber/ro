/-
  C07 — errors and panics surface once as an Error notification, never as a crash.

  Model: `RoModel/Fault.lean` — `runOp`'s pipeline  source ─U─O─[closure]─D─F  with an `Outcome` for
  every invocation of user code and the kernel wrappers (`tryNext`/`tryError`/`tryComplete`, the
  recover of `SubscribeWithContext`, `execFinalizer`, `subscription.Add`) read line by line;
  `RoModel/Fault/Ops.lean` — where each catalogue closure calls its callback. Tied to the real code
  by `kind=fault` (go/harness/fault.go against RoModel/Drivers/Fault.lean).

  Proved, for every operator machine `fm` (parametric in its callbacks), every raw script (legal or
  not), both source modes, every subscription context:
   * `next_fault`       a plan over the Next-position callback whose first failing invocation panics
                        (error value or any other value): delivered = what the un-faulted operator
                        delivers for the inputs before ++ [Error(observer(p))], Grammar, the cause in
                        the `Unwrap` chain, nothing escaped, nothing unhandled, downstream closed,
                        source unsubscribed and torn down exactly once; later faults change nothing.
   * `error_return`     the same for `return …, err` of an error-aware callback (`MapErr`): Error(err)
                        unwrapped, with the context the callback returned.
   * `subscribe_fn_panic` a panic of the source's subscribe function after j notifications = those j
                        notifications, then Error(subscriberCtx, observable(p)), then Unsubscribe().
   * `fault_not_reached` a plan that is never reached changes nothing.
   * `grammar_partial`  EVERY plan in which the final observer's next callback does not panic (all
                        other positions may, teardown included): values, at most one terminal, nothing after.
   * `agree`            for ANY plan over the Next-position callback (any number of panics and error
                        returns) the run is `runOp` of the injected machine: same trace, same drops —
                        so C01's grammar/partition theorems and C04's specifications transfer.
   * `never_escapes`    for EVERY plan that leaves the source's teardown alone (operator callbacks in
                        all positions, source subscribe function, the final observer's three
                        callbacks; any number of faults): no panic reaches the goroutine that called
                        Subscribe / Next / Error / Complete / Unsubscribe.
   * `every_failure_reaches_someone`  for every such plan (pairs, triples, …): each injected panic is
                        in the chain of an error given to the final observer's error callback, of a
                        dropped Error notification (the second failure), or of an error given to
                        `OnUnhandledError` (failures no one can receive).
   * `finalizers_*`     `Unsubscribe` runs every finalizer whatever subset panics and re-raises
                        exactly their `unsubscriptionError`s, joined, after the loop.
   * `go_statements_recovered`  (F) every `go` statement / `time.AfterFunc` of the regenerated
                        catalogue that calls user code is wrapped in `recoverUnhandledError` (no
                        exception since fix 8bf73dd repaired `Future`).

  Deviations of the pinned tree (each: witness theorem by `decide`, the `_partial` that excludes
  exactly that class, a known finding replayed on the real code):
   (i)   a panic of the FINAL observer's next callback is handed to its error callback but the
         observer stays open: `N, E, N, C` (`final_onNext_panic_witness`; `grammar_partial` excludes
         exactly the plans with a panicking `fN`).
   (ii)  a panic in an Error/Complete-position callback (`ThrowIfEmpty`'s throw, `Catch`'s handler,
         `Tap`'s onError/onComplete) goes to the unhandled hook and the subscriber never gets a
         terminal (`throwIfEmpty_throw_panic_witness`, `catch_handler_panic_witness`,
         `tap_onError_panic_witness`, `tap_onComplete_panic_witness`; `next_fault` is about the Next
         position only). With `Tap`, a Next-callback panic followed by a panic of the error callback
         that receives it loses the first cause altogether (`tap_first_cause_lost_witness`;
         `every_failure_reaches_someone` requires `Forwards`, which `Tap` does not satisfy).
   (iii) `Future` — repaired in /repo (8bf73dd: goroutine recovered; 34cf01a: a factory panic becomes
         `Error(observable(p))`): `future_factory_panic` describes the repaired code.
   (v)   a panicking teardown is re-raised to whoever triggered the unsubscription: into the
         producer's goroutine for a hot source (`teardown_panic_escapes_witness`), into the caller
         of `Unsubscribe` (`teardown_panic_unsubscribe_witness`); inside `Subscribe` it is recovered
         and surfaces only as a dropped Error (`teardown_panic_dropped_witness`). Excluded by
         `never_escapes` (`srcTd = none`).
   (vi)  (found while building this slice) `subscriberImpl.NextWithContext` unlocks without `defer`:
         a hand-written `Observer` whose `Next` panics leaves the producer mutex locked and the
         recover handler of `SubscribeWithContext` deadlocks on it (`raw_observer_lock_witness`,
         `raw_observer_partial`).
  Not modelled here: (iv) `Share` over a synchronous source (belongs to the Share model of C11) and
  the subject half of (v) (a teardown panic under a subject's mutex; needs the subject models of C10).
-/
import RoProofs.Fault.Next
import RoProofs.Fault.Kernel
import RoProofs.Fault.Grammar
import RoProofs.Fault.SubscribeFn
import RoProofs.Ops.Basic
import RoGen.Catalogue
import RoGen.FaultFacts
import RoProofs.ObsNil
import RoProofs.ObsPartial
namespace Ro.C07
open Ro Ro.Fault

deriving instance DecidableEq for Ro.Drop

variable {σ α β : Type}

/-! ## theorems -/

/-- **C07, Next position.** Every operator machine `fm.base` with call sites `fm.callsN`; every plan
    `cbN` over its Next-position callback whose first failing invocation (number
    `countCalls … pre`, i.e. the one made for the input `next c v` that follows the prefix `pre` of
    the source's gated script) panics with an error value or any other value; every source mode,
    subscription context and raw script (legal or not). Hypotheses: the operator subscribes to its
    source, emits no terminal from its subscribe function, and forwards errors in the state in
    which it called the callback (true of every catalogue closure: `…_forwards`, `RoProofs/Fault/Kernel.lean`). -/
theorem next_fault (fm : FMachine σ α β) (cbN : Nat → Option Fault.Fault) (f : Fault.Fault) (p : Err)
    (mode : SrcMode) (sub : Ctx) (raw pre post : List (Notif α)) (c : Ctx) (v : α)
    (hs : fm.base.subscribes = true)
    (hsub : hasTerm (fm.base.onSubscribe fm.base.init sub).2 = false)
    (hraw : gate raw = pre ++ .next c v :: post)
    (hf : cbN (countCalls fm (fm.base.onSubscribe fm.base.init sub).1 pre) = some f) (hp : f.recovered = some p)
    (hfirst : ∀ i, i < countCalls fm (fm.base.onSubscribe fm.base.init sub).1 pre → cbN i = none)
    (hcall : fm.callsN (fm.base.after (fm.base.onSubscribe fm.base.init sub).1 pre) c v = true)
    (hfwd : ∀ e, (fm.base.onError (fm.base.after (fm.base.onSubscribe fm.base.init sub).1 pre) c e).2 = [.error c e]) :
    Surfaced fm (nextPlan cbN) mode sub raw (runOp fm.base mode sub pre).out c p := by
  -- `tryNext` hands `observer(p)` to O's own error callback, which forwards it
  have hstep : (inject fm cbN).step (fm.base.after (fm.base.onSubscribe fm.base.init sub).1 pre,
        countCalls fm (fm.base.onSubscribe fm.base.init sub).1 pre) (.next c v) =
      (((fm.base.onError (fm.base.after (fm.base.onSubscribe fm.base.init sub).1 pre) c (.observer p)).1,
        countCalls fm (fm.base.onSubscribe fm.base.init sub).1 pre + 1), [.error c (.observer p)]) := by
    rw [← hfwd]
    cases f with
    | panicErr e => cases hp; simp [Machine.step, inject, hcall, hf]
    | panicVal n => cases hp; simp [Machine.step, inject, hcall, hf]
    | errRet e => cases hp
  obtain ⟨h1, h2, h3, h4, h5⟩ := first_fault_run fm cbN mode sub raw pre post c c v _ _ hs hsub hraw hfirst hstep
  exact ⟨h1, h2, h3, Err.mem_chain_observer p p (Err.self_mem_chain p), h4, h5⟩

/-- when the failing invocation is never reached the fault changes nothing -/
theorem fault_not_reached (fm : FMachine σ α β) (cbN : Nat → Option Fault.Fault) (mode : SrcMode) (sub : Ctx)
    (raw : List (Notif α)) (hs : fm.base.subscribes = true)
    (hsub : hasTerm (fm.base.onSubscribe fm.base.init sub).2 = false)
    (hnone : ∀ i, i < countCalls fm (fm.base.onSubscribe fm.base.init sub).1 (gate raw) → cbN i = none) :
    (runScript fm (nextPlan cbN) mode sub raw).2 = [] ∧
    (runScript fm (nextPlan cbN) mode sub raw).1.trace = (runOp fm.base mode sub raw).out ∧
    (runScript fm (nextPlan cbN) mode sub raw).1.unhandled = [] := by
  obtain ⟨hesc, hag⟩ := runScript_agree fm cbN mode sub raw hs hsub
  have hsi : (inject fm cbN).subscribes = true := hs
  refine ⟨hesc, ?_, hag.unh⟩
  rw [hag.trace, runOp_out _ _ _ _ hsi, runOp_out _ _ _ _ hs]
  have e0 : (inject fm cbN).onSubscribe (inject fm cbN).init sub =
      (((fm.base.onSubscribe fm.base.init sub).1, 0), (fm.base.onSubscribe fm.base.init sub).2) := rfl
  rw [e0]
  simp only []
  rw [(inject_before fm cbN (gate raw) _ 0 (by intro i _ h2; exact hnone i (by omega))).1]

/-- **C07, error return.** The first planned outcome of the Next-position callback is `return …, err`
    at the invocation made for the input that follows `pre`; the operator's reaction to a returned
    error (`onErrRet`) emits `Error(err)`. Then: delivered = (what the un-faulted operator delivers
    before) ++ [Error(err)], nothing escaped, nothing unhandled, upstream released. -/
theorem error_return (fm : FMachine σ α β) (cbN : Nat → Option Fault.Fault) (e : Err)
    (h : σ → Ctx → α → Err → σ × List (Notif β))
    (mode : SrcMode) (sub : Ctx) (raw pre post : List (Notif α)) (c c' : Ctx) (v : α)
    (hs : fm.base.subscribes = true)
    (hsub : hasTerm (fm.base.onSubscribe fm.base.init sub).2 = false)
    (hraw : gate raw = pre ++ .next c v :: post)
    (hh : fm.onErrRet = some h)
    (hf : cbN (countCalls fm (fm.base.onSubscribe fm.base.init sub).1 pre) = some (.errRet e))
    (hfirst : ∀ i, i < countCalls fm (fm.base.onSubscribe fm.base.init sub).1 pre → cbN i = none)
    (hcall : fm.callsN (fm.base.after (fm.base.onSubscribe fm.base.init sub).1 pre) c v = true)
    (hret : (h (fm.base.after (fm.base.onSubscribe fm.base.init sub).1 pre) c v e).2 = [.error c' e]) :
    Returned fm (nextPlan cbN) mode sub raw (runOp fm.base mode sub pre).out c' e := by
  have hstep : (inject fm cbN).step (fm.base.after (fm.base.onSubscribe fm.base.init sub).1 pre,
        countCalls fm (fm.base.onSubscribe fm.base.init sub).1 pre) (.next c v) =
      (((h (fm.base.after (fm.base.onSubscribe fm.base.init sub).1 pre) c v e).1,
          countCalls fm (fm.base.onSubscribe fm.base.init sub).1 pre + 1), [.error c' e]) := by
    rw [← hret]
    simp [Machine.step, inject, hcall, hf, hh]
  obtain ⟨h1, h2, h3, h4, h5⟩ := first_fault_run fm cbN mode sub raw pre post c c' v _ _ hs hsub hraw hfirst hstep
  exact ⟨h1, h2, h3, h4, h5⟩

/-- `_partial` for deviation (i), at full generality: every machine, EVERY plan in which the final
    observer's next callback does not panic (all other positions may fail, any number of times,
    teardown included): the final observer sees values, at most one terminal, nothing after —
    during the script and after the follow-up notification and the final `Unsubscribe()` -/
theorem grammar_partial (fm : FMachine σ α β) (P : Plan) (hN : ∀ k, panicAt P.fN k = none) (mode : SrcMode)
    (sub : Ctx) (raw : List (Notif α)) (fu : Notif α) :
    Grammar (runScript fm P mode sub raw).1.trace ∧ Grammar (Fault.run fm P mode sub raw fu).fin.trace :=
  grammar_unless_final_next_panics P hN fm mode sub raw fu

/-- the subscribe function of the source panics with `p` right before its `j`-th notification
    (any machine, any plan otherwise): the first `j` notifications are delivered, then
    `Error(subscriberCtx, observable(p))` goes to the same subscriber, then `Unsubscribe()` — so
    the failure enters the pipeline as an ordinary upstream error and everything proved about
    upstream errors applies to it -/
theorem subscribe_fn_panic (fm : FMachine σ α β) (P : Plan) (j : Nat) (f : Fault.Fault) (p : Err)
    (hss : P.srcSub = some (j, f)) (hp : f.recovered = some p) (sub : Ctx) (raw : List (Notif α)) (s : St σ α β) :
    srcSubscribe fm P sub raw s =
      match thenPanics p (feedAll fm P { s with subs := s.subs + 1 } (raw.take j)) with
      | (s1, some q) =>
        (match uFeed fm P s1 (.error sub (.observable q)) with
         | (s2, some x) => (s2, some x)
         | (s2, none) => opTeardown P s2)
      | (s1, none) => (s1, none) := by
  unfold srcSubscribe
  rw [srcBody_split fm P j f p hss hp raw 0 _ (Nat.zero_le _)]
  simp only [Nat.sub_zero]
  generalize feedAll fm P { s with subs := s.subs + 1 } (raw.take j) = r
  obtain ⟨r1, r2⟩ := r
  cases r2 with
  | none =>
    simp only [thenPanics, srcCatch]
    generalize uFeed fm P (r1.fire p) (.error sub (.observable p)) = t
    obtain ⟨t1, t2⟩ := t
    cases t2 <;> rfl
  | some q =>
    simp only [thenPanics, srcCatch]
    generalize uFeed fm P r1 (.error sub (.observable q)) = t
    obtain ⟨t1, t2⟩ := t
    cases t2 <;> rfl

/-- any plan over the Next-position callback: the run is `runOp` of the injected machine -/
theorem agree (fm : FMachine σ α β) (cbN : Nat → Option Fault.Fault) (mode : SrcMode) (sub : Ctx)
    (raw : List (Notif α)) (hs : fm.base.subscribes = true)
    (hsub : hasTerm (fm.base.onSubscribe fm.base.init sub).2 = false) :
    (runScript fm (nextPlan cbN) mode sub raw).2 = [] ∧
      Agree (runScript fm (nextPlan cbN) mode sub raw).1 (runOp (inject fm cbN) mode sub raw) :=
  runScript_agree fm cbN mode sub raw hs hsub

/-- … hence values, at most one terminal, nothing after it — however many invocations fail -/
theorem grammar_next_plans (fm : FMachine σ α β) (cbN : Nat → Option Fault.Fault) (mode : SrcMode) (sub : Ctx)
    (raw : List (Notif α)) (hs : fm.base.subscribes = true)
    (hsub : hasTerm (fm.base.onSubscribe fm.base.init sub).2 = false) :
    Grammar (runScript fm (nextPlan cbN) mode sub raw).1.trace := by
  rw [(runScript_agree fm cbN mode sub raw hs hsub).2.trace]
  exact runOp_grammar _ _ _ _

/-- every plan without a teardown fault, every machine: nothing escapes — during the script, from
    the follow-up notification, or from the final `Unsubscribe()` -/
theorem never_escapes (fm : FMachine σ α β) (P : Plan) (htd : P.srcTd = none) (mode : SrcMode) (sub : Ctx)
    (raw : List (Notif α)) (fu : Notif α) :
    (Fault.run fm P mode sub raw fu).escaped = [] ∧ (Fault.run fm P mode sub raw fu).escapedFin = [] :=
  no_escape_fin P htd fm mode sub raw fu

/-- every plan over the operator's callbacks (three positions) and the final observer's callbacks,
    any number of faults: each injected panic reaches the final observer, the drop hook or the
    unhandled hook with its cause still in the chain -/
theorem every_failure_reaches_someone (fm : FMachine σ α β) (hfm : Forwards fm) (P : Plan)
    (htd : P.srcTd = none) (hss : P.srcSub = none) (hcs : P.cbS = none) (mode : SrcMode) (sub : Ctx)
    (raw : List (Notif α)) :
    ∀ p ∈ (runScript fm P mode sub raw).1.fired, Accounted (runScript fm P mode sub raw).1 p :=
  all_accounted P htd hss hcs fm hfm mode sub raw

theorem finalizers_all_run (fs : List (Option Err)) :
    (runFinalizers fs).1 = fs.length ∧ (runFinalizers fs).2 = fs.filterMap (fun f => f.map Err.unsubscription) :=
  runFinalizers_spec fs

theorem finalizers_cause_kept (fs : List (Option Err)) (p : Err) (h : some p ∈ fs) :
    ∃ e ∈ (runFinalizers fs).2, p ∈ e.chain := runFinalizers_cause fs p h

/-! ### one operator spelled out with its C04 specification: `Map` -/

theorem hasTerm_spec_map_never (f : Ctx → α → Nat → Ctx × β) (vs : List (Ctx × α)) :
    hasTerm (Spec.map f vs .never) = false := by
  simp [Spec.map, Ending.toList, hasTerm_map_nextlike]

theorem countCalls_always {σ' : Type} (m : Machine σ' α β) :
    ∀ (pre : List (Notif α)) (s : σ'), hasTerm pre = false → countCalls (always m) s pre = pre.length := by
  intro pre
  induction pre with
  | nil => intro s _; rfl
  | cons x xs ih =>
    intro s h
    cases x with
    | next c v =>
      simp only [hasTerm_cons, Notif.isTerminal_next, Bool.false_or] at h
      have e : countCalls (always m) s (.next c v :: xs) = 1 + countCalls (always m) (m.onNext s c v).1 xs := rfl
      rw [e, ih _ h, List.length_cons]; omega
    | error c e => simp at h
    | complete c => simp at h

/-- `Map(project)` where invocation `k` of `project` panics (and `k` is the first planned fault):
    the subscriber receives the projections of the first `k` values, then `Error(observer(p))`
    with the context of value `k`, and nothing else. -/
theorem map_fault (f : Ctx → α → Nat → Ctx × β) (cbN : Nat → Option Fault.Fault) (flt : Fault.Fault) (p : Err)
    (mode : SrcMode) (sub : Ctx) (raw pre post : List (Notif α)) (c : Ctx) (v : α)
    (hraw : gate raw = pre ++ .next c v :: post)
    (hf : cbN pre.length = some flt) (hp : flt.recovered = some p)
    (hfirst : ∀ i, i < pre.length → cbN i = none) :
    (runScript (mapF f) (nextPlan cbN) mode sub raw).1.trace =
      Spec.map f (values pre) .never ++ [.error c (.observer p)] ∧
    (runScript (mapF f) (nextPlan cbN) mode sub raw).2 = [] ∧
    (runScript (mapF f) (nextPlan cbN) mode sub raw).1.unhandled = [] ∧
    (runScript (mapF f) (nextPlan cbN) mode sub raw).1.rel = 1 := by
  have hpre : hasTerm pre = false := gate_prefix_noTerm raw pre post _ hraw
  have hcc : countCalls (mapF f) ((mapF f).base.onSubscribe (mapF f).base.init sub).1 pre = pre.length :=
    countCalls_always (mapM f) pre _ hpre
  have h := next_fault (mapF f) cbN flt p mode sub raw pre post c v rfl rfl hraw
    (by rw [hcc]; exact hf) hp (by rw [hcc]; exact hfirst) rfl (fun _ => rfl)
  have hend : ending pre = .never := by
    clear h hcc hf hfirst hraw
    induction pre with
    | nil => rfl
    | cons x xs ih =>
      cases x with
      | next c v => simp only [hasTerm_cons, Notif.isTerminal_next, Bool.false_or] at hpre; simpa [ending] using ih hpre
      | error c e => simp at hpre
      | complete c => simp at hpre
  have hout : (runOp (mapF f).base mode sub pre).out = Spec.map f (values pre) .never := by
    have := map_spec f mode sub pre
    rw [hend] at this
    exact this
  refine ⟨?_, h.escaped, h.unhandled, h.released.2.2⟩
  rw [h.trace, hout, hasTerm_spec_map_never]
  rfl

/-! ## F: `go` statements over the regenerated catalogue -/

/-- every `go` statement / `time.AfterFunc` whose body calls a user-supplied function is wrapped in
    `recoverUnhandledError`, except in the operators listed as known -/
def goOK (known : List String) (t : List Facts.OpFact) : Bool :=
  t.all (fun r => r.goStmts.all (fun g => !g.callsUser || g.recovered || known.contains r.name))

/-- lifting lemma, for an arbitrary table -/
theorem goOK_sound (known : List String) (t : List Facts.OpFact) (h : goOK known t = true)
    (r : Facts.OpFact) (hr : r ∈ t) (g : Facts.GoFact) (hg : g ∈ r.goStmts)
    (hu : g.callsUser = true) (hk : known.contains r.name = false) : g.recovered = true := by
  have h1 := List.all_eq_true.mp h r hr
  have h2 := List.all_eq_true.mp h1 g hg
  rw [hu, hk] at h2
  simpa using h2

/-- … so a panic of user code on such a goroutine never kills the process -/
theorem go_user_code_never_crashes (known : List String) (t : List Facts.OpFact) (h : goOK known t = true)
    (r : Facts.OpFact) (hr : r ∈ t) (g : Facts.GoFact) (hg : g ∈ r.goStmts)
    (hu : g.callsUser = true) (hk : known.contains r.name = false) (p : Option Err) :
    ∀ e, goBody g.recovered p ≠ .crash e := by
  rw [goOK_sound known t h r hr g hg hu hk]
  exact goBody_recovered p

/-- decided on the table regenerated from the source on this run, with an empty exclusion list
    (`Future`'s goroutine is recovered since /repo 8bf73dd) -/
theorem go_statements_recovered : goOK [] RoGen.Catalogue.table = true := by decide +kernel

/-- every goroutine the library starts (`go` statement) runs under `recoverUnhandledError`, whether or not its body
    calls a user function directly: each of them sends notifications or registers / releases subscriptions, so a
    TEARDOWN that panics — re-raised by `Unsubscribe` to whoever triggered it (C03) — can surface on it (ToChannel
    registering its upstream subscription on a subscription disposed in the meantime; ThrowOnContextCancel / Never
    sending the terminal on context cancellation; repaired by /repo 2d51ab1, before which such a panic killed the
    process) -/
def allGoRecovered (t : List Facts.OpFact) : Bool :=
  t.all (fun r => r.goStmts.all (fun g => !(g.kind == "go") || g.recovered))

theorem every_goroutine_recovered : allGoRecovered RoGen.Catalogue.table = true := by decide +kernel

/-- … hence whatever is raised on a library goroutine (user code or a re-raised teardown panic) goes to the
    unhandled-error hook, never to the runtime -/
theorem library_goroutine_never_crashes (r : Facts.OpFact) (hr : r ∈ RoGen.Catalogue.table) (g : Facts.GoFact)
    (hg : g ∈ r.goStmts) (hk : g.kind = "go") (p : Option Err) : ∀ e, goBody g.recovered p ≠ .crash e := by
  have h1 := List.all_eq_true.mp every_goroutine_recovered r hr
  have h2 := List.all_eq_true.mp h1 g hg
  have hrec : g.recovered = true := by
    rw [hk] at h2
    simpa using h2
  rw [hrec]
  exact goBody_recovered p

/-- what a bare goroutine would mean at run time (the state of `Future` before 8bf73dd) -/
theorem bare_goroutine_crashes (p : Err) : goBody false (some p) = .crash p := rfl

/-- (iii, repaired by 8bf73dd + 34cf01a) `Future`: whatever the factory does, nothing is left for
    the goroutine's wrapper; a returning factory delivers `Next, Complete`; a panicking factory
    (error value or any other value) reaches the subscriber exactly once, as an Error notification
    whose `Unwrap` chain contains the cause, with nothing after it -/
theorem future_factory_panic (p : Err) (v : Int) :
    (futureRun (some p) v).res = .returned ∧
    (futureRun (some p) v).seen = [.error {} (.observable p)] ∧
    p ∈ (Err.observable p).chain ∧
    Grammar (futureRun (some p) v).seen :=
  ⟨rfl, rfl, Err.mem_chain_observable p p (Err.self_mem_chain p), by simp [futureRun, Grammar]⟩

theorem future_factory_returns (v : Int) :
    futureRun none v = { res := .returned, seen := [.next {} v, .complete {}] } := rfl

/-! ## deviation witnesses (each replayed on the real code, see known_findings.jsonl) -/

def at1 (k : Nat) (f : Fault.Fault) : Nat → Option Fault.Fault := fun i => if i = k then some f else none

def c (m : Nat) : Ctx := ({} : Ctx).tag 7 |>.tag m
def dbl : Ctx → Int → Nat → Ctx × Int := fun c v _ => (c, v * 2)
def s123C : List (Notif Int) := [.next (c 1) 1, .next (c 2) 2, .next (c 3) 3, .complete (c 4)]

/-- (i) the final observer's next callback panics on the 2nd value: its error callback is called,
    then the stream goes on — `N, N, E, N, C` at the user's callbacks -/
theorem final_onNext_panic_witness :
    (runScript (mapF dbl) { fN := at1 1 (.panicErr (.user 5)) } .sync (c 0) s123C).1.trace =
      [.next (c 1) 2, .next (c 2) 4, .error (c 2) (.observer (.user 5)), .next (c 3) 6, .complete (c 4)] := by decide +kernel

theorem final_onNext_panic_breaks_grammar :
    ¬ Grammar (runScript (mapF dbl) { fN := at1 1 (.panicErr (.user 5)) } .sync (c 0) s123C).1.trace := by decide +kernel

/-- (ii) `ThrowIfEmpty`: `throw()` panics at the completion of an empty source — the subscriber
    gets nothing at all, the hook gets the error -/
theorem throwIfEmpty_throw_panic_witness :
    (runScript (throwIfEmptyF (α := Int) (.user 4)) { cbC := at1 0 (.panicErr (.user 5)) } .sync (c 0) [.complete (c 1)]).1.trace = [] ∧
    (runScript (throwIfEmptyF (α := Int) (.user 4)) { cbC := at1 0 (.panicErr (.user 5)) } .sync (c 0) [.complete (c 1)]).1.unhandled
      = [.observer (.user 5)] := by decide +kernel

/-- (ii) `Catch`: the handler panics — values delivered, no terminal ever -/
theorem catch_handler_panic_witness :
    (runScript (catchF (fun cx _ => [Notif.next cx (9 : Int), .complete cx])) { cbE := at1 0 (.panicVal 6) } .hot (c 0)
        [.next (c 1) 1, .error (c 2) (.user 1)]).1.trace = [.next (c 1) 1] ∧
    (runScript (catchF (fun cx _ => [Notif.next cx (9 : Int), .complete cx])) { cbE := at1 0 (.panicVal 6) } .hot (c 0)
        [.next (c 1) 1, .error (c 2) (.user 1)]).1.unhandled = [.observer (.panicVal 6)] := by decide +kernel

/-- (ii) `Tap`: onError panics — the source's error never reaches the subscriber -/
theorem tap_onError_panic_witness :
    (runScript (tapF (α := Int)) { cbE := at1 0 (.panicErr (.user 5)) } .sync (c 0)
        [.next (c 1) 1, .error (c 2) (.user 1)]).1.trace = [.next (c 1) 1] ∧
    (runScript (tapF (α := Int)) { cbE := at1 0 (.panicErr (.user 5)) } .sync (c 0)
        [.next (c 1) 1, .error (c 2) (.user 1)]).1.unhandled = [.observer (.user 5)] := by decide +kernel

theorem tap_onComplete_panic_witness :
    (runScript (tapF (α := Int)) { cbC := at1 0 (.panicErr (.user 5)) } .sync (c 0)
        [.next (c 1) 1, .complete (c 2)]).1.trace = [.next (c 1) 1] ∧
    (runScript (tapF (α := Int)) { cbC := at1 0 (.panicErr (.user 5)) } .sync (c 0)
        [.next (c 1) 1, .complete (c 2)]).1.unhandled = [.observer (.user 5)] := by decide +kernel

/-- (ii) `Tap`: onNext panics with u5, the error callback that receives `observer(u5)` panics with
    u6 — only u6 reaches a hook; u5 is lost (and the stream continues: `N 2` is delivered) -/
theorem tap_first_cause_lost_witness :
    (runScript (tapF (α := Int)) { cbN := at1 0 (.panicErr (.user 5)), cbE := at1 0 (.panicErr (.user 6)) } .sync (c 0)
        [.next (c 1) 1, .next (c 2) 2]).1.trace = [.next (c 2) 2] ∧
    (runScript (tapF (α := Int)) { cbN := at1 0 (.panicErr (.user 5)), cbE := at1 0 (.panicErr (.user 6)) } .sync (c 0)
        [.next (c 1) 1, .next (c 2) 2]).1.unhandled = [.observer (.user 6)] ∧
    (runScript (tapF (α := Int)) { cbN := at1 0 (.panicErr (.user 5)), cbE := at1 0 (.panicErr (.user 6)) } .sync (c 0)
        [.next (c 1) 1, .next (c 2) 2]).1.fired = [.user 5, .user 6] := by decide +kernel

/-- (v) hot source: the source's teardown panics when the source completes — the panic comes out
    of the producer's `Complete` call -/
theorem teardown_panic_escapes_witness :
    (runScript (mapF dbl) { srcTd := some (.panicErr (.user 5)) } .hot (c 0) [.next (c 1) 1, .complete (c 2)]).2
      = [.unsubscription (.user 5)] ∧
    (runScript (mapF dbl) { srcTd := some (.panicErr (.user 5)) } .hot (c 0) [.next (c 1) 1, .complete (c 2)]).1.trace
      = [.next (c 1) 2, .complete (c 2)] := by decide +kernel

/-- (v) an unfinished stream: the panic comes out of the subscriber's `Unsubscribe()` -/
theorem teardown_panic_unsubscribe_witness :
    (Fault.run (mapF dbl) { srcTd := some (.panicErr (.user 5)) } .sync (c 0) [.next (c 1) 1] (.next (c 9) 99)).escapedFin
      = [.unsubscription (.unsubscription (.user 5))] := by decide +kernel

/-- (v) synchronous source that completes inside `Subscribe`: the teardown runs inside
    `subscription.Add`, its panic is recovered by `SubscribeWithContext` and ends as a *dropped*
    Error notification — the subscriber saw a clean completion -/
theorem teardown_panic_dropped_witness :
    (runScript (mapF dbl) { srcTd := some (.panicErr (.user 5)) } .sync (c 0) [.next (c 1) 1, .complete (c 2)]).1.drops
      = [.up (.error (c 0) (.observable (.user 5)))] ∧
    (runScript (mapF dbl) { srcTd := some (.panicErr (.user 5)) } .sync (c 0) [.next (c 1) 1, .complete (c 2)]).2 = [] := by
  decide +kernel

/-- (vi) a hand-written `Observer` (no `tryNext` around its code) whose `Next` panics under an
    observable built with a real mutex: `subscriberImpl.NextWithContext` has no deferred unlock, the
    recover handler's `ErrorWithContext` locks the same mutex — `Subscribe` never returns -/
theorem raw_observer_lock_witness :
    (rawObserverRun false true (at1 0 (.panicErr (.user 5))) 0 [1, 2] {}).hang = true := by decide +kernel

/-- … `_partial`: with a deferred unlock, or without a real mutex, or without a panic, it returns -/
theorem raw_observer_partial (deferred safe : Bool) (fN : Nat → Option Fault.Fault) (vs : List Int)
    (h : deferred = true ∨ safe = false ∨ ∀ k, panicAt fN k = none) :
    ∀ (k : Nat) (r : RawRun), r.hang = false → (rawObserverRun deferred safe fN k vs r).hang = false := by
  induction vs with
  | nil => intro k r hr; exact hr
  | cons v vs ih =>
    intro k r hr
    unfold rawObserverRun
    cases hp : panicAt fN k with
    | none => exact ih _ _ hr
    | some p =>
      rcases h with h | h | h
      · subst h; simpa using hr
      · subst h; simpa using hr
      · rw [h k] at hp; cases hp

/-! ## F: deferred unlocks around calls into user code -/

/-- every listed kernel method was recognised and releases its mutex by a `defer` that is in force
    when it calls out — except the methods listed as known -/
def deferOK (known : List String) (t : List (String × Bool × Bool)) : Bool :=
  t.all (fun r => !r.2.2 && (r.2.1 || known.contains r.1))

/-- the model of `subscription.Add` (a teardown added after disposal runs at once and its panic
    propagates to the recover of `SubscribeWithContext`, after which the subscription is still
    usable) rests on this fact; without the `defer` the subscription's mutex stays locked for good -/
theorem add_unlock_deferred :
    (RoGen.FaultFacts.deferredUnlock.find? (·.1 == "subscriptionImpl.Add")).map (·.2) = some (true, false) := by decide +kernel

/-- decided on the facts regenerated on this run; the three `subscriberImpl` methods are the known
    finding (vi) -/
theorem deferred_unlock_partial :
    deferOK ["subscriberImpl.NextWithContext", "subscriberImpl.ErrorWithContext", "subscriberImpl.CompleteWithContext"]
      RoGen.FaultFacts.deferredUnlock = true := by decide +kernel

/-! ## non-vacuity -/

-- the hypotheses of `next_fault` / `map_fault` on a concrete run: invocation 1 of `project` panics
example : (runScript (mapF dbl) (nextPlan (at1 1 (.panicVal 3))) .hot (c 0) (s123C ++ [.next (c 5) 9])).1.trace =
    [.next (c 1) 2, .error (c 2) (.observer (.panicVal 3))] := by decide +kernel
example : gate (s123C ++ [.next (c 5) 9]) = [Notif.next (c 1) (1 : Int)] ++ .next (c 2) 2 :: [.next (c 3) 3, .complete (c 4)] := by decide +kernel
-- a pair: the second failure (invocation 2) is dropped by the closed subscriber (synchronous source)
example : (runScript (mapF dbl) (nextPlan (fun i => if i = 1 ∨ i = 2 then some (.panicErr (.user i)) else none)) .sync (c 0) s123C).1.drops =
    [.down (.error (c 3) (.observer (.user 2))), .down (.complete (c 4))] := by decide +kernel
-- an error return of MapErr's callback is forwarded unwrapped with the callback's context
example : (runScript (mapErrF (fun cx v _ => (v, cx.tag 50, none))) (nextPlan (at1 0 (.errRet (.user 7)))) .sync (c 0) s123C).1.trace =
    [.error ((c 1).tag 50) (.user 7)] := by decide +kernel
-- `Forwards` has instances and a non-instance
example : Forwards (takeWhileF (fun cx (v : Int) _ => (cx, v < 3))) := takeWhileF_forwards _
example : ¬ Forwards (tapF (α := Int)) := fun h => by have := h.noE () {} 0 rfl; cases this
-- the source's subscribe function panics after two values: Error(observable(p)) with the subscription context
example : (runScript (mapF dbl) { srcSub := some (2, .panicErr (.user 5)) } .sync (c 0) s123C).1.trace =
    [.next (c 1) 2, .next (c 2) 4, .error (c 0) (.observable (.user 5))] := by decide +kernel
example : (runFinalizers [none, some (.user 1), none, some (.panicVal 2)]) = (4, [.unsubscription (.user 1), .unsubscription (.panicVal 2)]) := by decide +kernel

/-! ### an observer built with nil callbacks (RoModel/ObsNil.lean; tie: kind=nilobs) -/

/-- "failures that no one can receive go to the unhandled-error hook": the Next callback of an observer WITHOUT an error
    callback panics while the observer is open — the panic, wrapped once and still matching its cause, reaches
    `OnUnhandledError`; nothing reaches the observer's callbacks or the dropped-notification hook; the observer stays open -/
theorem nil_error_callback_panic_unhandled (cfg : ObsNil.Cfg) (fault : Nat → Option Err) (hn : cfg.hasNext = true)
    (he : cfg.hasError = false) (s : ObsNil.St) (hs : s.status = 0) (c : Ctx) (v : Int) (p : Err) (hf : fault s.calls = some p) :
    (ObsNil.step cfg fault s (.next c v)).unhandled = s.unhandled ++ [.observer p] ∧
    (ObsNil.step cfg fault s (.next c v)).trace = s.trace ∧ (ObsNil.step cfg fault s (.next c v)).dropped = s.dropped ∧
    (ObsNil.step cfg fault s (.next c v)).status = 0 ∧ p ∈ (Err.observer p).chain :=
  ObsNil.step_panic_unhandled cfg fault hn he s hs c v p hf

/-- the dropped-notification hook only sees notifications the producer sent: a recovered panic is never reported there,
    for every configuration of nil callbacks, every fault plan and every raw script -/
theorem nil_callbacks_dropped_from_script (cfg : ObsNil.Cfg) (fault : Nat → Option Err) (script : List (Notif Int)) :
    ∀ n ∈ (ObsNil.run cfg fault script).dropped, n ∈ script := ObsNil.dropped_from_script cfg fault script

/-- … and the unhandled-error hook only sees wrapped panic values of the plan -/
theorem nil_error_callback_unhandled_only_panics (cfg : ObsNil.Cfg) (fault : Nat → Option Err) (he : cfg.hasError = false)
    (script : List (Notif Int)) :
    ∀ e ∈ (ObsNil.run cfg fault script).unhandled, ∃ k p, fault k = some p ∧ e = .observer p :=
  ObsNil.unhandled_only_panics cfg fault he script

/-- C07 / C01, a full observer (`NewObserver`) under ANY panic plan of its value callback - the listed finding "an observer
    stays open after its own `onNext` panicked", stated exactly: a value whose invocation panics is replaced, in place, by the
    wrapped panic handed to the error callback; the later values of the gated script and its terminal still follow; nothing
    reaches the unhandled-error hook -/
theorem newObserver_under_panics (fault : Nat → Option Err) (script : List (Notif Int)) :
    (ObsPartial.run .full fault script).seen = ObsPartial.pickFull fault 0 (gate script) ∧
    (ObsPartial.run .full fault script).unhandled = [] :=
  ⟨ObsPartial.seen_full_fault fault script, ObsPartial.unhandled_nil .full fault script⟩

-- the deviation from C01 in one line: an Error in the middle of the values
example : (ObsPartial.run .full (fun k => if k = 0 then some (.user 5) else none) [.next {} 1, .next {} 2, .complete {}]).seen
    = [.error {} (.observer (.user 5)), .next {} 2, .complete {}] := by decide +kernel

/-- C07 / C01, `OnNext` under ANY panic plan of its one callback (every invocation: returns | panics): the callback has
    returned normally from exactly the values of the gated script whose invocation did not panic, in order; a panic neither
    closes the observer nor loses a later value, and nothing reaches the unhandled-error hook -/
theorem onNext_under_panics (fault : Nat → Option Err) (script : List (Notif Int)) :
    (ObsPartial.run .onNext fault script).seen = ObsPartial.pick fault 0 ((gate script).filter ObsPartial.isNextB) ∧
    (ObsPartial.run .onNext fault script).unhandled = [] :=
  ⟨ObsPartial.seen_onNext_fault fault script, ObsPartial.unhandled_nil .onNext fault script⟩

-- non-vacuity: the second invocation panics; values 1 and 3 are seen, 2 is not, the stream goes on
example : (ObsPartial.run .onNext (fun k => if k = 1 then some (.user 5) else none)
    [.next {} 1, .next {} 2, .next {} 3, .complete {}, .next {} 4]).seen = [.next {} 1, .next {} 3] := by decide +kernel

/-- C07, the partial observers: whatever the one user callback does (any panic plan), the unhandled-error hook stays
    silent — the panic is handed to the EMPTY error callback the constructor supplies (it is swallowed: the documented
    "this observer will silent errors") — and it never escapes -/
theorem partial_observer_unhandled_silent (k : ObsPartial.Ctor) (fault : Nat → Option Err) (script : List (Notif Int)) :
    (ObsPartial.run k fault script).unhandled = [] :=
  ObsPartial.unhandled_nil k fault script

end Ro.C07

#print axioms Ro.C07.partial_observer_unhandled_silent
#print axioms Ro.C07.onNext_under_panics
#print axioms Ro.C07.newObserver_under_panics
#print axioms Ro.C07.nil_error_callback_panic_unhandled
#print axioms Ro.C07.nil_callbacks_dropped_from_script
#print axioms Ro.C07.nil_error_callback_unhandled_only_panics
#print axioms Ro.C07.next_fault
#print axioms Ro.C07.fault_not_reached
#print axioms Ro.C07.error_return
#print axioms Ro.C07.grammar_partial
#print axioms Ro.C07.subscribe_fn_panic
#print axioms Ro.C07.agree
#print axioms Ro.C07.grammar_next_plans
#print axioms Ro.C07.never_escapes
#print axioms Ro.C07.every_failure_reaches_someone
#print axioms Ro.C07.finalizers_all_run
#print axioms Ro.C07.finalizers_cause_kept
#print axioms Ro.C07.map_fault
#print axioms Ro.C07.goOK_sound
#print axioms Ro.C07.go_user_code_never_crashes
#print axioms Ro.C07.go_statements_recovered
#print axioms Ro.C07.every_goroutine_recovered
#print axioms Ro.C07.library_goroutine_never_crashes
#print axioms Ro.C07.bare_goroutine_crashes
#print axioms Ro.C07.future_factory_panic
#print axioms Ro.C07.future_factory_returns
#print axioms Ro.C07.final_onNext_panic_witness
#print axioms Ro.C07.final_onNext_panic_breaks_grammar
#print axioms Ro.C07.throwIfEmpty_throw_panic_witness
#print axioms Ro.C07.catch_handler_panic_witness
#print axioms Ro.C07.tap_onError_panic_witness
#print axioms Ro.C07.tap_onComplete_panic_witness
#print axioms Ro.C07.tap_first_cause_lost_witness
#print axioms Ro.C07.teardown_panic_escapes_witness
#print axioms Ro.C07.teardown_panic_unsubscribe_witness
#print axioms Ro.C07.teardown_panic_dropped_witness
#print axioms Ro.C07.raw_observer_lock_witness
#print axioms Ro.C07.raw_observer_partial
#print axioms Ro.C07.add_unlock_deferred
#print axioms Ro.C07.deferred_unlock_partial
#print axioms Ro.Fault.runFinalizers_quiet
#print axioms Ro.Fault.goBody_bare
#print axioms Ro.Fault.filterF_forwards
#print axioms Ro.Fault.distinctByF_forwards
#print axioms Ro.Fault.skipWhileF_forwards
#print axioms Ro.Fault.takeWhileF_forwards
#print axioms Ro.Fault.firstF_forwards
#print axioms Ro.Fault.lastF_forwards
#print axioms Ro.Fault.mapF_forwards
#print axioms Ro.Fault.mapErrF_forwards
#print axioms Ro.Fault.scanF_forwards
#print axioms Ro.Fault.toMapF_forwards
#print axioms Ro.Fault.allF_forwards
#print axioms Ro.Fault.containsF_forwards
#print axioms Ro.Fault.findF_forwards
#print axioms Ro.Fault.reduceF_forwards
#print axioms Ro.Fault.throwIfEmptyF_forwards
#print axioms Ro.Fault.catchF_forwards
#print axioms Ro.Fault.plain_forwards
