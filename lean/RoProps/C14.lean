/-
  C14 — downstream termination cancels upstream without waiting for it (and the operator half of
  C03: a closed subscription holds nothing upstream).
  (1) model: for every machine, raw script and cut position, over a hot source: downstream closed
      ⇒ the source has been unsubscribed before the closing call returned (`released`), an external
      Unsubscribe closes both sides (`cut`), and the operator is not invoked afterwards;
  (2) the model applies to the operators whose subscribe function does not wait for its source and
      whose returned teardown reaches every upstream subscription: facts `blocks`, `discarded`,
      `returns` of the regenerated table, decided by the kernel on every run.
  Pinned tree: the waiting class (`knownWaiting`) blocks inside Subscribe until its source ends —
  known findings, one witness per operator replayed by the check.
-/
import RoProofs.Release
import RoModel.FactPreds
import RoModel.Ops.Aggregate
import RoGen.Catalogue
namespace Ro.C14
open Ro Ro.Facts

theorem released {σ α β : Type} (m : Machine σ α β) (sub : Ctx) (raw : List (Notif α)) (hs : m.subscribes = true) :
    (runOp m .hot sub raw).downOpen = false → (runOp m .hot sub raw).upOpen = false :=
  runOp_hot_released m sub raw hs

theorem cut {σ α β : Type} (m : Machine σ α β) (sub : Ctx) (raw : List (Notif α)) (k : Nat) (hs : m.subscribes = true) :
    (runOpCut m sub raw k).out = (runOp m .hot sub (raw.take k)).out ∧ (runOpCut m sub raw k).upOpen = false :=
  runOpCut_out m sub raw k hs

theorem table_ok : RoGen.Catalogue.table.all c14RowOk = true := by decide +kernel

/-- the operators that block inside Subscribe are exactly the listed waiting class -/
theorem waiting_rows :
    ((RoGen.Catalogue.table.filter (·.blocks)).map (·.name)).all (knownWaiting.contains ·) = true ∧
    knownWaiting.all (fun n => RoGen.Catalogue.table.any (fun r => r.name == n && r.blocks)) = true := by
  -- `blocks` first, so that names are compared for the blocking rows only
  have swap : ∀ n, RoGen.Catalogue.table.any (fun r => r.name == n && r.blocks) =
      RoGen.Catalogue.table.any (fun r => r.blocks && r.name == n) :=
    fun n => congrArg _ (funext fun _ => Bool.and_comm ..)
  simp only [swap]
  decide +kernel

-- non-vacuity: Take(1) over a hot source that never ends: released after the first value
example : (runOp (takeM (α := Int) 1) .hot {} [.next {} 1, .next {} 2]).upOpen = false := by decide
example : (runOp (takeM (α := Int) 1) .hot {} [.next {} 1, .next {} 2]).drops.length = 1 := by decide

end Ro.C14

#print axioms Ro.C14.released
#print axioms Ro.C14.cut
#print axioms Ro.C14.table_ok
#print axioms Ro.C14.waiting_rows
