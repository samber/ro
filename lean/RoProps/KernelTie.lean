/-
  The tie (F) for the concurrent kernel: the statement-language programs that `Kernel.Conc.step`
  interprets in every theorem of C01(b), C02(a), C03, C06 (`Kernel.Expected.table`) are exactly the
  programs `go/extract/kernel.go` regenerates from subscriber.go / subscription.go / observer.go of
  the working tree on every run (`RoGen.Kernel.table`); likewise the mode ↦ (mutex, backpressure)
  table of `NewSubscriberWithConcurrencyMode`, what the two mutex types of internal/xsync do, and
  the shape of `observableImpl.SubscribeWithContext`. Anything the extractor does not recognise is
  an `unknown` statement / row, which makes these equalities false.
-/
import RoGen.Kernel
import RoModel.Kernel.Expected
import RoProofs.Kernel.Beq
namespace Ro.KernelTie
open Ro.Kernel

theorem progs_are_the_source : RoGen.Kernel.table = Expected.table :=
  Stmt.beqTable_eq _ _ (by decide)

theorem modes_are_the_source : RoGen.Kernel.modes = Expected.modes := rfl

theorem mutexes_are_the_source : RoGen.Kernel.mutexes = Expected.mutexes := rfl

theorem subscribe_wrapper_is_the_source : RoGen.Kernel.subscribeWrapper = Expected.subscribeWrapper := rfl

theorem collect_wrapper_is_the_source : RoGen.Kernel.collectWrapper = Expected.collectWrapper := rfl

theorem subscriber_ctor_is_the_source : RoGen.Kernel.subscriberCtor = Expected.subscriberCtor := rfl

/-- hence the interpreter runs the regenerated programs -/
theorem progs_eq : lookup RoGen.Kernel.table = Expected.progs := by
  rw [progs_are_the_source]; rfl

end Ro.KernelTie
