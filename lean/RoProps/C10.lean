/-
  C10 — subjects follow their sequential definition and are linearizable.

  Model: RoModel/Subjects.lean (one step function per kind, a line-by-line reading of
  subject_*.go and of the subscriber gate).  Definition: RoModel/Spec/Subjects.lean.
  Proofs: RoProofs/Subjects*.lean, RoProofs/Atomic.lean.

  (1) sequential refinement — every kind, every buffer size, every operation sequence over
      {Next v, Error e, Complete, Subscribe i, Unsubscribe i}, every subscriber:
      received trace = the definition (`*_definition`); who is registered and the status are the
      definition's; observers are dropped at termination and at unsubscription; unicast admits one
      subscriber at a time; every subscriber's trace obeys the observable grammar (C01(c)).
      Pinned-tree deviation: unicast discards its backlog for a subscriber arriving after
      Complete/Error (subject_unicast.go:68-77): `unicast_definition_partial` +
      `unicast_late_deviation` + the concrete `unicast_late_witness`.
  (2) atomicity meta-theorem (`atomic_linearizable`): an object whose every operation performs
      exactly one atomic action between call and return is linearizable, real-time order
      respected, any number of threads, any schedule — and its instance `subjects_linearizable`:
      for such executions of a subject, every subscriber's trace is the definition applied to the
      linearization order.  The premise holds for Next/Error/Complete/Subscribe of publish,
      behavior, replay and async: their whole effect (status, stored values, registration, and
      every subscriber callback of a broadcast) sits inside `s.mu` — fact table
      RoGen.SubjectLocks, `subjects_wellLocked`.  It does NOT hold for `Unsubscribe` (no `s.mu`:
      subscriber.go:259-263) nor for unicast's deferred delivery; the micro-step witnesses
      `unsubscribe_not_atomic_witness` and `unicast_lost_value_witness` show histories of the model
      that no sequential order explains.
-/
import RoProofs.SubjectsUnicastSpec
import RoProofs.Atomic
import RoProofs.SubjectsMicro
import RoProofs.SubjectsX
import RoGen.SubjectLocks
namespace Ro.C10
open Ro Ro.Subj Ro.Subj.Spec

variable {α : Type}

/-! ## (1) the sequential definition -/

theorem publish_definition (ops : List (Op α)) (i : Nat) :
    ((run .publish ops).sub i).got = Spec.publish ops i := publish_refines ops i

theorem behavior_definition (init : α) (ops : List (Op α)) (i : Nat) :
    ((run (.behavior init) ops).sub i).got = Spec.behavior init ops i := behavior_refines init ops i

theorem replay_definition (cap : Option Nat) (ops : List (Op α)) (i : Nat) :
    ((run (.replay cap) ops).sub i).got = Spec.replay cap ops i := replay_refines cap ops i

theorem async_definition (ops : List (Op α)) (i : Nat) :
    ((run .async ops).sub i).got = Spec.async ops i := async_refines ops i

/-- unicast: the pinned tree follows the definition in which a late subscriber gets only the
    stored terminal — every buffer size, every sequence, every subscriber -/
theorem unicast_definition_pinned (cap : Option Nat) (ops : List (Op α)) (i : Nat) :
    ((run (.unicast cap) ops).sub i).got = Spec.unicastPinned cap ops i := unicast_refines_pinned cap i ops

/- Full statement (does NOT hold on the pinned tree, see `unicast_late_witness`):
     ∀ cap ops i, ((run (.unicast cap) ops).sub i).got = Spec.unicast cap ops i            -/

/-- unicast against the definition, outside the one excluded class (a subscriber arriving after
    termination while a backlog is queued; `lateWithBacklog` is a decidable function of the input) -/
theorem unicast_definition_partial (cap : Option Nat) (ops : List (Op α)) (i : Nat)
    (h : lateWithBacklog cap ops i = false) :
    ((run (.unicast cap) ops).sub i).got = Spec.unicast cap ops i := unicast_refines_partial cap i ops h

/-- inside the excluded class the model (= the pinned code) misses exactly the backlog -/
theorem unicast_late_deviation (cap : Option Nat) (ops : List (Op α)) (i : Nat)
    (h : lateWithBacklog cap ops i = true) :
    ∃ pre c post, splitSub i ops = some (pre, c, post) ∧ (ufold cap pre).queue ≠ [] ∧
      Spec.unicast cap ops i = nexts (ufold cap pre).queue ++ ((run (.unicast cap) ops).sub i).got :=
  Ro.Subj.unicast_late_deviation cap i ops h

/-- witness (replayed on the real code: known finding `unicast late subscriber`):
    Next 1, Next 2, Complete, Subscribe 0 on an unbounded unicast subject -/
theorem unicast_late_witness :
    let ops : List (Op Int) := [.next ⟨[7, 1], false⟩ 1, .next ⟨[7, 2], false⟩ 2, .complete ⟨[7, 3], false⟩,
                                .subscribe 0 ⟨[7, 4], false⟩]
    ((run (.unicast none) ops).sub 0).got = [.complete ⟨[7, 4], false⟩] ∧
    Spec.unicast none ops 0 = [.next ⟨[7, 1], false⟩ 1, .next ⟨[7, 2], false⟩ 2, .complete ⟨[7, 4], false⟩] ∧
    lateWithBacklog none ops 0 = true := by
  decide

/-- all kinds at once: the received trace is the definition's, the only exclusion being unicast's
    late subscriber with a backlog -/
theorem received_definition (k : Kind α) (ops : List (Op α)) (i : Nat)
    (h : ∀ cap, k = .unicast cap → lateWithBacklog cap ops i = false) :
    ((run k ops).sub i).got = Spec.received k ops i := by
  cases k with
  | publish => exact publish_refines ops i
  | behavior init => exact behavior_refines init ops i
  | replay cap => exact replay_refines cap ops i
  | async => exact async_refines ops i
  | unicast cap => exact unicast_refines_partial cap i ops (h cap rfl)

/-- C01(c): every subscriber of every subject receives values, then at most one terminal, then
    nothing — every kind, buffer size, operation sequence (from the subscriber gate alone, so it
    also holds where unicast deviates from its definition) -/
theorem subscriber_grammar (k : Kind α) (ops : List (Op α)) (i : Nat) : Grammar ((run k ops).sub i).got :=
  Ro.Subj.subscriber_grammar k ops i

theorem inv_run (k : Kind α) (ops : List (Op α)) : Inv (run k ops) := (kinv_run k ops).1

/-- the status (IsClosed / HasThrown / IsCompleted) is the definition's -/
theorem status_definition (k : Kind α) (ops : List (Op α)) : (run k ops).status = Spec.status ops := by
  rcases k.multi_or_unicast with ⟨P, hP, hk, _⟩ | ⟨cap, rfl⟩
  · exact multi_status P hP k hk ops
  · exact unicast_status cap ops

/-- the registered observers (CountObservers / HasObserver) are exactly the subscribers the
    definition calls subscribed: subscribed to a live subject (unicast: and admitted), not
    unsubscribed since, subject not terminated since -/
theorem registered_definition (k : Kind α) (ops : List (Op α)) (i : Nat) :
    i ∈ (run k ops).observers ↔ Spec.subscribed k ops i = true := by
  rcases k.multi_or_unicast with ⟨P, hP, hk, hn⟩ | ⟨cap, rfl⟩
  · exact multi_registered P hP k hk hn ops i
  · exact unicast_registered cap i ops

/-- no subscriber is registered twice (so `CountObservers` counts subscribers) -/
theorem observers_nodup (k : Kind α) (ops : List (Op α)) : (run k ops).observers.Nodup := (inv_run k ops).nodup

/-- **observers are dropped at termination** -/
theorem observers_dropped_at_termination (k : Kind α) (ops : List (Op α))
    (h : (run k ops).status ≠ .active) : (run k ops).observers = [] := (inv_run k ops).closed h

theorem run_snoc (k : Kind α) (ops : List (Op α)) (o : Op α) : run k (ops ++ [o]) = k.step (run k ops) o := by
  simp [run, runFrom, List.foldl_append]

/-- **observers are dropped at unsubscription** -/
theorem observers_dropped_at_unsubscription (k : Kind α) (ops : List (Op α)) (i : Nat) :
    i ∉ (run k (ops ++ [.unsubscribe i])).observers := by
  rw [run_snoc]
  exact Ro.Subj.unsubscribe_drops k (kinv_run k ops) i

/-! ### subjects subscribed with a ready-made Subscriber (RoModel/SubjectsX.lean; kind=subjx) -/

/-- every state reached through plain operations and subscriptions made with a closed / self-closing Subscriber keeps
    the registration invariant of its kind (registered ⇒ used, open, teardown pending; no duplicates; nobody registered
    once terminated; unicast: at most one observer) -/
theorem subjx_invariant (k : Kind Int) (xs : List XOp) : Inv (runX k xs).1 := (kinv_runX k xs).1

theorem subjx_unicast_one_at_a_time (cap : Option Nat) (xs : List XOp) : (runX (.unicast cap) xs).1.observers.length ≤ 1 :=
  (kinv_runX (.unicast cap) xs).2 cap rfl

/-- a Subscriber that is already closed when it is handed to Subscribe is not registered when Subscribe returns — whatever
    came before, for every subject kind: the subject goes on as if it had never come -/
theorem dead_subscriber_never_registered (k : Kind Int) (xs : List XOp) (i : Nat) (c : Ctx) :
    i ∉ (runX k (xs ++ [.dead i c])).1.observers := by
  rw [runX_snoc]
  have hk := kinv_runX k xs
  generalize runX k xs = st at hk
  obtain ⟨s, armed⟩ := st
  exact Ro.Subj.unsubscribe_drops k (kinv_rewrite k (kinv_step k hk _) _ _ _) i

-- non-vacuity: a replay subject with two values; the dead subscriber is handed both (refused: dropped), is not registered,
-- and the next subscriber is served as usual
example : let s := (runX (.replay (some 2)) [.plain (.next {} 1), .plain (.next {} 2), .dead 0 {}, .plain (.subscribe 1 {})]).1
    s.observers = [1] ∧ (s.sub 0).got = [] ∧ s.drops.length = 2 ∧ (s.sub 1).got.length = 2 := by decide

/-- **unicast admits one subscriber at a time** -/
theorem unicast_one_at_a_time (cap : Option Nat) (ops : List (Op α)) :
    (run (.unicast cap) ops).observers.length ≤ 1 := unicast_one_observer cap ops

/-- the `unsubscribeAll()` that Error/Complete run after `s.mu.Unlock()` never finds anything to
    delete: every subscriber removed itself during the broadcast (so the terminal operations of
    the four multicast subjects have no effect outside the critical section) -/
theorem unsubscribeAll_is_noop {s : State α} (h : Inv s) (st : Status) (n : Notif α) :
    (broadcastTerminal { s with status := st } n).observers = [] := by
  rw [broadcastTerminal_eq (s := { s with status := st })
    (fun j hj => ⟨(h.live j hj).2.1, (h.live j hj).2.2⟩) h.nodup]

-- non-vacuity: replay(1), behavior, async and unicast on a concrete sequence with late subscribers
example : ((run (.replay (some 1)) ([.next {} 1, .next {} 2, .subscribe 0 {}, .next {} 3, .error {} (.user 1),
            .subscribe 1 ⟨[4], false⟩, .unsubscribe 0] : List (Op Int))).sub 0).got
    = [.next {} 2, .next {} 3, .error {} (.user 1)] := by decide
example : Spec.replay (some 1) ([.next {} 1, .next {} 2, .subscribe 0 {}, .next {} 3, .error {} (.user 1),
            .subscribe 1 ⟨[4], false⟩] : List (Op Int)) 1 = [.next {} 3, .error {} (.user 1)] := by decide
example : Spec.async ([.subscribe 0 {}, .next {} 1, .next {} 2, .complete {}, .subscribe 1 ⟨[9], false⟩] : List (Op Int)) 1
    = [.next {} 2, .complete ⟨[9], false⟩] := by decide
example : Spec.unicast (some 2) ([.next {} 1, .next {} 2, .next {} 3, .subscribe 0 {}, .subscribe 1 {}, .next {} 4,
            .unsubscribe 0, .next {} 5, .subscribe 2 {}] : List (Op Int)) 2 = [.next {} 5] := by decide
example : (run (.publish) ([.subscribe 0 {}, .subscribe 1 {}, .unsubscribe 0, .complete {}] : List (Op Int))).observers = [] := by decide

/-! ## (2) atomicity ⇒ linearizability -/

/-- the meta-theorem (RoProofs/Atomic.lean): any object, any number of threads, any schedule -/
theorem atomic_linearizable {σ ο ρ : Type} [DecidableEq ρ] (O : Lin.Obj σ ο ρ) (evs : List (Lin.Ev ο))
    (cfg : Lin.Cfg σ ο ρ) (h : Lin.Exec O evs cfg) :
    ∃ lin, Lin.isLinearization O cfg.hist lin = true ∧ Lin.finalState O cfg.hist lin = cfg.state :=
  Lin.atomic_linearizable O evs cfg h

theorem runSeq_subjectObj (k : Kind α) : ∀ (ops : List (Op α)) (s : State α),
    ((subjectObj k).runSeq s ops).1 = runFrom k s ops
  | [], _ => rfl
  | o :: ops, s => by
    simp only [Lin.Obj.runSeq, runFrom, List.foldl_cons]
    exact runSeq_subjectObj k ops _

/-- **subjects are linearizable wherever their operations are atomic**: in every execution in which
    each call performs its step as one atomic action, there is an order of the calls, compatible
    with real time, such that the subject is in the state the sequential run of that order gives —
    hence every subscriber has received exactly what the sequential definition says for that order,
    the registered observers and the status are the definition's for that order. -/
theorem subjects_linearizable (k : Kind α) (evs : List (Lin.Ev (Op α))) (cfg : Lin.Cfg (State α) (Op α) Unit)
    (h : Lin.Exec (subjectObj k) evs cfg) :
    ∃ lin, Lin.isLinearization (subjectObj k) cfg.hist lin = true ∧
      cfg.state = run k ((Lin.pick cfg.hist lin).map (·.op)) ∧
      (∀ i, (∀ cap, k = .unicast cap → lateWithBacklog cap ((Lin.pick cfg.hist lin).map (·.op)) i = false) →
        (cfg.state.sub i).got = Spec.received k ((Lin.pick cfg.hist lin).map (·.op)) i) ∧
      (∀ i, i ∈ cfg.state.observers ↔ Spec.subscribed k ((Lin.pick cfg.hist lin).map (·.op)) i = true) ∧
      cfg.state.status = Spec.status ((Lin.pick cfg.hist lin).map (·.op)) := by
  obtain ⟨lin, h1, h2⟩ := Lin.atomic_linearizable (subjectObj k) evs cfg h
  have hs : cfg.state = run k ((Lin.pick cfg.hist lin).map (·.op)) := by
    rw [← h2]; exact runSeq_subjectObj k _ _
  refine ⟨lin, h1, hs, ?_, ?_, ?_⟩
  · intro i hi; rw [hs]; exact received_definition k _ i hi
  · intro i; rw [hs]; exact registered_definition k _ i
  · rw [hs]; exact status_definition k _

/-! ### where the premise holds: the lock skeleton of the Go methods (regenerated from the source) -/

open Ro.Facts in
/-- a method does everything under `s.mu`: it starts by taking the lock; every access to a field
    of the subject and every broadcast happens while it is held; once it is released nothing but
    `unsubscribeAll()` (a no-op, `unsubscribeAll_is_noop`) follows -/
def wellLocked (m : LockRow) : Bool :=
  let rec go (held : Bool) (released : Bool) : List String → Bool
    | [] => held == false || m.deferUnlock
    | "lock" :: r => !held && !released && go true released r
    | "unlock" :: r => held && go false true r
    | "access" :: r => held && go held released r
    | "broadcast" :: r => held && go held released r
    | "deliver" :: r => held && go held released r
    | "teardown" :: r => held && go held released r
    | "drop" :: r => go held released r
    | "unsubscribeAll" :: r => !held && released && go held released r
    | _ :: _ => false
  go false false m.skeleton

/-- the four multicast subjects: Subscribe / Next / Error / Complete are each one critical section -/
theorem subjects_wellLocked :
    (RoGen.SubjectLocks.table.filter (fun m => m.subject != "unicast")).all wellLocked = true ∧
    (["publish", "behavior", "replay", "async"].all fun sj =>
      ["SubscribeWithContext", "NextWithContext", "ErrorWithContext", "CompleteWithContext"].all fun me =>
        RoGen.SubjectLocks.table.any fun m => m.subject == sj && m.method == me) = true := by
  decide

/-- unicast is *not* of that shape: its Next / Error / Complete deliver after releasing the lock
    (`defer tmp.NextWithContext(ctx, value)`), which is what `unicastLocked` / `unicastDeliver` model -/
theorem unicast_delivers_outside_lock :
    (RoGen.SubjectLocks.table.filter (fun m => m.subject == "unicast" && m.method != "SubscribeWithContext")).all
      (fun m => m.deferredDeliver) = true := by
  decide

open Ro.Facts in
/-- unicast `SubscribeWithContext` (since /repo 5f819fc the unlocks are explicit): the method starts by taking `s.mu`; every access to
    the subject's fields and every delivery to the new subscriber - the stored terminal, the rejection, the REPLAY of the queued values -
    comes before the last release of the lock; the teardown (which takes `s.mu` itself) is registered after it -/
def unicastSubscribeOk (m : LockRow) : Bool :=
  let sk := m.skeleton
  let lastUnlock := (sk.zipIdx.filter (fun p => p.1 == "unlock")).map (·.2) |>.getLast?
  match lastUnlock with
  | none => false
  | some u =>
    sk.head? == some "lock" &&
    (sk.zipIdx.all fun p =>
      if p.1 == "deliver" || p.1 == "access" || p.1 == "broadcast" then decide (p.2 < u)
      else if p.1 == "teardown" then decide (u < p.2)
      else if p.1 == "lock" then p.2 == 0
      else p.1 == "unlock" || p.1 == "drop") &&
    sk.contains "teardown" && !m.deferUnlock

/-- the replay of a unicast subject's backlog to a new subscriber happens inside the critical section of `Subscribe` (so a value a
    producer sends meanwhile is delivered after the backlog and the producer's Next returns only then: the premise of kind=nextret),
    and the teardown is registered outside it (so a subscriber that is closed by then does not make `Subscribe` wait for itself) -/
theorem unicast_subscribe_locked_replay :
    (RoGen.SubjectLocks.table.filter (fun m => m.subject == "unicast" && m.method == "SubscribeWithContext")).all unicastSubscribeOk = true ∧
    (RoGen.SubjectLocks.table.any fun m => m.subject == "unicast" && m.method == "SubscribeWithContext") = true := by
  decide

-- non-vacuity: a replay moved behind the release of the lock is rejected; so is a teardown registered while the lock is held
example : unicastSubscribeOk (⟨"unicast", "SubscribeWithContext", "", 0, false, false,
    ["lock", "access", "access", "unlock", "teardown", "deliver"]⟩ : Ro.Facts.LockRow) = false := by decide
example : unicastSubscribeOk (⟨"unicast", "SubscribeWithContext", "", 0, true, false,
    ["lock", "access", "deliver", "access", "teardown"]⟩ : Ro.Facts.LockRow) = false := by decide

/-- **Unsubscribe is not atomic with respect to a broadcast.**  publish, subscribers 0 and 1.
    `Next 5` is broadcasting: it has delivered to 0; then `Unsubscribe 0` runs to completion, then
    `Unsubscribe 1` runs to completion (neither needs `s.mu`); then the broadcast reaches 1, which
    refuses the value.  Observed: 0 got the value, 1 did not, and `Unsubscribe 0` returned before
    `Unsubscribe 1` was called.  No sequential order of {Next 5, Unsubscribe 0, Unsubscribe 1} with
    `Unsubscribe 0` before `Unsubscribe 1` explains that. -/
theorem unsubscribe_not_atomic_witness :
    let c : Ctx := {}
    let s0 := run (.publish) ([.subscribe 0 c, .subscribe 1 c] : List (Op Int))
    let s1 := visitNext s0 0 c 5                       -- broadcast, first iteration
    let s2 := publishStep s1 (.unsubscribe 0)          -- another goroutine, call … return
    let s3 := publishStep s2 (.unsubscribe 1)          -- after that, call … return
    let s4 := visitNext s3 1 c 5                       -- broadcast, second iteration
    ((s4.sub 0).got = [.next c 5] ∧ (s4.sub 1).got = []) ∧
    (∀ ord ∈ ([[.next c 5, .unsubscribe 0, .unsubscribe 1], [.unsubscribe 0, .next c 5, .unsubscribe 1],
               [.unsubscribe 0, .unsubscribe 1, .next c 5]] : List (List (Op Int))),
      ¬ (((runFrom .publish s0 ord).sub 0).got = [.next c 5] ∧ ((runFrom .publish s0 ord).sub 1).got = [])) := by
  decide

/-- the micro-step reading used for these witnesses and by the history checker (`Kind.micro`: the
    part before the broadcast loops, one visit per registered subscriber and loop, the part after)
    is the atomic step when nothing runs in between — every multicast kind, state and operation -/
theorem micro_agrees (k : Kind α) (s : State α) (o : Op α) (m : Micro α) (h : k.micro s o = some m) :
    m.run = k.step s o := Ro.Subj.micro_agrees k s o m h

/-- **async: half of a completion.**  Subscriber 0 is registered, 1 is the stored value.  `Complete`
    first broadcasts the value, then the completion; `Unsubscribe 0` runs between the two: the
    subscriber has received the value and never gets the completion.  Neither order of
    {Complete, Unsubscribe 0} explains that. -/
theorem async_partial_flush_witness :
    let c : Ctx := {}
    let s0 := run (.async) ([.subscribe 0 c, .next c 1] : List (Op Int))
    ((Kind.async).micro s0 (.complete c)).map (fun m => m.visits.length) = some 2 ∧
    -- value, Unsubscribe 0, completion:
    ((Kind.async).micro s0 (.complete c)).map
        (fun m => ((m.runWith 1 (fun s => asyncStep s (.unsubscribe 0))).sub 0).got) = some [.next c 1] ∧
    ((runFrom .async s0 [.complete c, .unsubscribe 0]).sub 0).got = [.next c 1, .complete c] ∧
    ((runFrom .async s0 [.unsubscribe 0, .complete c]).sub 0).got = [] := by
  decide

/-- **unicast can lose a value.**  Subscriber 0 holds the subject.  `Next 5` captures it under the
    lock; `Unsubscribe 0` runs; the deferred delivery finds the subscriber closed: the value goes
    to the drop hook — neither delivered (as if Next came first) nor queued for the next
    subscriber (as if Unsubscribe came first). -/
theorem unicast_lost_value_witness :
    let c : Ctx := {}
    let s0 := run (.unicast none) ([.subscribe 0 c] : List (Op Int))
    let lp := unicastLocked none s0 (.next c 5)                   -- Next 5: the part under s.mu
    let s2 := unicastStep none lp.1 (.unsubscribe 0)              -- Unsubscribe 0, call … return
    let s3 := match lp.2 with | some p => unicastDeliver s2 p | none => s2   -- Next 5: deferred delivery
    let s4 := unicastStep none s3 (.subscribe 1 c)                -- later: the next subscriber
    ((s4.sub 0).got = [] ∧ (s4.sub 1).got = [] ∧ s4.drops = [.next c 5]) ∧
    ((run (.unicast none) ([.subscribe 0 c, .next c 5, .unsubscribe 0, .subscribe 1 c] : List (Op Int))).sub 0).got = [.next c 5] ∧
    ((run (.unicast none) ([.subscribe 0 c, .unsubscribe 0, .next c 5, .subscribe 1 c] : List (Op Int))).sub 1).got = [.next c 5] := by
  decide

/-- with atomic steps the same calls are fine (the micro-step order is what breaks it) -/
example : broadcastNext (run (.publish) ([.subscribe 0 {}, .subscribe 1 {}] : List (Op Int))) {} 5
    = (run (.publish) ([.subscribe 0 {}, .subscribe 1 {}] : List (Op Int))).observers.foldl (fun s i => visitNext s i {} 5)
        (run (.publish) ([.subscribe 0 {}, .subscribe 1 {}] : List (Op Int))) := rfl

end Ro.C10

#print axioms Ro.C10.publish_definition
#print axioms Ro.C10.behavior_definition
#print axioms Ro.C10.replay_definition
#print axioms Ro.C10.async_definition
#print axioms Ro.C10.unicast_definition_pinned
#print axioms Ro.C10.unicast_definition_partial
#print axioms Ro.C10.unicast_late_deviation
#print axioms Ro.C10.unicast_late_witness
#print axioms Ro.C10.received_definition
#print axioms Ro.C10.subscriber_grammar
#print axioms Ro.C10.status_definition
#print axioms Ro.C10.registered_definition
#print axioms Ro.C10.observers_nodup
#print axioms Ro.C10.observers_dropped_at_termination
#print axioms Ro.C10.observers_dropped_at_unsubscription
#print axioms Ro.C10.subjx_invariant
#print axioms Ro.C10.subjx_unicast_one_at_a_time
#print axioms Ro.C10.dead_subscriber_never_registered
#print axioms Ro.C10.unicast_one_at_a_time
#print axioms Ro.C10.unsubscribeAll_is_noop
#print axioms Ro.C10.atomic_linearizable
#print axioms Ro.C10.subjects_linearizable
#print axioms Ro.C10.subjects_wellLocked
#print axioms Ro.C10.unicast_subscribe_locked_replay
#print axioms Ro.C10.unicast_delivers_outside_lock
#print axioms Ro.C10.unsubscribe_not_atomic_witness
#print axioms Ro.C10.micro_agrees
#print axioms Ro.C10.async_partial_flush_witness
#print axioms Ro.C10.unicast_lost_value_witness
