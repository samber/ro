/-
  C07 (kernel part) — a terminal notification is refused only by a subscriber that is already closed.

  "A failure … reaches the subscriber exactly once as an Error notification": at most once is the
  grammar (C01); that it is not swallowed on the way is, at the subscriber, the statement below: in the
  concurrent kernel (`Kernel.Conc` running the programs of subscriberImpl / subscriptionImpl, tied to
  the Go sources by RoProps/KernelTie.lean — `progs_are_the_source`), for every mode (safe, unsafe,
  eventually-safe), any number of threads, any scripts and any schedule: whenever a thread is about to
  hand a terminal notification (Error or Complete) to the drop hook, the subscriber's status is
  already non-zero — another terminal or an Unsubscribe won.  In particular a terminal is never
  refused because the producer lock is busy (what `NextWithContext` does to values under
  `BackpressureDrop`), so the first terminal issued on an open subscriber is the one delivered.

  Control-flow facts are decided by the kernel over the finite set of reachable control states
  (`reach`, RoProofs/Kernel/Reach.lean), the run-level statement follows from `ClosedInv.past`.
-/
import RoProofs.Kernel.Main
import RoProps.KernelTie
namespace Ro.C07k
open Ro.Kernel

def isTermDrop : Head → Bool
  | .stmt (.drop k) => k.isTerminal
  | _ => false

theorem isTermDrop_iff {h : Head} (hd : isTermDrop h = true) : ∃ k, h = .stmt (.drop k) ∧ k.isTerminal = true := by
  unfold isTermDrop at hd
  split at hd
  · exact ⟨_, rfl, hd⟩
  · cases hd

/-- a terminal drop sits after the status CAS of its call -/
theorem termDrop_after_cas {c : Ctl} (hc : c ∈ reach) (hd : isTermDrop c.head = true) : c.beforeCas = false := by
  obtain ⟨k, hk, hkt⟩ := isTermDrop_iff hd
  simpa [lfTermDrop, hk, hkt] using lfTermDrop_ok hc

/-- only `ErrorWithContext` / `CompleteWithContext` hand a terminal to the drop hook -/
theorem termDrop_only_in_terminals (a : ApiCall) {c : Ctl} (hc : c ∈ reachM a.entry) (hd : isTermDrop c.head = true) :
    a.closes = true := by
  obtain ⟨k, hk, hkt⟩ := isTermDrop_iff hd
  have := lfCall_ok true a hc
  cases a <;> first | rfl | simp [lfCall, ApiCall.entry, lfNoTermDrop, hk, hkt] at this

/-- **a terminal is handed to the drop hook only when the subscriber is already closed** — every mode,
    any threads, scripts and schedule -/
theorem kernel_terminal_refused_only_when_closed (mode : Mode) (destNil : Bool) (panicky : List FinId)
    (scripts : List (List ApiCall)) (sched : List Tid) (t : Tid) (th : Thread)
    (hth : (run Expected.progs (init mode destNil panicky scripts) sched).threads[t]? = some th)
    (hd : isTermDrop th.ctl.head = true) :
    (run Expected.progs (init mode destNil panicky scripts) sched).sh.status ≠ 0 := by
  have hk := kinv_reachable mode destNil panicky scripts sched
  cases hcur : th.cur with
  | none =>
    rw [hk.closed.idle t th hth hcur] at hd
    cases hd
  | some c =>
    exact hk.closed.past t th c hth hcur (termDrop_only_in_terminals c (hk.closed.busy t th c hth hcur) hd)
      (termDrop_after_cas (hk.lock.inReach t th hth) hd)

/-- non-vacuity: a second terminal on a closed subscriber does reach the drop hook (the state the
    theorem talks about exists) -/
example : (run Expected.progs (init .safe false [] [[.complete, .error 7]]) (List.replicate 40 0)).sh.log.any
    (fun e => match e with | .drop _ .error _ => true | _ => false) = true := by decide +kernel

end Ro.C07k

#print axioms Ro.C07k.termDrop_after_cas
#print axioms Ro.C07k.termDrop_only_in_terminals
#print axioms Ro.C07k.kernel_terminal_refused_only_when_closed
