/-
  C17 — bridges to slices, maps and channels are exact and close exactly once.

  * ToSlice / ToMap / Materialize∘Dematerialize: machines, proved in RoProofs/Ops/TransformSpecs.lean
    (`toSlice_spec`, `toMap_spec`, `materialize_dematerialize_id`), restated here.
  * ToChannel (operator_sink.go:118-181) as the `Pipe` transition system of RoModel/Chan.lean with
    `toChan := true`: for every capacity, source mode, raw script and schedule of the goroutine that
    feeds the channel, the reader of the channel and the thread that hands the channel out / later
    unsubscribes — what the reader gets is a prefix of the materialised gated script (in order,
    nothing missing, terminal last), all of it once both ends are idle; `close(ch)` runs at most
    once and exactly once as soon as one `closeChan()` has returned (after the terminal or in the
    teardown); a send that meets the closed channel ends as one `OnUnhandledError`, never as a
    panic in the caller.
    The hand-out of the channel: never refused for capacity 0, never refused when it precedes the
    goroutine (what the 1 ms sleep is for); for every capacity ≥ 1 the schedule "goroutine first"
    makes an empty source complete the destination before the hand-out, which is then refused
    (`toChannel_handout_race_witness` — the full statement "the destination always receives the
    channel" is false in the model; it is a finding on the real code only when the park point
    reproduces it, see docs/C17.md).
  * FromChannel (operator_creation.go:340-364) as the `From` system: exactness, no delivery after
    unsubscription, `close(done)` at most once, the goroutine is never stuck in a receive once
    `done` is closed.
  * Collect (observable.go:337-362): values in order and the error; the same through ObserveOn.
-/
import RoProofs.Ops.TransformSpecs
import RoProofs.Chan
import RoProofs.ChanFrom
import RoProofs.ChanShape
namespace Ro.C17
open Ro Ro.Chan

/-! ### slices, maps, Materialize ; Dematerialize (proved with the operator machines) -/

theorem toSlice {α : Type} (mode : SrcMode) (sub : Ctx) (raw : List (Notif α)) :
    (runOp (toSliceM (α := α)) mode sub raw).out = Spec.toSlice (values raw) (ending raw) :=
  toSlice_spec mode sub raw

theorem toMap {α β κ : Type} [DecidableEq κ] (kv : Ctx → α → Nat → κ × β) (mode : SrcMode) (sub : Ctx)
    (raw : List (Notif α)) :
    (runOp (toMapM kv) mode sub raw).out = Spec.toMap kv (values raw) (ending raw) :=
  toMap_spec kv mode sub raw

/-- identity on every legal stream; on an illegal one, what a subscriber lets through -/
theorem materialize_dematerialize {α : Type} (mode : SrcMode) (sub : Ctx) (raw : List (Notif α)) :
    (runOp ((materializeM (α := α)).seq dematerializeM) mode sub raw).out = gate raw :=
  materialize_dematerialize_id mode sub raw

/-! ### ToChannel -/

/-- the configuration of ToChannel with capacity `cap` over a hot / synchronous source -/
abbrev toChan (cap : Nat) (hot : Bool) : Cfg := { cap := cap, toChan := true, hot := hot }

/-- every capacity, source mode, raw script and schedule: the reader has seen a prefix of the
    materialised sequence — in order, none missing, none invented — and nothing after a terminal -/
theorem toChannel_exact {α : Type} (cap : Nat) (hot : Bool) (raw : List (Notif α)) (sched : List Tid) :
    let s := run (toChan cap hot) (init (toChan cap hot) raw) sched
    (∃ t, s.got ++ t = gate raw) ∧
    (∀ l r x, s.got = l ++ x :: r → x.isTerminal = true → r = []) :=
  ⟨got_prefix (inv_run _ raw sched), got_terminal_last (inv_run _ raw sched)⟩

/-- … and the whole of it once the channel has been handed out, nobody has unsubscribed and both
    goroutines have nothing left to do (no deadlock, no loss) -/
theorem toChannel_complete {α : Type} (cap : Nat) (hot : Bool) (raw : List (Notif α)) (sched : List Tid) :
    let s := run (toChan cap hot) (init (toChan cap hot) raw) sched
    early s = true → s.handed = true → step (toChan cap hot) s .prod = none → step (toChan cap hot) s .cons = none →
    s.got = gate raw := fun he hh hp hc =>
  (pipe_complete (inv_run _ raw sched) he (fun _ => hh) hp hc).1

/-- `close(ch)` runs at most once; exactly once as soon as one `closeChan()` has returned — the one
    after the terminal notification or the teardown's — and the channel is closed from then on -/
theorem toChannel_close_once {α : Type} (cap : Nat) (hot : Bool) (raw : List (Notif α)) (sched : List Tid) :
    let s := run (toChan cap hot) (init (toChan cap hot) raw) sched
    s.closes ≤ 1 ∧ (0 < s.stops → s.closes = 1 ∧ s.closed = true) ∧ (s.closed = true ↔ s.closes = 1) :=
  ⟨closes_le_one (inv_run _ raw sched), closes_eq_one_of_stops (inv_run _ raw sched),
   closed_iff_closes (inv_run _ raw sched)⟩

/-- the two `closeChan()` calls are always reached: the goroutine is not blocked between the
    terminal and `closeChan()`, the teardown never blocks, and each leaves `stops > 0` -/
theorem toChannel_close_reached {α : Type} (cfg : Cfg) (s : St α) :
    (s.ppc = .stop → ∃ s', step cfg s .prod = some s' ∧ 0 < s'.stops) ∧
    (s.tpc = .td2 → ∃ s', step cfg s .ctl = some s' ∧ 0 < s'.stops) :=
  ⟨fun h => ⟨_, step_prod_stop cfg h, stop_stops_pos s⟩, fun h => ⟨_, step_ctl_td2 cfg h, stop_stops_pos s⟩⟩

/-- the release survives a panicking upstream teardown (repo fix 694a874: `defer closeChan()` before
    `subscriptions.Unsubscribe()`): once `Unsubscribe()` has passed its CAS the channel is closed
    exactly once two steps later, for every configuration — with `Cfg.upPanic` the panic reaches the
    caller of `Unsubscribe()` only after the close -/
theorem toChannel_teardown_releases {α : Type} (cap : Nat) (hot panics : Bool) (raw : List (Notif α)) (sched : List Tid) :
    let cfg : Cfg := { cap := cap, toChan := true, hot := hot, upPanic := panics }
    let s := run cfg (init cfg raw) sched
    s.tpc = .td1 → ∃ s1 s2, step cfg s .ctl = some s1 ∧ step cfg s1 .ctl = some s2 ∧ s2.tpc = .done ∧
      s2.closed = true ∧ s2.closes = 1 ∧ (panics = true → hot = true → s.upOpen = true → s2.raised = true) :=
  fun ht => teardown_releases (inv_run _ raw sched) ht

/-- a send racing the close: the panic "send on closed channel" is raised inside the observer
    callback; `observerImpl.try*` turn it into exactly one `OnUnhandledError(ro.Observer: …)`, it
    never reaches the caller of Next/Error/Complete (the source, or the harness) -/
theorem toChannel_send_on_closed {α : Type} (x : Notif α) :
    (failedSend x).escaped = none ∧ (failedSend x).unhandled = [.observer sendOnClosed] := by
  cases x <;> exact ⟨rfl, rfl⟩

theorem observer_never_lets_a_panic_out (onNext onComplete : CbRes) (onError : Err → CbRes) (e : Err) :
    (tryNext onNext onError).escaped = none ∧ (tryError onError e).escaped = none ∧
    (tryComplete onComplete).escaped = none := by
  refine ⟨?_, ?_, ?_⟩
  · unfold tryNext tryError; cases onNext with
    | ok => rfl
    | panic p => simp only; cases onError (.observer p) <;> rfl
  · unfold tryError; cases onError e <;> rfl
  · unfold tryComplete; cases onComplete <;> rfl

/-- sends fail only after somebody called `Unsubscribe()`; with a registered (hot) source at most
    the one notification that was already inside its callback -/
theorem toChannel_failed_sends {α : Type} (cap : Nat) (hot : Bool) (raw : List (Notif α)) (sched : List Tid) :
    let s := run (toChan cap hot) (init (toChan cap hot) raw) sched
    (early s = true → s.fails = []) ∧ (hot = true → s.fails.length ≤ 1) :=
  ⟨(inv_run _ raw sched).earlyFails, fun h => fails_le_one_hot (inv_run (toChan cap hot) raw sched) h⟩

/-- the hand-out, partial statement: the destination receives the channel under every schedule
    when the channel is unbuffered, and under every schedule that starts with the hand-out -/
theorem toChannel_handout_partial {α : Type} (hot : Bool) (raw : List (Notif α)) (sched : List Tid) :
    (run (toChan 0 hot) (init (toChan 0 hot) raw) sched).handDropped = false ∧
    ∀ cap, (run (toChan cap hot) (init (toChan cap hot) raw) (.ctl :: sched)).handed = true :=
  ⟨handout_unbuffered hot raw sched, fun cap => handout_first cap hot raw sched⟩

/- full statement (false in the model for capacity ≥ 1, see the witness):
   ∀ cap hot raw sched, (run (toChan cap hot) (init (toChan cap hot) raw) sched).handDropped = false -/

/-- the empty-source race: for every capacity ≥ 1 the schedule "goroutine first, then hand-out"
    ends with the destination completed, the channel closed once and the hand-out refused -/
theorem toChannel_handout_race_witness (c : Nat) (hc : 0 < c) (ctx : Ctx) :
    let s := run (toChan c false) (init (toChan c false) [Notif.complete (α := Int) ctx]) [.prod, .prod, .prod, .prod, .ctl]
    s.handDropped = true ∧ s.handed = false ∧ s.destCompleted = true ∧ s.closes = 1 :=
  handout_race_witness (α := Int) c hc ctx

/-! ### FromChannel -/

/-- every capacity, input, closing behaviour and schedule: the trace is a prefix of
    "every value sent, in order, then Complete" -/
theorem fromChannel_prefix {α : Type} (cap : Nat) (sub : Ctx) (inp : List α) (wc : Bool) (sched : List Tid) :
    ∃ t, (frun (finit cap sub inp wc) sched).out ++ t = inp.map (Notif.next sub) ++ [.complete sub] := by
  have h := (finv_run cap sub inp wc sched).outPre
  rwa [frun_sub] at h

/-- exactness: the user closes the channel, nobody unsubscribes, nothing is left to do ⇒ every
    value, in order, then Complete -/
theorem fromChannel_exact {α : Type} {inp : List α} {s : FSt α} (h : FInv inp s) (ht : s.tpc = .cas)
    (hw : s.willClose = true) (hp : fstep s .prod = none) (hc : fstep s .cons = none) :
    s.out = inp.map (Notif.next s.sub) ++ [.complete s.sub] := from_exact h ht hw hp hc

/-- at every moment before any unsubscription: exactly the values handled so far, in order -/
theorem fromChannel_values {α : Type} (cap : Nat) (sub : Ctx) (inp : List α) (wc : Bool) (sched : List Tid) :
    let s := frun (finit cap sub inp wc) sched
    s.tpc = .cas → s.out = s.handled.map (Notif.next s.sub) ++ (if s.downOpen then [] else [.complete s.sub]) :=
  fun ht => from_values (finv_run cap sub inp wc sched) ht

/-- after unsubscription (or completion) nothing more is delivered, whatever the goroutine still
    reads from the channel before its select takes the `done` branch -/
theorem fromChannel_cut {α : Type} (s : FSt α) (hd : s.downOpen = false) (sched : List Tid) :
    (frun s sched).out = s.out :=
  (frun_induction (P := fun s' => s'.out = s.out ∧ s'.downOpen = false)
    (fun _ h hs => let ⟨e, d⟩ := from_frozen h.2 hs; ⟨e.trans h.1, d⟩) sched ⟨rfl, hd⟩).1

/-- `close(done)` runs at most once -/
theorem fromChannel_done_once {α : Type} (cap : Nat) (sub : Ctx) (inp : List α) (wc : Bool) (sched : List Tid) :
    (frun (finit cap sub inp wc) sched).doneCloses ≤ 1 := from_done_once (finv_run cap sub inp wc sched)

/-- stops reading: with `done` closed the goroutine can leave at its select whatever the state of
    the input channel (abandoned, empty, full); the unsubscribing thread is never blocked -/
theorem fromChannel_stops_reading {α : Type} (s : FSt α) :
    (s.doneClosed = true → s.cpc = .sel → (fstep s .quit).isSome) ∧ (s.tpc ≠ .done → (fstep s .ctl).isSome) :=
  ⟨from_quit_enabled s, from_ctl_enabled s⟩

/-! ### Collect -/

theorem collect_exact {α : Type} (raw : List (Notif α)) :
    collect raw = match ending raw with
      | .never => none
      | .error c e => some { vals := (values raw).map (·.2), ctx := some c, err := some e }
      | .complete c => some { vals := (values raw).map (·.2), ctx := some c, err := none } := by
  unfold collect collectOf
  rw [values_gate, ending_gate]
  cases ending raw <;> rfl

/-! ### the source is written the way the model reads it (regenerated on every run) -/

/-- the subscribe closures of ToChannel, detachOn and FromChannel, as translated by go/extract on
    this run, are the statements the transition systems were written from (RoProofs/ChanShape.lean) -/
theorem chan_shapes : RoGen.ChanShape.table = Chan.expectedShapes := Chan.chan_shapes_ok

/-! ### non-vacuity -/

-- a reachable ToChannel state in which the reader has everything and the channel was closed once
example :
    let s := run (toChan 1 false) (init (toChan 1 false) [Notif.next {} (1 : Int), .complete {}, .next {} 9]) [.ctl, .prod, .prod, .cons, .cons, .prod, .prod, .prod, .cons, .cons, .cons]
    s.got = [.next {} 1, .complete {}] ∧ s.closes = 1 ∧ s.stops = 1 ∧ early s = true ∧ s.handed = true := by decide
-- unsubscription while the producer is blocked on a full channel: the send fails, nothing escapes
example :
    let s := run (toChan 1 true) (init (toChan 1 true) [Notif.next {} (1 : Int), .next {} 2, .next {} 3]) [.ctl, .prod, .prod, .prod, .prod, .ctl, .ctl, .ctl, .prod, .prod]
    s.fails = [.next {} 2] ∧ s.closes = 1 ∧ s.dropsUp = [.next {} 3] := by decide
-- FromChannel: two values through an unbuffered channel, then close
example :
    let s := frun (finit 0 {} [(1 : Int), 2] true) [.prod, .prod, .cons, .prod, .prod, .cons, .prod, .cons, .cons, .cons, .cons]
    s.out = [.next {} 1, .next {} 2, .complete {}] ∧ s.doneCloses = 1 := by decide
example : collect [Notif.next {} (1 : Int), .error {} (.user 3), .next {} 2] =
    some { vals := [1], ctx := some {}, err := some (.user 3) } := by decide

end Ro.C17

#print axioms Ro.C17.toSlice
#print axioms Ro.C17.toMap
#print axioms Ro.C17.materialize_dematerialize
#print axioms Ro.C17.toChannel_exact
#print axioms Ro.C17.toChannel_complete
#print axioms Ro.C17.toChannel_close_once
#print axioms Ro.C17.toChannel_close_reached
#print axioms Ro.C17.toChannel_teardown_releases
#print axioms Ro.C17.toChannel_send_on_closed
#print axioms Ro.C17.observer_never_lets_a_panic_out
#print axioms Ro.C17.toChannel_failed_sends
#print axioms Ro.C17.toChannel_handout_partial
#print axioms Ro.C17.toChannel_handout_race_witness
#print axioms Ro.C17.fromChannel_prefix
#print axioms Ro.C17.fromChannel_exact
#print axioms Ro.C17.fromChannel_values
#print axioms Ro.C17.fromChannel_cut
#print axioms Ro.C17.fromChannel_done_once
#print axioms Ro.C17.fromChannel_stops_reading
#print axioms Ro.C17.collect_exact
#print axioms Ro.C17.chan_shapes
