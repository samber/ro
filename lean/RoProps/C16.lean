/-
  C16 — time-driven operators never act early, never reorder, and stop when told.

  Model: RoModel/Timed.lean (timed traces; one model per operator, the environment choosing when
  timers fire, ticks arrive, callbacks run, `select` cases are taken and teardowns take effect).
  The ONLY assumption about Go's timers and tickers: never early (`DelayWF.neverEarly`,
  `IntervalWF.neverEarly`, `TimerWF`, the guards of `iwiStep` and `toStep`, `TicksOK`).
  Specification: RoModel/Spec/Timed.lean — `Clause cfg trace` (decidable), `accepts := decide ∘ Clause`.

  Second assumption, used only for "silent after cancellation": once `ctx.Done()` is ready the `select`
  loop takes at most `cancelSlack` (8) more ticks before it takes it (`IntervalWF.selectFair`,
  `RangeWF.selectFair`, `hfair`): `select` chooses uniformly among ready cases.

  (A) model theorems — for every source timeline and every environment that respects "never early":
      the run satisfies the clause (so it is accepted);
  (B) acceptor soundness — `accepts cfg trace = true →` the plain-words statement for the operator;
  (C) deviation of the tree, as witness theorems: the unlock-then-emit window of `BufferWithTimeOrCount`.
      (`IntervalWithInitial(0, p)` errored and `IntervalWithInitial(i, p)`, `p > i`, raced its `2·i` ticker
      against the initial timer until /repo commit 6a7ef90; the model is the repaired code.)

  The tie to the real code is ACCEPTANCE: go/harness/timed.go runs the real operators in real time
  and `accepts` (B) must accept every observed trace — weaker than equality of outputs.
-/
import RoProofs.TimedDelay
import RoProofs.TimedPeriodic
import RoProofs.TimedRange
import RoProofs.TimedTimeout
import RoProofs.TimedWindow
namespace Ro.C16
open Ro.Timed

/-! ### (A) the models satisfy the clause, for every environment -/

/-- Delay: the k-th delivery is the k-th emission and comes no sooner than `d` after it (pigeonhole
    over the AfterFunc callbacks; pop order = delivery order) -/
theorem delay_never_early (r : DelayRun) (h : DelayWF r) (k : Nat) (dl : Ev)
    (hk : (delayTrace r).dels[k]? = some dl) :
    ∃ e : Time × TN, r.emits[k]? = some e ∧ dl.n = e.2 ∧ e.1 + r.d ≤ dl.t0 :=
  Ro.Timed.delay_never_early r h k dl hk

theorem delay_model_accepted (r : DelayRun) (h : DelayWF r) :
    accepts { op := .delay, d := r.d } (delayTrace r) = true := (accepts_iff _ _).2 (delay_model_clause r h)

theorem delay_silent_after_teardown (r : DelayRun) (u : Time) (hu : r.unsub = some u) :
    ∀ dl ∈ (delayTrace r).dels, dl.t0 ≤ u := fun dl hdl => by
  simp only [delayTrace, down, hu] at hdl
  exact mem_cutAt_some hdl

theorem delayEach_model_accepted (r : DelayEachRun) (h : DelayEachWF r) :
    accepts { op := .delayEach, d := r.d } (delayEachTrace r) = true := (accepts_iff _ _).2 (delayEach_model_clause r h)

/-- Interval: value k never before k+1 periods -/
theorem interval_never_early (r : IntervalRun) (h : IntervalWF r) (k : Nat) (dl : Ev) (v : Int)
    (hk : (intervalTrace r).dels[k]? = some dl) (hv : dl.n = .next v) :
    v = (k : Int) ∧ r.sub + (k + 1) * r.p ≤ dl.t0 := by
  have := (interval_model_clause r h).at hk
  simp only [OpAt, IntervalAt, hv] at this
  exact this

theorem interval_model_accepted (r : IntervalRun) (h : IntervalWF r) :
    accepts { op := .interval, d := r.p } (intervalTrace r) = true := (accepts_iff _ _).2 (interval_model_clause r h)

theorem timer_model_accepted (r : TimerRun) (h : TimerWF r) :
    accepts { op := .timer, d := r.d } (timerTrace r) = true := (accepts_iff _ _).2 (timer_model_clause r h)

theorem range_model_accepted (r : RangeRun) (h : RangeWF r) :
    accepts { op := .rangeWithInterval, d := r.p, a := r.a, b := r.b, step := r.step } (rangeTrace r) = true :=
  (accepts_iff _ _).2 (range_model_clause r h)

/-- IntervalWithInitial, every `initial ≥ 0` and every `interval > 0`: value k never before
    `initial + k·interval`, never an Error. (Partial before 6a7ef90: `initial = 0` errored, `interval > initial` raced.) -/
theorem intervalWithInitial_never_early (r : IwiRun) (hp : 0 < r.p)
    (hstop : ∀ c x, r.stop = some (c, x) → c ≤ x)
    (hfair : ∀ c x s, r.stop = some (c, x) → iwiRunFrom r.sub r.i r.p (iwiInit r.sub r.i r.p r.first) r.evs = some s →
      (s.out.filter (fun o => decide (c < o.1))).length ≤ cancelSlack)
    (tr : TimedTrace) (htr : iwiTrace r = some tr) :
    Clause { op := .intervalWithInitial, d := r.p, d2 := r.i } tr :=
  iwi_model_clause r hp hstop hfair tr htr

/-- the repaired ticker is silent until `Reset`: no environment makes a tick precede the timer branch -/
theorem intervalWithInitial_no_tick_before_reset (sub i p first : Nat) (hi : 0 < i) (t : Time) (evs : List IwiEv) :
    iwiRunFrom sub i p (iwiInit sub i p first) (.tick t :: evs) = none := by
  have hi' : ¬ i = 0 := by omega
  simp [iwiRunFrom, iwiStep, iwiInit, hi']

/-- `initial = 0`: value 0 is sent at once by Subscribe itself (an Error before 6a7ef90) -/
theorem intervalWithInitial_zero_emits_at_once (p sub first : Nat) :
    (iwiTrace { i := 0, p := p + 1, sub := sub, first := sub + first, evs := [], stop := none, unsub := none }).map (·.dels)
      = some [Ev.at (sub + first) (.next 0)] := by
  simp [iwiTrace, iwiInit, iwiRunFrom, IwiSt.emit, IwiSt.armAt, down, gateT, cutAt, stopAttempt, Ev.at]

/-- Timeout: error only after a full quiet period measured from the end of the last forwarded Next;
    forwarded notifications are the source's in order; nothing after a terminal -/
theorem timeout_sound (r : ToRun) (tr : TimedTrace) (htr : toTrace r = some tr) :
    Clause { op := .timeout, d := r.d } tr := timeout_model_clause r tr htr

theorem timeout_model_accepted (r : ToRun) (tr : TimedTrace) (htr : toTrace r = some tr) :
    accepts { op := .timeout, d := r.d } tr = true := (accepts_iff _ _).2 (timeout_model_clause r tr htr)

/-- ThrottleTime: consecutive passes are more than the window apart; nothing invented or reordered -/
theorem throttle_spacing (r : ThrottleRun) (k : Nat) (a b : Ev) (va vb : Int)
    (ha : (throttleTrace r).dels[k]? = some a) (hb : (throttleTrace r).dels[k+1]? = some b)
    (hna : a.n = .next va) (hnb : b.n = .next vb) : a.t0 + r.w < b.t0 :=
  spaced_adjacent r.w 0 _ k a b va vb
    (spaced_prefix r.w 0 _ _ (down_prefix r.unsub _) (throttle_spaced r.w 0 r.emits)) ha hb hna hnb

theorem throttle_source_order (r : ThrottleRun) :
    List.Sublist ((throttleTrace r).dels.map (·.n)) (r.emits.map (·.2)) :=
  ((down_prefix r.unsub _).sublist.map _).trans (throttle_sublist r.w 0 r.emits)

/-- sampling: a tick emits the latest value handed over since the previous sample, once -/
theorem sample_latest_once (st : Option Int) (k : Nat) (seg : List (Time × Int)) (t : Time) (r : List SaEv) :
    sampleFrom st k (seg.map (fun p => SaEv.src p.1 p.2) ++ .tick t :: r) =
      match lastSrc st seg with
      | some v => (k, t, v) :: sampleFrom none (k + 1) r
      | none => sampleFrom none (k + 1) r := by
  induction seg generalizing st with
  | nil => cases st <;> simp [lastSrc, sampleFrom]
  | cons p seg ih =>
    cases st <;> simp only [List.map_cons, List.cons_append, sampleFrom, lastSrc] <;> exact ih (some p.2)

/-- sampling: the i-th sample never before i+1 periods (at most one per tick) -/
theorem sample_one_per_tick (sub p : Nat) (evs : List SaEv) (hok : TicksOK sub p 0 evs)
    (i : Nat) (o : Nat × Time × Int) (h : (sampleFrom none 0 evs)[i]? = some o) : sub + (i + 1) * p ≤ o.2.1 := by
  obtain ⟨h1, h2⟩ := sample_bounds sub p none 0 evs hok i o h
  have : (i + 1) * p ≤ (o.1 + 1) * p := Nat.mul_le_mul_right p (by omega)
  omega

theorem sample_source_order (st : Option Int) (k : Nat) (evs : List SaEv) :
    List.Sublist ((sampleFrom st k evs).map (·.2.2)) (st.toList ++ saVals evs) := sample_sublist st k evs

/-- time buffers: only source values, in source order, each at most once; at most `n` per buffer -/
theorem buffers_source_order (cnt : Option Nat) (buf : List Int) (evs : List BuEv) :
    ((bufferFrom cnt buf evs).map (·.2)).flatten <+: buf ++ buVals evs := buffer_concat_prefix cnt buf evs

theorem buffers_count (n : Nat) (hn : 0 < n) (buf : List Int) (evs : List BuEv) (hb : buf.length < n) :
    ∀ o ∈ bufferFrom (some n) buf evs, o.2.length ≤ n := buffer_count_le n hn buf evs hb

/-! ### (B) soundness of the acceptor

`accepts` is the decision procedure of `Clause`, so these are unfoldings — which is the point: the
executable that judges the observed traces is the proposition the model theorems establish. -/

theorem accepts_sound (cfg : Cfg) (tr : TimedTrace) : accepts cfg tr = true ↔ Clause cfg tr := accepts_iff cfg tr

theorem accepted_grammar {cfg : Cfg} {tr : TimedTrace} (h : accepts cfg tr = true) {k : Nat} {dl : Ev}
    (hk : tr.dels[k]? = some dl) (ht : dl.n.isTerminal = true) : k + 1 = tr.dels.length := by
  obtain ⟨hlt, rfl⟩ := List.getElem?_eq_some_iff.1 hk
  exact ((accepts_iff cfg tr).1 h).1 k hlt ht

theorem accepted_silent_inside {cfg : Cfg} {tr : TimedTrace} (h : accepts cfg tr = true) {k u0 u1 : Nat}
    (hc : tr.cut = .unsubIn k u0 u1) : tr.dels.length ≤ k + 1 := by
  simpa [SilentOK, hc] using ((accepts_iff cfg tr).1 h).2.1

theorem accepted_silent_outside {cfg : Cfg} {tr : TimedTrace} (h : accepts cfg tr = true) {u0 u1 : Nat}
    (hc : tr.cut = .unsubOut u0 u1) : (tr.dels.filter (fun e => decide (u1 < e.t0))).length ≤ 1 := by
  simpa [SilentOK, hc] using ((accepts_iff cfg tr).1 h).2.1

/-- silent after context cancellation, as a count: a stream that keeps delivering is not accepted -/
theorem accepted_silent_cancel {cfg : Cfg} {tr : TimedTrace} (h : accepts cfg tr = true) {c0 c1 : Nat}
    (hc : tr.cut = .cancel c0 c1) :
    lateCount c1 tr.dels ≤ cancelSlack + 2 + (tr.emits.filter (fun e => decide (c1 < e.t1))).length := by
  simpa [SilentOK, hc] using ((accepts_iff cfg tr).1 h).2.1

/-- what the seeded change C16-A produces (BufferWithTimeOrCount whose ticker no longer sees the
    cancellation: an empty buffer every period, for ever) is rejected as soon as enough of it is seen -/
theorem keeps_emitting_after_cancel_rejected :
    ¬ Clause { op := .bufferWithTimeOrCount, d := 2, n := 2 }
      { sub := 0, emits := [], cut := .cancel 3 3,
        dels := (List.range 14).map (fun k => ⟨2 * (k + 1), 2 * (k + 1), .buf []⟩) } := by decide

theorem accepted_delay {cfg : Cfg} {tr : TimedTrace} (hop : cfg.op = .delay) (h : accepts cfg tr = true)
    {k : Nat} {dl : Ev} (hk : tr.dels[k]? = some dl) :
    ∃ e : Ev, tr.emits[k]? = some e ∧ dl.n = e.n ∧ e.t0 + cfg.d ≤ dl.t0 := by
  have := accepts_at h hk
  simp only [OpAt, hop, DelayAt] at this
  split at this
  next e he => exact ⟨e, he, this⟩
  next => exact this.elim

theorem accepted_delayEach {cfg : Cfg} {tr : TimedTrace} (hop : cfg.op = .delayEach) (h : accepts cfg tr = true)
    {k : Nat} {dl : Ev} (hk : tr.dels[k]? = some dl) :
    ∃ e : Ev, tr.emits[k]? = some e ∧ dl.n = e.n ∧ (e.n.isTerminal = false → e.t0 + cfg.d ≤ dl.t0) := by
  have := accepts_at h hk
  simp only [OpAt, hop, DelayEachAt] at this
  split at this
  next e he => exact ⟨e, he, this.1, fun hnt => by simpa [hnt] using this.2⟩
  next => exact this.elim

theorem accepted_timeout {cfg : Cfg} {tr : TimedTrace} (hop : cfg.op = .timeout) (h : accepts cfg tr = true)
    {k : Nat} {dl : Ev} (hk : tr.dels[k]? = some dl) :
    (dl.n = .error errTimeout → ∃ j, j ≤ k ∧ endBefore tr j + cfg.d ≤ startOf tr j)
    ∧ (dl.n ≠ .error errTimeout → ∃ e : Ev, tr.emits[k]? = some e ∧ dl.n = e.n ∧ e.t0 ≤ dl.t0) := by
  have := accepts_at h hk
  simp only [OpAt, hop, TimeoutAt] at this
  split at this
  next hto =>
    obtain ⟨j, hj, hq⟩ := this
    exact ⟨fun _ => ⟨j, by omega, hq⟩, fun hne => absurd hto hne⟩
  next hnto =>
    refine ⟨fun hto => absurd hto hnto, fun _ => ?_⟩
    split at this
    next e he => exact ⟨e, he, this⟩
    next => exact this.elim

theorem accepted_interval {cfg : Cfg} {tr : TimedTrace} (hop : cfg.op = .interval) (h : accepts cfg tr = true)
    {k : Nat} {dl : Ev} (hk : tr.dels[k]? = some dl) :
    (∀ v, dl.n = .next v → v = (k : Int) ∧ tr.sub + (k + 1) * cfg.d ≤ dl.t0)
    ∧ (∀ c, dl.n ≠ .error c) ∧ (dl.n = .complete → CancelledBy tr dl.t0) := by
  have := accepts_at h hk
  simp only [OpAt, hop, IntervalAt] at this
  cases hn : dl.n <;> simp_all

theorem accepted_intervalWithInitial {cfg : Cfg} {tr : TimedTrace} (hop : cfg.op = .intervalWithInitial)
    (h : accepts cfg tr = true) {k : Nat} {dl : Ev} (hk : tr.dels[k]? = some dl) :
    (∀ v, dl.n = .next v → v = (k : Int) ∧ tr.sub + cfg.d2 + k * cfg.d ≤ dl.t0) ∧ (∀ c, dl.n ≠ .error c) := by
  have := accepts_at h hk
  simp only [OpAt, hop, IwiAt] at this
  cases hn : dl.n <;> simp_all

theorem accepted_timer {cfg : Cfg} {tr : TimedTrace} (hop : cfg.op = .timer) (h : accepts cfg tr = true)
    {k : Nat} {dl : Ev} (hk : tr.dels[k]? = some dl) :
    (∀ v, dl.n = .next v → k = 0 ∧ v = (cfg.d : Int) ∧ tr.sub + cfg.d ≤ dl.t0)
    ∧ (∀ c, dl.n = .error c → c = errCancelled ∧ CancelledBy tr dl.t0) := by
  have := accepts_at h hk
  simp only [OpAt, hop, TimerAt] at this
  cases hn : dl.n <;> simp_all

theorem accepted_range {cfg : Cfg} {tr : TimedTrace} (hop : cfg.op = .rangeWithInterval) (h : accepts cfg tr = true)
    {k : Nat} {dl : Ev} (hk : tr.dels[k]? = some dl) (v : Int) (hv : dl.n = .next v) :
    k < rangeCount cfg.a cfg.b cfg.step ∧ v = rangeVal cfg.a cfg.b cfg.step k
      ∧ tr.sub + (k + 1) * cfg.d ≤ dl.t0 := by
  have := accepts_at h hk
  simp only [OpAt, hop, RangeAt] at this
  rw [hv] at this; exact this

/-- RangeWithInterval / RangeWithStepAndInterval never complete short: the completion follows exactly ⌈|b-a| / step⌉
    values (or a cancellation) — the whole range `[a : b)`, every value of it -/
theorem accepted_range_complete {cfg : Cfg} {tr : TimedTrace} (hop : cfg.op = .rangeWithInterval) (h : accepts cfg tr = true)
    {k : Nat} {dl : Ev} (hk : tr.dels[k]? = some dl) (hc : dl.n = .complete) :
    k = rangeCount cfg.a cfg.b cfg.step ∨ CancelledBy tr dl.t0 := by
  have := accepts_at h hk
  simp only [OpAt, hop, RangeAt] at this
  rw [hc] at this; exact this

/-- the range `[a : b)` in steps of `step` has a value for every `k·step < |b-a|` and no other: the count is exact -/
theorem rangeCount_exact (a b : Int) (step k : Nat) (hs : 0 < step) :
    k < rangeCount a b step ↔ k * step < (b - a).natAbs := by
  unfold rangeCount
  rw [Nat.lt_div_iff_mul_lt hs]
  constructor <;> intro h <;> omega

-- non-vacuity: 0 up to 5 in steps of 2 is three values (the pinned tree delivered two: floor instead of ceiling)
example : rangeCount 0 5 2 = 3 ∧ rangeVal 0 5 2 2 = 4 := by decide
example : (rangeTrace { a := 0, b := 5, step := 2, p := 10, sub := 0, ticks := [11, 25, 31, 44], stop := none, unsub := none }).dels
    = [Ev.at 11 (.next 0), Ev.at 25 (.next 2), Ev.at 31 (.next 4), Ev.at 31 .complete] := by decide

theorem accepted_throttle {cfg : Cfg} {tr : TimedTrace} (hop : cfg.op = .throttleTime) (h : accepts cfg tr = true)
    {k : Nat} {dl pd : Ev} (hk : tr.dels[k+1]? = some dl) (hp : tr.dels[k]? = some pd) (hv : dl.n.isTerminal = false) :
    ∃ j e j' pe, srcOf tr dl.n = some (j, e) ∧ srcOf tr pd.n = some (j', pe) ∧ j' < j ∧ e.t0 ≤ dl.t0 ∧ pe.t0 + cfg.d ≤ dl.t0 := by
  have := accepts_at h hk
  simp only [OpAt, hop, ThrottleAt] at this
  split at this
  next => exact this.elim
  next j e hs =>
    obtain ⟨hc, h0 | hrest⟩ := this
    · omega
    simp only [Nat.add_sub_cancel, hp, Option.bind_some] at hrest
    split at hrest
    next => exact hrest.elim
    next j' pe hs' =>
      obtain ⟨hlt, ht | hw⟩ := hrest
      · rw [hv] at ht; cases ht
      · exact ⟨j, e, j', pe, hs, hs', hlt, hc, hw⟩

theorem accepted_sample {cfg : Cfg} {tr : TimedTrace} (hop : cfg.op = .sampleTime) (h : accepts cfg tr = true)
    {k : Nat} {dl : Ev} (hk : tr.dels[k]? = some dl) (v : Int) (hv : dl.n = .next v) :
    tr.sub + (k + 1) * cfg.d ≤ dl.t0 ∧
    ∃ j e, srcOf tr dl.n = some (j, e) ∧ e.t0 ≤ dl.t0 ∧ AfterPrev tr k j ∧ LatestAt cfg.d tr k j := by
  have := accepts_at h hk
  simp only [OpAt, hop, SampleAt] at this
  rw [hv] at this
  obtain ⟨h1, h2⟩ := this
  refine ⟨h2, ?_⟩
  rw [hv]
  split at h1
  next j e hs => exact ⟨j, e, hs, h1⟩
  next => exact h1.elim

theorem accepted_buffer {cfg : Cfg} {tr : TimedTrace} (cnt : Option Nat)
    (hop : OpAt cfg = BufferAt cnt cfg.xorder cfg.d) (h : accepts cfg tr = true)
    {k : Nat} {dl : Ev} (hk : tr.dels[k]? = some dl) (vs : List Int) (hv : dl.n = .buf vs) :
    (∀ v ∈ vs, ∃ j e, srcOf tr (.next v) = some (j, e) ∧ e.t0 ≤ dl.t0) ∧ Contiguous tr vs ∧ (cfg.xorder = true → AfterEarlierBuffers tr k vs)
      ∧ (∀ n, cnt = some n → vs.length ≤ n)
      ∧ tr.sub + (k + 1 - extraFlushes cnt tr dl.t0) * cfg.d ≤ dl.t0 := by
  have := accepts_at h hk
  rw [hop] at this
  simp only [BufferAt] at this
  rw [hv] at this
  obtain ⟨h1, h2, h3, h4, h5⟩ := this
  refine ⟨fun v hvm => ?_, h3, h4, fun n hn => by subst hn; exact h1, h5⟩
  have := h2 v hvm
  split at this
  next j e hs => exact ⟨j, e, hs, this⟩
  next => exact this.elim

/-! ### (C) deviation of the tree (known finding, recognised by its class) -/

/-- time buffers, unlock-then-emit window (C05's, by reading; micro-step witness only) -/
theorem buffer_window_witness :
    bufferMicro [] none none [.src 1, .take true, .src 2, .src 3, .take false, .send false, .send true]
      = [[2, 3], [1]] := by decide

/-- a trace OBSERVED on the unchanged real code (quick run, seed 5, case 23: `BufferWithTimeOrCount(2, 2ms)`
    over a burst 1..5 then Complete; the source's first call was held up across the first tick):
    `[2,3]` is delivered before `[1]`. It violates the clause only through the order across buffers —
    exactly the class of the known finding. -/
def observedWindowTrace : TimedTrace :=
  { sub := 14622, cut := .none
    emits := [⟨14979, 17893, .next 1⟩, ⟨17894, 17894, .next 2⟩, ⟨17895, 17898, .next 3⟩, ⟨17898, 17899, .next 4⟩,
              ⟨17899, 17908, .next 5⟩, ⟨17910, 17914, .complete⟩]
    dels := [⟨17897, 17897, .buf [2, 3]⟩, ⟨17900, 17900, .buf [1]⟩, ⟨17906, 17906, .buf [4, 5]⟩,
             ⟨17911, 17911, .buf []⟩, ⟨17911, 17911, .complete⟩] }

theorem buffer_window_observed :
    ¬ Clause { op := .bufferWithTimeOrCount, d := 2000, n := 2 } observedWindowTrace
    ∧ Clause { op := .bufferWithTimeOrCount, d := 2000, n := 2, xorder := false } observedWindowTrace := by
  constructor <;> decide

end Ro.C16

#print axioms Ro.C16.delay_never_early
#print axioms Ro.C16.delay_model_accepted
#print axioms Ro.C16.delay_silent_after_teardown
#print axioms Ro.C16.delayEach_model_accepted
#print axioms Ro.C16.interval_never_early
#print axioms Ro.C16.interval_model_accepted
#print axioms Ro.C16.timer_model_accepted
#print axioms Ro.C16.range_model_accepted
#print axioms Ro.C16.intervalWithInitial_never_early
#print axioms Ro.C16.intervalWithInitial_no_tick_before_reset
#print axioms Ro.C16.intervalWithInitial_zero_emits_at_once
#print axioms Ro.C16.timeout_sound
#print axioms Ro.C16.timeout_model_accepted
#print axioms Ro.C16.throttle_spacing
#print axioms Ro.C16.throttle_source_order
#print axioms Ro.C16.sample_latest_once
#print axioms Ro.C16.sample_one_per_tick
#print axioms Ro.C16.sample_source_order
#print axioms Ro.C16.buffers_source_order
#print axioms Ro.C16.buffers_count
#print axioms Ro.C16.accepts_sound
#print axioms Ro.C16.accepted_grammar
#print axioms Ro.C16.accepted_silent_inside
#print axioms Ro.C16.accepted_silent_outside
#print axioms Ro.C16.accepted_silent_cancel
#print axioms Ro.C16.keeps_emitting_after_cancel_rejected
#print axioms Ro.C16.accepted_delay
#print axioms Ro.C16.accepted_delayEach
#print axioms Ro.C16.accepted_timeout
#print axioms Ro.C16.accepted_interval
#print axioms Ro.C16.accepted_intervalWithInitial
#print axioms Ro.C16.accepted_timer
#print axioms Ro.C16.accepted_range
#print axioms Ro.C16.accepted_range_complete
#print axioms Ro.C16.rangeCount_exact
#print axioms Ro.C16.accepted_throttle
#print axioms Ro.C16.accepted_sample
#print axioms Ro.C16.accepted_buffer
#print axioms Ro.C16.buffer_window_witness
#print axioms Ro.C16.buffer_window_observed
