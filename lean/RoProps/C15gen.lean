/-
  RoProps.C15gen — the re-subscribing operators REGENERATED from the Go source on this run compute exactly the
  `Result` of the hand-written loops the C15 theorems are about.

  `go/extract/loopgen.go` translates the subscribe functions of RetryWithConfig, OnErrorResumeNextWith, Catch,
  DoWhileIWithContext, WhileIWithContext (operator_error_handling.go) and RepeatWith (operator_utility.go),
  statement by statement, into loop programs (`RoGen/LoopGen.lean`; language and meaning: `RoModel/ResubGen.lean`).
  For every configuration, every subscription context, every list of attempt outcomes (of any length), every
  truth sequence of the condition, every cancellation point, every point at which the destination goes away and
  any fuel above the stated bound:

      (<op>G params).run env outs conds cut  =  (ret, <hand-written loop> params … outs)

  so every theorem of RoProps/C15.lean about `retry`, `while_`, `doWhile`, `repeatWith`, `onErrorResumeNext`,
  `catch_` is a theorem about the text the translator produced from the repository under check.
  `nothing_skipped` / `translated_names` / `guards_as_expected` / `attempts_as_expected` (literal against literal) turn an operator
  that leaves the fragment, a changed parameter guard, an attempt that is no longer waited for or that subscribes
  a different observable into a failed obligation.

  Proof pattern per operator: one round of the loop body in the vocabulary of the hand-written loop (`…_body`; the
  `Next` callbacks hand the values to the destination, `playVals_emit`, Retry's also clears its counter, `retry_vals`),
  the loop by induction over the outcomes / the condition sequence / the count (`…_iter`; a round's happenings fold
  to `Result.after`, `ofOuts_round`), the whole subscribe function (`…_gen`).
-/
import RoGen.LoopGen
import RoProofs.ResubGen
import RoProps.C15
set_option linter.unusedVariables false
set_option linter.unusedSimpArgs false
namespace Ro.C15gen
open Ro Ro.Resub Ro.Resub.Gen RoGen.Loop

-- `simp` unfolds the fold from happenings to a `Result`, on both sides of an equation between results
attribute [local simp] Result.ofOuts Result.after Result.stop Result.evaluated rawsOf evsOf attemptsOf evalsOf
  rawsOf_append evsOf_append attemptsOf_append evalsOf_append feedOuts_append

/-! ### RetryWithConfig -/

theorem retry_next_step (m : Nat) (d reset : Bool) (sub : Ctx) (env : Env) (ctx : Ctx) (value : Int)
    (l : RetryWithConfigSt) (w : World) :
    exec env (retryWithConfigG_next1 m d reset sub ctx value) (l, w)
      = (.normal, ({ l with v0 := if reset then 0 else l.v0 }, { w with b := pushB w.b (.next ctx value) }),
          [.raw (.next ctx value)]) := by
  cases reset <;> simp [retryWithConfigG_next1, exec, dseq]

/-- what Retry's Next callback does over the values of an attempt -/
theorem retry_vals (m : Nat) (d reset : Bool) (sub c : Ctx) (env : Env) (vals : List (Nat × Int)) :
    ∀ (l : RetryWithConfigSt) (w : World),
    playVals c (fun ctx value => exec env (retryWithConfigG_next1 m d reset sub ctx value)) vals (l, w)
      = (({ l with v0 := if reset && !vals.isEmpty then 0 else l.v0 },
          { w with b := feedB w.b (vals.map (fun p => Notif.next (tagM c p.1) p.2)) }),
         feedOuts (vals.map (fun p => Notif.next (tagM c p.1) p.2))) := by
  induction vals with
  | nil => intro l w; simp [playVals, feedB, feedOuts]
  | cons p ps ih =>
    intro l w
    rw [playVals, retry_next_step]
    simp only [ih]
    cases reset <;> simp [feedB, feedOuts]

/-- one attempt of Retry, in the vocabulary of the hand-written loop -/
theorem retry_attempt (cfg : RetryCfg) (sub : Ctx) (env : Env) (outs : List Outcome) (o : Outcome) (rest : List Outcome)
    (ho : outcomeAt outs 0 = o) (hr : outs.tail = rest) (l : RetryWithConfigSt) (cs : List Bool) (a : Nat) (b : Option Nat) :
    exec env (.attempt (fun _ => sub) (retryWithConfigG_next1 cfg.maxRetries cfg.delay cfg.reset sub)
        (retryWithConfigG_error1 cfg.maxRetries cfg.delay cfg.reset sub)
        (retryWithConfigG_complete1 cfg.maxRetries cfg.delay cfg.reset sub))
        (l, { outs := outs, conds := cs, att := a, b := b, pend := [] })
      = match o.fin with
        | .complete => (.normal, ({ l with v0 := if cfg.reset && o.hasValues then 0 else l.v0 },
              { outs := rest, conds := cs, att := a + 1, b := feedB b (o.nexts sub ++ [.complete (o.finCtx sub)]), pend := [] }),
            Out.ev (.s (a + 1)) :: (feedOuts (o.nexts sub ++ [.complete (o.finCtx sub)]) ++ [Out.ev (.t (a + 1))]))
        | .error e => (.normal, ({ v0 := retriesAfter cfg l.v0 o, v1 := shouldRetry cfg (retriesAfter cfg l.v0 o), v2 := some (.user e) },
              { outs := rest, conds := cs, att := a + 1, b := feedB b (o.nexts sub), pend := [] }),
            Out.ev (.s (a + 1)) :: (feedOuts (o.nexts sub) ++ [Out.ev (.t (a + 1))])) := by
  simp only [exec, playAttempt, ho, hr]
  obtain ⟨vals, fm, fin⟩ := o
  cases fin <;>
    simp [exec, retry_vals, retryWithConfigG_complete1, retryWithConfigG_error1, dseq, Outcome.nexts,
      Outcome.finCtx, Outcome.hasValues, retriesAfter, shouldRetry, feedB, feedOuts, List.foldl_append]

/-- one round of Retry's loop body; `o` is the outcome the attempt plays -/
theorem retry_body (cfg : RetryCfg) (sub : Ctx) (env : Env) (outs : List Outcome) (o : Outcome) (rest : List Outcome)
    (ho : outcomeAt outs 0 = o) (hr : outs.tail = rest) (l : RetryWithConfigSt) (cs : List Bool) (a : Nat) (b : Option Nat) :
    exec env (retryWithConfigG_body cfg.maxRetries cfg.delay cfg.reset sub)
        (l, { outs := outs, conds := cs, att := a, b := b, pend := [] })
      = if cancelledBefore env.cancel (a + 1) then
          (.ret, (l, { outs := outs, conds := cs, att := a, b := pushB b (.error sub ctxCanceled), pend := [] }),
            [.raw (.error sub ctxCanceled)])
        else match o.fin with
        | .complete => (.brk, ({ v0 := if cfg.reset && o.hasValues then 0 else l.v0, v1 := false, v2 := none },
              { outs := rest, conds := cs, att := a + 1, b := feedB b (o.nexts sub ++ [.complete (o.finCtx sub)]), pend := [] }),
            Out.ev (.s (a + 1)) :: (feedOuts (o.nexts sub ++ [.complete (o.finCtx sub)]) ++ [Out.ev (.t (a + 1))]))
        | .error e =>
          if shouldRetry cfg (retriesAfter cfg l.v0 o) then
            if cfg.delay && cancelledBefore env.cancel (a + 2) then
              (.ret, ({ v0 := retriesAfter cfg l.v0 o, v1 := true, v2 := some (.user e) },
                { outs := rest, conds := cs, att := a + 1, b := pushB (feedB b (o.nexts sub)) (.error sub ctxCanceled), pend := [] }),
                Out.ev (.s (a + 1)) :: (feedOuts (o.nexts sub) ++ [Out.ev (.t (a + 1)), .raw (.error sub ctxCanceled)]))
            else
              (.cont, ({ v0 := retriesAfter cfg l.v0 o, v1 := true, v2 := some (.user e) },
                { outs := rest, conds := cs, att := a + 1, b := feedB b (o.nexts sub), pend := [] }),
                Out.ev (.s (a + 1)) :: (feedOuts (o.nexts sub) ++ [Out.ev (.t (a + 1))]))
          else
            (.brk, ({ v0 := retriesAfter cfg l.v0 o, v1 := false, v2 := some (.user e) },
                { outs := rest, conds := cs, att := a + 1, b := pushB (feedB b (o.nexts sub)) (.error sub (.user e)), pend := [] }),
                Out.ev (.s (a + 1)) :: (feedOuts (o.nexts sub) ++ [Out.ev (.t (a + 1)), .raw (.error sub (.user e))])) := by
  have hA := retry_attempt cfg sub env outs o rest ho hr { v0 := l.v0, v1 := false, v2 := none } cs a b
  simp only [retryWithConfigG_body, exec, dseq] at hA ⊢
  by_cases hcb : cancelledBefore env.cancel (a + 1) = true
  · simp [hcb]
  · cases hfin : o.fin with
    | complete => simp [hfin] at hA; simp [hcb, hA]
    | error e =>
      simp [hfin] at hA
      cases hsr : shouldRetry cfg (retriesAfter cfg l.v0 o)
      all_goals simp only [hsr] at hA
      · simp [hcb, hA, goErr]
      · cases hd : cfg.delay <;> simp only [hd] at hA <;>
          by_cases hcb2 : cancelledBefore env.cancel (a + 2) = true <;> simp [hcb, hA, hcb2]

theorem retry_iter (cfg : RetryCfg) (sub : Ctx) (cancel : Option Nat) :
    ∀ (outs : List Outcome) (fuel : Nat) (env : Env) (l : RetryWithConfigSt) (cs : List Bool) (a : Nat) (b : Option Nat),
      outs.length + 2 ≤ fuel → env.cancel = cancel →
      let r := iterate (fun _ => true) (exec env .skip) (exec env (retryWithConfigG_body cfg.maxRetries cfg.delay cfg.reset sub)) fuel
        (l, { outs := outs, conds := cs, att := a, b := b, pend := [] })
      (r.1 = .normal ∨ r.1 = .ret) ∧ Result.ofOuts r.2.2 = retryLoop cfg sub cancel outs (a + 1) l.v0 := by
  intro outs
  induction outs with
  | nil =>
    intro fuel env l cs a b hf hc
    obtain ⟨n, rfl⟩ : ∃ n, fuel = n + 1 := ⟨fuel - 1, by omega⟩
    simp only [iterate, retry_body cfg sub env [] Outcome.dflt [] rfl rfl, retryLoop, hc, if_true]
    by_cases hcb : cancelledBefore cancel (a + 1) = true
    · simp [hcb]
    · simp [hcb, Outcome.dflt, Outcome.nexts, Outcome.finCtx, tagM, feedOuts]
  | cons o rest ih =>
    intro fuel env l cs a b hf hc
    obtain ⟨n, rfl⟩ : ∃ n, fuel = n + 1 := ⟨fuel - 1, by omega⟩
    have hih := fun l' b' => ih n env l' cs (a + 1) b' (by simp at hf; omega) hc
    simp only [iterate, retry_body cfg sub env (o :: rest) o rest rfl rfl, retryLoop, hc, if_true]
    by_cases hcb : cancelledBefore cancel (a + 1) = true
    · simp [hcb]
    · cases hfin : o.fin with
      | complete => simp [hcb]
      | error e =>
        cases hsr : shouldRetry cfg (retriesAfter cfg l.v0 o)
        · simp [hcb]
        · by_cases hdc : (cfg.delay && cancelledBefore cancel (a + 2)) = true
          · have hdc' : (cfg.delay && cancelledBefore cancel (a + 1 + 1)) = true := hdc
            simp [hcb, hdc, hdc']
          · have hdc' : ¬ (cfg.delay && cancelledBefore cancel (a + 1 + 1)) = true := hdc
            have := hih { v0 := retriesAfter cfg l.v0 o, v1 := true, v2 := some (Err.user e) } (feedB b (o.nexts sub))
            simp only [hcb, hdc, hdc', exec, if_false, if_true, Bool.false_eq_true]
            refine ⟨this.1, ?_⟩
            simp only [List.append_assoc, List.cons_append, List.nil_append, ofOuts_round]
            exact congrArg _ this.2

/-- **RetryWithConfig, regenerated = hand-written**, for every configuration, subscription context, cancellation
    point and list of attempt outcomes -/
theorem retry_gen (cfg : RetryCfg) (sub : Ctx) (cancel : Option Nat) (outs : List Outcome) (cut : Option Nat) (mode : Mode)
    (ct fuel : Nat) (hf : outs.length + 2 ≤ fuel) :
    (retryWithConfigG cfg.maxRetries cfg.delay cfg.reset).run { sub := sub, cancel := cancel, ct := ct, mode := mode, fuel := fuel } outs [] cut
      = (.ret, retry cfg sub cancel outs) := by
  have := retry_iter cfg sub cancel outs fuel { sub := sub, cancel := cancel, ct := ct, mode := mode, fuel := fuel }
    { v0 := 0, v1 := false, v2 := none } [] 0 cut hf rfl
  simp only [LoopProg.run, retryWithConfigG, exec, retry]
  exact loop_then_ret _ _ _ this.1 this.2

/-! ### OnErrorResumeNextWith -/

/-- Go's `err` against the hand-written loop's -/
def errOf : Option Nat → GoErr
  | some e => some (.user e)
  | none => none

/-- the error an attempt leaves behind -/
def finErr : Fin → Option Nat
  | .complete => none
  | .error e => some e

theorem resume_body (k : Nat) (sub : Ctx) (env : Env) (outs : List Outcome) (l : OnErrorResumeNextWithSt)
    (cs : List Bool) (a : Nat) (b : Option Nat) :
    exec env (onErrorResumeNextWithG_body k sub) (l, { outs := outs, conds := cs, att := a, b := b, pend := [] })
      = (.normal, ({ v0 := (outcomeAt outs 0).finCtx sub,
                     v1 := errOf (finErr (outcomeAt outs 0).fin),
                     v2 := l.v2 },
            { outs := outs.tail, conds := cs, att := a + 1, b := feedB b ((outcomeAt outs 0).nexts sub), pend := [] }),
          Out.ev (.s (a + 1)) :: (feedOuts ((outcomeAt outs 0).nexts sub) ++ [Out.ev (.t (a + 1))])) := by
  simp only [onErrorResumeNextWithG_body, exec, dseq, playAttempt, onErrorResumeNextWithG_next1, playVals_emit]
  cases hfin : (outcomeAt outs 0).fin <;>
    simp [onErrorResumeNextWithG_error1, onErrorResumeNextWithG_complete1, exec, dseq, errOf, finErr, Outcome.nexts]

/-- the notification the epilogue hands to the destination -/
def resumeLast (l : OnErrorResumeNextWithSt) : Notif Int :=
  if l.v1.isSome then .error l.v0 (goErr l.v1) else .complete l.v0

theorem resume_iter (k : Nat) (sub : Ctx) :
    ∀ (n : Nat) (outs : List Outcome) (fuel : Nat) (env : Env) (l : OnErrorResumeNextWithSt) (cs : List Bool) (a : Nat)
      (b : Option Nat) (err : Option Nat),
      l.v2 + n = k → n + 1 ≤ fuel → l.v1 = errOf err →
      let r := iterate (fun s => decide (s.v2 < k)) (exec env (.set (fun s => { s with v2 := s.v2 + 1 })))
        (exec env (onErrorResumeNextWithG_body k sub)) fuel (l, { outs := outs, conds := cs, att := a, b := b, pend := [] })
      r.1 = .normal ∧ Result.ofOuts (r.2.2 ++ [.raw (resumeLast r.2.1.1)]) = resumeLoop sub n outs a l.v0 err := by
  intro n
  induction n with
  | zero =>
    intro outs fuel env l cs a b err hk hf he
    obtain ⟨m, rfl⟩ : ∃ m, fuel = m + 1 := ⟨fuel - 1, by omega⟩
    have : ¬ l.v2 < k := by omega
    simp only [iterate, this, decide_false, Bool.false_eq_true, if_false, resumeLoop, resumeLast, he]
    cases err <;> exact ⟨trivial, rfl⟩
  | succ n ih =>
    intro outs fuel env l cs a b err hk hf he
    obtain ⟨m, rfl⟩ : ∃ m, fuel = m + 1 := ⟨fuel - 1, by omega⟩
    have hlt : l.v2 < k := by omega
    simp only [iterate, hlt, decide_true, if_true, resume_body, exec, resumeLoop]
    have := ih outs.tail m env
      { v0 := (outcomeAt outs 0).finCtx sub,
        v1 := errOf (finErr (outcomeAt outs 0).fin), v2 := l.v2 + 1 }
      cs (a + 1) (feedB b ((outcomeAt outs 0).nexts sub))
      (finErr (outcomeAt outs 0).fin) (by simp; omega) (by omega) rfl
    refine ⟨this.1, ?_⟩
    simp only [List.append_assoc, List.cons_append, List.nil_append, ofOuts_round]
    exact congrArg _ this.2

/-- **OnErrorResumeNextWith (at least one fallback), regenerated = hand-written**; `nsources` = the source plus `k` fallbacks -/
theorem resume_gen (k : Nat) (hk : 0 < k) (sub : Ctx) (cancel : Option Nat) (outs : List Outcome) (cut : Option Nat) (mode : Mode)
    (ct fuel : Nat) (hf : k + 2 ≤ fuel) :
    (onErrorResumeNextWithG (k + 1)).run { sub := sub, cancel := cancel, ct := ct, mode := mode, fuel := fuel } outs [] cut
      = (.ret, onErrorResumeNext k sub outs) := by
  have := resume_iter (k + 1) sub (k + 1) outs fuel { sub := sub, cancel := cancel, ct := ct, mode := mode, fuel := fuel }
    { v0 := Ctx.nil, v1 := none, v2 := 0 } [] 0 cut none (by simp) hf rfl
  have hk' : ¬ k = 0 := by omega
  simp only [LoopProg.run, onErrorResumeNextWithG, exec, dseq, onErrorResumeNext, hk', if_false] at this ⊢
  revert this
  generalize iterate _ _ _ _ _ = r
  obtain ⟨g, s, o⟩ := r
  rintro ⟨h1, h2⟩
  simp at h1; subst h1
  rw [← h2]
  simp only [resumeLast]
  by_cases h : s.1.v1.isSome = true <;> simp [h]

/-! ### Catch -/

/-- **Catch, regenerated = hand-written** (the fallback is subscribed from inside the error callback of the first
    subscription: the listed deviation of C15, read off the regenerated text) -/
theorem catch_gen (mode : Mode) (sub : Ctx) (cancel : Option Nat) (outs : List Outcome) (cut : Option Nat) (ct fuel : Nat) :
    catchG.run { sub := sub, cancel := cancel, ct := ct, mode := mode, fuel := fuel } outs [] cut
      = (.ret, catch_ mode sub outs) := by
  simp only [LoopProg.run, catchG, exec, dseq, playAttempt, catchG_next1, playVals_emit, catch_]
  cases hfin : (outcomeAt outs 0).fin with
  | complete => simp [catchG_complete1, exec, Outcome.nexts]
  | error e =>
    cases mode <;>
      simp [catchG_error1, exec, playForward, Outcome.nexts, outcomeAt, List.getD_eq_getElem?_getD]

/-! ### RepeatWith -/

/-- `lastCtx` after an attempt -/
def repeatLast (o : Outcome) (sub last : Ctx) : Ctx :=
  match o.fin with
  | .complete => o.finCtx sub
  | .error _ => last

theorem repeat_body (count : Nat) (sub : Ctx) (env : Env) (outs : List Outcome) (l : RepeatWithSt)
    (cs : List Bool) (a : Nat) (b : Option Nat) :
    exec env (repeatWithG_body count sub) (l, { outs := outs, conds := cs, att := a, b := b, pend := [] })
      = ((if closedB (feedB b (repeatRaw (outcomeAt outs 0) sub)) then Sig.brk else Sig.normal),
          ({ v0 := repeatLast (outcomeAt outs 0) sub l.v0, v1 := l.v1 },
            { outs := outs.tail, conds := cs, att := a + 1, b := feedB b (repeatRaw (outcomeAt outs 0) sub), pend := [] }),
          Out.ev (.s (a + 1)) :: (feedOuts (repeatRaw (outcomeAt outs 0) sub) ++ [Out.ev (.t (a + 1))])) := by
  simp only [repeatWithG_body, exec, dseq, playAttempt, repeatWithG_next1, playVals_emit]
  cases hfin : (outcomeAt outs 0).fin <;>
    simp [repeatWithG_error1, repeatWithG_complete1, exec, repeatRaw, repeatLast, hfin, Outcome.nexts, Gen.feedB_append, feedB] <;>
    split <;> simp_all [feedOuts]

theorem repeat_iter (count : Nat) (sub : Ctx) :
    ∀ (n : Nat) (outs : List Outcome) (fuel : Nat) (env : Env) (l : RepeatWithSt) (cs : List Bool) (a : Nat) (b : Option Nat),
      l.v1 + n = count → n + 1 ≤ fuel →
      let r := iterate (fun s => decide (s.v1 < count)) (exec env (.set (fun s => { s with v1 := s.v1 + 1 })))
        (exec env (repeatWithG_body count sub)) fuel (l, { outs := outs, conds := cs, att := a, b := b, pend := [] })
      r.1 = .normal ∧ Result.ofOuts (r.2.2 ++ [.raw (.complete r.2.1.1.v0)]) = repeatLoop sub n outs a b l.v0 := by
  intro n
  induction n with
  | zero =>
    intro outs fuel env l cs a b hk hf
    obtain ⟨m, rfl⟩ : ∃ m, fuel = m + 1 := ⟨fuel - 1, by omega⟩
    have : ¬ l.v1 < count := by omega
    simp only [iterate, this, decide_false, Bool.false_eq_true, if_false, repeatLoop]
    exact ⟨trivial, rfl⟩
  | succ n ih =>
    intro outs fuel env l cs a b hk hf
    obtain ⟨m, rfl⟩ : ∃ m, fuel = m + 1 := ⟨fuel - 1, by omega⟩
    have hlt : l.v1 < count := by omega
    simp only [iterate, hlt, decide_true, if_true, repeat_body, exec, repeatLoop]
    by_cases hcl : closedB (feedB b (repeatRaw (outcomeAt outs 0) sub)) = true
    · simp only [hcl, if_true, List.append_assoc, List.cons_append, List.nil_append, ofOuts_round]
      exact ⟨trivial, rfl⟩
    · have := ih outs.tail m env { v0 := repeatLast (outcomeAt outs 0) sub l.v0, v1 := l.v1 + 1 } cs (a + 1)
        (feedB b (repeatRaw (outcomeAt outs 0) sub)) (by simp; omega) (by omega)
      simp only [hcl, if_false, Bool.false_eq_true]
      refine ⟨this.1, ?_⟩
      simp only [List.append_assoc, List.cons_append, List.nil_append, ofOuts_round]
      exact congrArg _ this.2

/-- **RepeatWith (count ≥ 1; `RepeatWith(0)` is `Empty()`: `guards_as_expected`), regenerated = hand-written** -/
theorem repeat_gen (count : Nat) (hc : 0 < count) (sub : Ctx) (cancel : Option Nat) (outs : List Outcome) (cut : Option Nat)
    (mode : Mode) (ct fuel : Nat) (hf : count + 1 ≤ fuel) :
    (repeatWithG count).run { sub := sub, cancel := cancel, ct := ct, mode := mode, fuel := fuel } outs [] cut
      = (.ret, repeatWith count sub cut outs) := by
  have := repeat_iter count sub count outs fuel { sub := sub, cancel := cancel, ct := ct, mode := mode, fuel := fuel }
    { v0 := Ctx.nil, v1 := 0 } [] 0 cut (by simp) hf
  have hc' : ¬ count = 0 := by omega
  simp only [LoopProg.run, repeatWithG, exec, dseq, repeatWith, hc', if_false] at this ⊢
  revert this
  generalize iterate _ _ _ _ _ = r
  obtain ⟨g, s, o⟩ := r
  rintro ⟨h1, h2⟩
  simp at h1; subst h1
  rw [← h2]
  simp

/-! ### WhileIWithContext -/

/-- what the epilogue hands to the destination -/
def whileLast (l : WhileIWithContextSt) : List Out :=
  if l.v2.isSome then [] else [.raw (.complete l.v1)]

theorem while_body (sub : Ctx) (env : Env) (outs : List Outcome) (conds : List Bool) (l : WhileIWithContextSt)
    (a : Nat) (b : Option Nat) (he : l.v2 = none) :
    exec env (whileIWithContextG_body sub) (l, { outs := outs, conds := conds, att := a, b := b, pend := [] })
      = if conds.headD false = false then
          (.brk, ({ l with v3 := condCtx env.ct l.v1 l.v0, v4 := false },
            { outs := outs, conds := conds.tail, att := a, b := b, pend := [] }), [.eval])
        else if (finErr (outcomeAt outs 0).fin).isSome then
          (.brk, ({ v0 := l.v0 + 1, v1 := l.v1, v2 := errOf (finErr (outcomeAt outs 0).fin), v3 := condCtx env.ct l.v1 l.v0, v4 := true },
            { outs := outs.tail, conds := conds.tail, att := a + 1,
              b := feedB b ((outcomeAt outs 0).nexts (condCtx env.ct l.v1 l.v0) ++
                [.error ((outcomeAt outs 0).finCtx (condCtx env.ct l.v1 l.v0)) (goErr (errOf (finErr (outcomeAt outs 0).fin)))]), pend := [] }),
            .eval :: Out.ev (.s (a + 1)) :: (feedOuts ((outcomeAt outs 0).nexts (condCtx env.ct l.v1 l.v0) ++
                [.error ((outcomeAt outs 0).finCtx (condCtx env.ct l.v1 l.v0)) (goErr (errOf (finErr (outcomeAt outs 0).fin)))]) ++ [Out.ev (.t (a + 1))]))
        else
          (.normal, ({ v0 := l.v0 + 1, v1 := condCtx env.ct l.v1 l.v0, v2 := l.v2, v3 := condCtx env.ct l.v1 l.v0, v4 := true },
            { outs := outs.tail, conds := conds.tail, att := a + 1,
              b := feedB b ((outcomeAt outs 0).nexts (condCtx env.ct l.v1 l.v0)), pend := [] }),
            .eval :: Out.ev (.s (a + 1)) :: (feedOuts ((outcomeAt outs 0).nexts (condCtx env.ct l.v1 l.v0)) ++ [Out.ev (.t (a + 1))])) := by
  simp only [whileIWithContextG_body, exec, dseq, playAttempt, whileIWithContextG_next1, playVals_emit]
  cases hc : conds.headD false
  · simp [hc]
  · cases hfin : (outcomeAt outs 0).fin <;>
      simp [hc, hfin, he, finErr, errOf, goErr, whileIWithContextG_error1, whileIWithContextG_complete1, exec, dseq, Outcome.nexts,
        Gen.feedB_append, feedB, feedOuts]

theorem while_iter (ct : Nat) (sub : Ctx) :
    ∀ (conds : List Bool) (outs : List Outcome) (fuel : Nat) (env : Env) (l : WhileIWithContextSt) (b : Option Nat),
      conds.length + 2 ≤ fuel → env.ct = ct → l.v2 = none →
      let r := iterate (fun _ => true) (exec env .skip) (exec env (whileIWithContextG_body sub)) fuel
        (l, { outs := outs, conds := conds, att := l.v0, b := b, pend := [] })
      r.1 = .normal ∧ Result.ofOuts (r.2.2 ++ whileLast r.2.1.1) = whileLoop ct conds outs l.v1 l.v0 := by
  intro conds
  induction conds with
  | nil =>
    intro outs fuel env l b hf hct he
    obtain ⟨m, rfl⟩ : ∃ m, fuel = m + 1 := ⟨fuel - 1, by omega⟩
    simp [iterate, while_body _ _ _ _ _ _ _ he, whileLoop, whileLast, he]
  | cons c cs ih =>
    intro outs fuel env l b hf hct he
    obtain ⟨m, rfl⟩ : ∃ m, fuel = m + 1 := ⟨fuel - 1, by omega⟩
    cases c with
    | false =>
      simp [iterate, while_body _ _ _ _ _ _ _ he, whileLoop, whileLast, he]
    | true =>
      simp only [iterate, while_body _ _ _ _ _ _ _ he, whileLoop, hct, if_true, List.headD_cons, List.tail_cons, Bool.true_eq_false, if_false]
      cases hfin : (outcomeAt outs 0).fin with
      | error e =>
        simp [finErr, errOf, goErr, whileLast]
      | complete =>
        have := ih outs.tail m env
          { v0 := l.v0 + 1, v1 := condCtx ct l.v1 l.v0, v2 := l.v2, v3 := condCtx ct l.v1 l.v0, v4 := true }
          (feedB b ((outcomeAt outs 0).nexts (condCtx ct l.v1 l.v0))) (by simp at hf; omega) hct he
        simp only [finErr, Option.isSome_none, Bool.false_eq_true, if_false, exec]  at this ⊢
        refine ⟨this.1, ?_⟩
        rw [← this.2]
        simp only [List.append_assoc, List.cons_append, List.nil_append, ofOuts_eval, ofOuts_round]

/-- **WhileIWithContext (hence While, WhileI, WhileWithContext), regenerated = hand-written** -/
theorem while_gen (ct : Nat) (sub : Ctx) (cancel : Option Nat) (conds : List Bool) (outs : List Outcome) (cut : Option Nat)
    (mode : Mode) (fuel : Nat) (hf : conds.length + 2 ≤ fuel) :
    whileIWithContextG.run { sub := sub, cancel := cancel, ct := ct, mode := mode, fuel := fuel } outs conds cut
      = (.ret, while_ ct sub conds outs) := by
  have := while_iter ct sub conds outs fuel { sub := sub, cancel := cancel, ct := ct, mode := mode, fuel := fuel }
    { v0 := 0, v1 := sub, v2 := none, v3 := Ctx.nil, v4 := false } cut hf rfl rfl
  simp only [LoopProg.run, whileIWithContextG, exec, dseq, while_] at this ⊢
  revert this
  generalize iterate _ _ _ _ _ = r
  obtain ⟨g, s, o⟩ := r
  rintro ⟨h1, h2⟩
  simp at h1; subst h1
  rw [← h2]
  simp only [whileLast]
  by_cases h : s.1.v2.isSome = true <;> simp [h]

/-! ### DoWhileIWithContext -/

theorem doWhile_body (sub : Ctx) (env : Env) (outs : List Outcome) (conds : List Bool) (l : DoWhileIWithContextSt)
    (a : Nat) (b : Option Nat) (he : l.v3 = none) :
    exec env (doWhileIWithContextG_body sub) (l, { outs := outs, conds := conds, att := a, b := b, pend := [] })
      = if (finErr (outcomeAt outs 0).fin).isSome then
          (.brk, ({ v0 := l.v0, v1 := l.v1, v2 := l.v2, v3 := errOf (finErr (outcomeAt outs 0).fin), v4 := false },
            { outs := outs.tail, conds := conds, att := a + 1,
              b := feedB b ((outcomeAt outs 0).nexts l.v1 ++
                [.error ((outcomeAt outs 0).finCtx l.v1) (goErr (errOf (finErr (outcomeAt outs 0).fin)))]), pend := [] }),
            Out.ev (.s (a + 1)) :: (feedOuts ((outcomeAt outs 0).nexts l.v1 ++
                [.error ((outcomeAt outs 0).finCtx l.v1) (goErr (errOf (finErr (outcomeAt outs 0).fin)))]) ++ [Out.ev (.t (a + 1))]))
        else
          ((if conds.headD false then Sig.normal else Sig.brk),
            ({ v0 := l.v0 + 1, v1 := condCtx env.ct ((outcomeAt outs 0).finCtx l.v1) l.v0, v2 := conds.headD false, v3 := none, v4 := true },
            { outs := outs.tail, conds := conds.tail, att := a + 1, b := feedB b ((outcomeAt outs 0).nexts l.v1), pend := [] }),
            Out.ev (.s (a + 1)) :: (feedOuts ((outcomeAt outs 0).nexts l.v1) ++ [Out.eval, Out.ev (.t (a + 1))])) := by
  simp only [doWhileIWithContextG_body, exec, dseq, playAttempt, doWhileIWithContextG_next1, playVals_emit]
  cases hfin : (outcomeAt outs 0).fin
  · cases hc : conds.head?.getD false <;>
      simp [List.headD_eq_head?_getD, hc, hfin, he, finErr, errOf, goErr, doWhileIWithContextG_error1, doWhileIWithContextG_complete1, exec, dseq,
        Outcome.nexts, Gen.feedB_append, feedB, feedOuts]
  · simp [hfin, he, finErr, errOf, goErr, doWhileIWithContextG_error1, doWhileIWithContextG_complete1, exec, dseq,
      Outcome.nexts, Gen.feedB_append, feedB, feedOuts]

/-- what the epilogue hands to the destination -/
def doWhileLast (l : DoWhileIWithContextSt) : List Out :=
  if l.v3.isSome then [] else [.raw (.complete l.v1)]

theorem doWhile_iter (ct : Nat) (sub : Ctx) :
    ∀ (conds : List Bool) (outs : List Outcome) (fuel : Nat) (env : Env) (l : DoWhileIWithContextSt) (b : Option Nat),
      conds.length + 2 ≤ fuel → env.ct = ct → l.v3 = none → l.v2 = true →
      let r := iterate (fun s => s.v2) (exec env .skip) (exec env (doWhileIWithContextG_body sub)) fuel
        (l, { outs := outs, conds := conds, att := l.v0, b := b, pend := [] })
      r.1 = .normal ∧ Result.ofOuts (r.2.2 ++ doWhileLast r.2.1.1) = doWhileLoop ct conds outs l.v1 l.v0 := by
  intro conds
  induction conds with
  | nil =>
    intro outs fuel env l b hf hct he hv
    obtain ⟨m, rfl⟩ : ∃ m, fuel = m + 1 := ⟨fuel - 1, by omega⟩
    simp only [iterate, hv, if_true, doWhile_body _ _ _ _ _ _ _ he, doWhileLoop, hct]
    cases hfin : (outcomeAt outs 0).fin <;> simp [finErr, errOf, goErr, doWhileLast]
  | cons c cs ih =>
    intro outs fuel env l b hf hct he hv
    obtain ⟨m, rfl⟩ : ∃ m, fuel = m + 1 := ⟨fuel - 1, by omega⟩
    simp only [iterate, hv, if_true, doWhile_body _ _ _ _ _ _ _ he, doWhileLoop, hct]
    cases hfin : (outcomeAt outs 0).fin with
    | error e => simp [finErr, errOf, goErr, doWhileLast]
    | complete =>
      cases c with
      | false => simp [finErr, doWhileLast]
      | true =>
        have := ih outs.tail m env
          { v0 := l.v0 + 1, v1 := condCtx ct ((outcomeAt outs 0).finCtx l.v1) l.v0, v2 := true, v3 := none, v4 := true }
          (feedB b ((outcomeAt outs 0).nexts l.v1)) (by simp at hf; omega) hct rfl rfl
        simp only [finErr, Option.isSome_none, Bool.false_eq_true, if_false, if_true, List.headD_cons, List.tail_cons, exec] at this ⊢
        refine ⟨this.1, ?_⟩
        rw [← this.2]
        simp only [List.append_assoc, List.cons_append, List.nil_append, ofOuts_round_eval]

/-- **DoWhileIWithContext (hence DoWhile, DoWhileI, DoWhileWithContext), regenerated = hand-written** -/
theorem doWhile_gen (ct : Nat) (sub : Ctx) (cancel : Option Nat) (conds : List Bool) (outs : List Outcome) (cut : Option Nat)
    (mode : Mode) (fuel : Nat) (hf : conds.length + 2 ≤ fuel) :
    doWhileIWithContextG.run { sub := sub, cancel := cancel, ct := ct, mode := mode, fuel := fuel } outs conds cut
      = (.ret, doWhile ct sub conds outs) := by
  have := doWhile_iter ct sub conds outs fuel { sub := sub, cancel := cancel, ct := ct, mode := mode, fuel := fuel }
    { v0 := 0, v1 := sub, v2 := true, v3 := none, v4 := false } cut hf rfl rfl rfl
  simp only [LoopProg.run, doWhileIWithContextG, exec, dseq, doWhile] at this ⊢
  revert this
  generalize iterate _ _ _ _ _ = r
  obtain ⟨g, s, o⟩ := r
  rintro ⟨h1, h2⟩
  simp at h1; subst h1
  rw [← h2]
  simp only [doWhileLast]
  by_cases h : s.1.v3.isSome = true <;> simp [h]

/-! ### the C15 statements, for the text regenerated from the repository under check -/

open Ro.C15 Ro.Resub.Spec in
/-- Retry / RetryWithConfig as regenerated: attempts strictly one after another, the closed-form number of them, their
    values forwarded in order, the defined terminal — for every configuration, cancellation point and outcome list -/
theorem retry_conforms_gen (cfg : RetryCfg) (sub : Ctx) (cancel : Option Nat) (outs : List Outcome) (cut : Option Nat) (mode : Mode)
    (ct : Nat) :
    Conforms ((retryWithConfigG cfg.maxRetries cfg.delay cfg.reset).run
        { sub := sub, cancel := cancel, ct := ct, mode := mode, fuel := outs.length + 2 } outs [] cut).2
      outs (retryAttemptsC cfg cancel outs) (retryTerm cfg cancel outs) := by
  rw [retry_gen cfg sub cancel outs cut mode ct _ (Nat.le_refl _)]
  exact retry_conforms cfg sub cancel outs

open Ro.C15 Ro.Resub.Spec in
theorem while_conforms_gen (ct : Nat) (sub : Ctx) (cancel : Option Nat) (conds : List Bool) (outs : List Outcome) (cut : Option Nat)
    (mode : Mode) :
    Conforms (whileIWithContextG.run { sub := sub, cancel := cancel, ct := ct, mode := mode, fuel := conds.length + 2 } outs conds cut).2
      outs (whileAttempts conds outs) (termAfter outs (whileAttempts conds outs)) := by
  rw [while_gen ct sub cancel conds outs cut mode _ (Nat.le_refl _)]
  exact while_conforms ct sub conds outs

open Ro.C15 Ro.Resub.Spec in
theorem doWhile_conforms_gen (ct : Nat) (sub : Ctx) (cancel : Option Nat) (conds : List Bool) (outs : List Outcome) (cut : Option Nat)
    (mode : Mode) :
    Conforms (doWhileIWithContextG.run { sub := sub, cancel := cancel, ct := ct, mode := mode, fuel := conds.length + 2 } outs conds cut).2
      outs (doWhileAttempts conds outs) (termAfter outs (doWhileAttempts conds outs)) := by
  rw [doWhile_gen ct sub cancel conds outs cut mode _ (Nat.le_refl _)]
  exact doWhile_conforms ct sub conds outs

open Ro.C15 Ro.Resub.Spec in
theorem repeatWith_conforms_gen (count : Nat) (hc : 0 < count) (sub : Ctx) (cancel : Option Nat) (outs : List Outcome) (cut : Option Nat)
    (mode : Mode) (ct : Nat) :
    Conforms ((repeatWithG count).run { sub := sub, cancel := cancel, ct := ct, mode := mode, fuel := count + 1 } outs [] cut).2
      outs (repeatAttempts count cut outs) (termAfter outs (repeatAttempts count cut outs)) := by
  rw [repeat_gen count hc sub cancel outs cut mode ct _ (Nat.le_refl _)]
  exact repeatWith_conforms count sub cut outs

open Ro.C15 Ro.Resub.Spec in
theorem onErrorResumeNext_conforms_gen (k : Nat) (hk : 0 < k) (sub : Ctx) (cancel : Option Nat) (outs : List Outcome) (cut : Option Nat)
    (mode : Mode) (ct : Nat) :
    Conforms ((onErrorResumeNextWithG (k + 1)).run { sub := sub, cancel := cancel, ct := ct, mode := mode, fuel := k + 2 } outs [] cut).2
      outs (resumeAttempts k) (termAfter outs (resumeAttempts k)) := by
  rw [resume_gen k hk sub cancel outs cut mode ct _ (Nat.le_refl _)]
  exact onErrorResumeNext_conforms k sub outs

open Ro.C15 Ro.Resub.Spec in
/-- Catch as regenerated, outside the listed deviation class (a first attempt that fails) -/
theorem catch_conforms_partial_gen (mode : Mode) (sub : Ctx) (cancel : Option Nat) (outs : List Outcome) (cut : Option Nat) (ct fuel : Nat)
    (h : Known.catchFallback outs = false) :
    Conforms (catchG.run { sub := sub, cancel := cancel, ct := ct, mode := mode, fuel := fuel } outs [] cut).2
      outs (catchAttempts outs) (termAfter outs (catchAttempts outs)) := by
  rw [catch_gen]
  exact catch_conforms_partial mode sub outs h

/-! ### the regenerated tables -/

/-- every operator of the list was translated (a source that leaves the fragment is reported, not skipped silently) -/
theorem nothing_skipped : RoGen.Loop.skipped = [] := rfl
theorem translated_names : RoGen.Loop.translated
    = ["RetryWithConfig", "OnErrorResumeNextWith", "Catch", "DoWhileIWithContext", "WhileIWithContext", "RepeatWith"] := rfl

/-- the parameter guards in front of the subscribe functions: `RepeatWith(0)` is `Empty()` and a negative count panics
    (`repeat_gen` is stated for `0 < count`), `OnErrorResumeNextWith()` is the source itself (`resume_gen`: `0 < k`) -/
theorem guards_as_expected : RoGen.Loop.guards = [
    ("RetryWithConfig", []),
    ("OnErrorResumeNextWith", [("source", "len(finally) == 0")]),
    ("Catch", []),
    ("DoWhileIWithContext", []),
    ("WhileIWithContext", []),
    ("RepeatWith", [("panic", "count < 0"), ("empty", "count == 0")])] := rfl

/-- which observable every attempt subscribes and that the loop waits for it (the `attempt` of the statement language
    does not say which source it plays: the n-th subscription plays the n-th outcome) -/
theorem attempts_as_expected : RoGen.Loop.attempts = [
    ("RetryWithConfig", [("source", "wait")]),
    ("OnErrorResumeNextWith", [("sources[i]", "wait")]),
    ("Catch", [("finally(err)", "forward"), ("source", "nowait-last")]),
    ("DoWhileIWithContext", [("source", "wait")]),
    ("WhileIWithContext", [("source", "wait")]),
    ("RepeatWith", [("source", "wait-unregistered")])] := rfl

/-! ### tests of the regenerated programs (labelled as tests): the non-vacuity runs of RoProps/C15, on the regenerated text -/
open Ro.C15 in
example : ((retryWithConfigG 2 false true).run { sub := {}, fuel := 7 } [fail0 1, fail1 2 21, fail0 3, fail0 4, fail0 5] [] none).2.attempts = 4 := by decide +kernel
open Ro.C15 in
example : ((retryWithConfigG 0 false false).run { sub := {}, cancel := some 2, fuel := 5 } [fail0 1, fail1 2 21, fail0 3] [] none).2.log
    = [.s 1, .t 1, .s 2, .t 2] := by decide +kernel
open Ro.C15 in
example : (whileIWithContextG.run { sub := {}, fuel := 5 } [ok1 11, ok1 21, ok1 31] [true, true, false] none).2.attempts = 2 := by decide +kernel
open Ro.C15 in
example : (doWhileIWithContextG.run { sub := {}, fuel := 4 } [ok1 11, ok1 21, ok1 31] [true, false] none).2.attempts = 2 := by decide +kernel
open Ro.C15 in
example : ((repeatWithG 3).run { sub := {}, fuel := 4 } [ok1 11, ok1 21, ok1 31] [] (some 1)).2.attempts = 1 := by decide +kernel
open Ro.C15 in
example : ((onErrorResumeNextWithG 3).run { sub := {}, fuel := 4 } [fail1 1 11, ok1 21, fail0 3] [] none).2.attempts = 3 := by decide +kernel
open Ro.C15 in
example : (catchG.run { sub := {}, fuel := 0 } [fail0 1, ok1 21] [] none).2.log = [.s 1, .s 2, .t 2, .t 1] := by decide +kernel
/-- out of fuel is visible, never silently a result -/
example : ((retryWithConfigG 0 false false).run { sub := {}, fuel := 1 } [⟨[], 0, .error 1⟩, ⟨[], 0, .error 2⟩] [] none).1 = .stuck := by decide +kernel

end Ro.C15gen

#print axioms Ro.C15gen.retry_gen
#print axioms Ro.C15gen.resume_gen
#print axioms Ro.C15gen.catch_gen
#print axioms Ro.C15gen.repeat_gen
#print axioms Ro.C15gen.while_gen
#print axioms Ro.C15gen.doWhile_gen
#print axioms Ro.C15gen.retry_conforms_gen
#print axioms Ro.C15gen.while_conforms_gen
#print axioms Ro.C15gen.doWhile_conforms_gen
#print axioms Ro.C15gen.repeatWith_conforms_gen
#print axioms Ro.C15gen.onErrorResumeNext_conforms_gen
#print axioms Ro.C15gen.catch_conforms_partial_gen
#print axioms Ro.C15gen.nothing_skipped
#print axioms Ro.C15gen.translated_names
#print axioms Ro.C15gen.guards_as_expected
#print axioms Ro.C15gen.attempts_as_expected
