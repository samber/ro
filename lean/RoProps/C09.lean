/-
  C09 — context flows from Subscribe through every callback and is never nil.
  (1) `CtxSafe.run` (RoProofs/CtxFlow.lean): a machine with a certificate — an invariant saying every
      context it stores is derived from the subscription context, each reaction emitting only
      derived contexts — delivers only contexts derived from the subscription context (hence never
      nil), for every raw script whose notifications carry derived contexts and both source modes.
      One certificate per operator machine (RoProofs/Ops/CtxSpecs.lean), under the contract of
      context-returning callbacks ("returns a context derived from the one it was given").
  (2) per-item provenance: the C04 specifications carry contexts, so "the value that stems from item i
      is delivered with item i's context (or the context the callback returned for it / stored with
      it)" is part of each `…_spec` theorem; for the pure pass-through machines `…_ctx_exact`.
  (3) that the machines forward the contexts the Go code forwards is the regenerated CtxFlow fact:
      the provenance of the context expression of every `destination.*WithContext(c, …)` call and
      every upstream `SubscribeWithContext(c, …)`, decided by the kernel on every run.
  Pinned tree: `Max` on an empty source emits a nil context (`max_ctx_witness`), `DefaultIfEmpty`
  uses context.Background() (`defaultIfEmpty_background_witness`), `ToChannel` hands its channel
  out with context.TODO() (table row) — known findings replayed by the check.
-/
import RoProofs.Ops.CtxSpecs
import RoModel.FactPreds
import RoGen.Catalogue
import RoProofs.TimedDelayCtx
namespace Ro.C09
open Ro Ro.Facts

theorem certified_machine {σ α β : Type} {m : Machine σ α β} {sub : Ctx} (cs : CtxSafe m sub) (mode : SrcMode)
    (raw : List (Notif α)) (hraw : ∀ x ∈ raw, x.ctx.derivedFrom sub) :
    ∀ n ∈ (runOp m mode sub raw).out, n.ctx.derivedFrom sub ∧ n.ctx.isNil = false :=
  fun n hn => ⟨cs.run mode raw hraw n hn, (cs.run mode raw hraw n hn).1⟩

theorem table_ok : RoGen.Catalogue.table.all c09RowOk = true := by decide +kernel

/-- every context expression that is not of a good provenance is one of the listed rows -/
theorem odd_rows_listed :
    (RoGen.Catalogue.table.all fun r => r.ctxRows.all fun c => c.prov.good || knownCtxRows.contains (r.name, c.kind, c.prov)) = true :=
  table_ok

/-- no context expression is literally nil or of unknown provenance -/
theorem no_nil_no_unknown :
    (RoGen.Catalogue.table.all fun r => r.ctxRows.all fun c => c.prov != .nilCtx && c.prov != .unknown && c.prov != .background) = true := by
  -- none of the three is a good provenance, and the listed rows are `lastSeen` or `outer`
  have hk : knownCtxRows.all (fun t => t.2.2 == .lastSeen || t.2.2 == .outer) = true := by decide
  have h := odd_rows_listed
  simp only [List.all_eq_true, Bool.or_eq_true, List.contains_iff_mem, beq_iff_eq] at h hk ⊢
  intro r hr c hc
  rcases h r hr c hc with hg | hm
  · revert hg; cases c.prov <;> decide
  · rcases hk _ hm with h | h <;> simp only at h <;> rw [h] <;> decide

/-! ### time-driven operators: Delay (the queue holds (context, notification) pairs — RoProofs/TimedDelayCtx.lean) -/

/-- whatever the timers do (any number, any firing order, early ones finding the queue empty), every (context,
    notification) pair Delay delivers is a pair its source sent: no notification travels with another one's context -/
theorem delay_keeps_context {K ν : Type} (emits : List (Nat × (K × ν))) (fires : List (Nat × Nat))
    (p : Nat × (K × ν)) (hp : p ∈ Ro.Timed.delayPopsG emits fires 0) : p.2 ∈ emits.map (·.2) :=
  Ro.Timed.delay_keeps_context emits fires p hp

/-- … in order: the k-th delivery is the k-th emission, context included -/
theorem delay_kth {γ : Type} (emits : List (Nat × γ)) (fires : List (Nat × Nat)) (k : Nat) (p : Nat × γ)
    (hk : (Ro.Timed.delayPopsG emits fires 0)[k]? = some p) : ∃ e, emits[k]? = some e ∧ e.2 = p.2 :=
  Ro.Timed.delay_kth emits fires k p hk

/-- the timed model the C16 theorems are about is the instance "payload = notification" of the same pop sequence -/
theorem delay_model_is_instance (emits : List (Nat × Ro.Timed.TN)) (fires : List (Nat × Nat)) :
    Ro.Timed.delayPops emits fires 0 = (Ro.Timed.delayPopsG emits fires 0).map (fun p => Ro.Timed.Ev.at p.1 p.2) :=
  Ro.Timed.delayPops_eq emits fires 0

end Ro.C09

#print axioms Ro.C09.certified_machine
#print axioms Ro.C09.table_ok
#print axioms Ro.C09.odd_rows_listed
#print axioms Ro.C09.no_nil_no_unknown
#print axioms Ro.C09.delay_keeps_context
#print axioms Ro.C09.delay_kth
#print axioms Ro.C09.delay_model_is_instance
#print axioms Ro.Timed.timerCtx_witness
#print axioms Ro.CtxSafe.run
#print axioms Ro.all_ctx
#print axioms Ro.bufferCount_ctx
#print axioms Ro.clamp_ctx
#print axioms Ro.contains_ctx
#print axioms Ro.count_ctx
#print axioms Ro.defaultIfEmpty_ctx
#print axioms Ro.dematerialize_ctx
#print axioms Ro.distinctBy_ctx
#print axioms Ro.distinctBy_ctx_exact
#print axioms Ro.elementAtOrDefault_ctx
#print axioms Ro.elementAt_ctx
#print axioms Ro.empty_ctx
#print axioms Ro.endWith_ctx
#print axioms Ro.filter_ctx
#print axioms Ro.filter_ctx_exact
#print axioms Ro.find_ctx
#print axioms Ro.first_ctx
#print axioms Ro.flatten_ctx
#print axioms Ro.head_ctx
#print axioms Ro.id_ctx
#print axioms Ro.id_ctx_exact
#print axioms Ro.ignoreElements_ctx
#print axioms Ro.last_ctx
#print axioms Ro.mapErr_ctx
#print axioms Ro.mapTo_ctx
#print axioms Ro.map_ctx
#print axioms Ro.materialize_ctx
#print axioms Ro.max_ctx_partial
#print axioms Ro.max_ctx_witness
#print axioms Ro.min_ctx
#print axioms Ro.onErrorReturn_ctx
#print axioms Ro.pairwise_ctx
#print axioms Ro.reduce_ctx
#print axioms Ro.scan_ctx
#print axioms Ro.skipLast_ctx
#print axioms Ro.skipWhile_ctx
#print axioms Ro.skip_ctx
#print axioms Ro.skip_ctx_exact
#print axioms Ro.startWith_ctx
#print axioms Ro.sum_ctx
#print axioms Ro.tail_ctx
#print axioms Ro.takeLast_ctx
#print axioms Ro.takeWhile_ctx
#print axioms Ro.take_ctx
#print axioms Ro.take_ctx_exact
#print axioms Ro.throwIfEmpty_ctx
#print axioms Ro.toMap_ctx
#print axioms Ro.toSlice_ctx
#print axioms Ro.defaultIfEmpty_background_witness
#print axioms Ro.defaultIfEmpty_background_not_allFrom
