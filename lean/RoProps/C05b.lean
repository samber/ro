/-
  C05 (second half) — multi-source operators honour every arrival order of their inputs:
  Zip*/ZipAll, CombineLatest*/CombineLatestAll, ConcatAll/Concat/ConcatWith/FlatMap*, BufferWhen,
  WindowWhen, GroupBy*.

  Model: RoModel/MultiB/*.lean — `run m scripts order`: hot sources with the given scripts, `order`
  says which source notifies next, every notification is processed to quiescence; per-source
  upstream gates, subscribe / unsubscribe control, downstream gate. Specification:
  RoModel/Spec/MultiB.lean — functions of the *arrivals* (`arrivals scripts order`).
  Every theorem below is for EVERY tuple of source scripts and EVERY interleaving `order : List Nat`
  (no bound on lengths, on the number of sources where the operator has an arity, or on values).

  Proved in full:   zip, zipAll, combineLatest, combineLatestAll, concat (delivered trace and which
                    sources are subscribed), bufferWhen, windowWhen, groupBy whenever no recorder is late.
  (zip, zipAll, concat's subscriptions and groupBy's error case were `_partial` on the pinned tree;
   the deviations were repaired in /repo by b6f7afa, 655488e, 808ed47, 85e48d9 and the models follow.)
  Still `_partial`, the excluded class witnessed (known finding, replayed on the real code):
   * groupBy        — `Known.groupByLate`: a recorder subscribing after the source ended loses the
                      queued values (the unicast subject's behaviour is pinned by an Example test).
  Corollaries: grammar of every delivered trace (`run_grammar`, any machine); a delivered terminal
  releases every source (`run_released`, `concat_released`); per-source order /
  no loss / no duplication (`zip_component_prefix`, `concat_values_sublist`, `bufferWhen_partition`,
  `bufferWhen_prefix`; for groupBy and windowWhen it is the shape of the specification itself).

  True concurrency (last sentence of C05): micro-step models (RoModel/MultiB/Micro.lean: threads =
  sources, one transition per critical section / atomic operation / destination call) of Zip,
  CombineLatest, BufferWhen, WindowWhen; the clause FAILS for all four — witness theorems
  `Micro.*_concurrent_*_witness` below (a schedule whose delivered trace is the specification's value
  for no compatible arrival order; for Zip a lost tuple and a reordering — its self-deadlock and the
  error overtaken by `Complete` are repaired: `Micro.zip_concurrent_error_scenario_ok`). The stress runs of
  harness kind `multibc` find the same outcomes on the real code and check that every outcome the
  real code shows is reachable in the micro-step model. ConcatAll and GroupBy have a single feeder
  at any time (the outer source is blocked in `Wait`; GroupBy has one source), so the clause is
  vacuous for them.
-/
import RoProofs.MultiB.Core
import RoProofs.MultiB.Arrivals
import RoProofs.MultiB.BufferWhen
import RoProofs.MultiB.WindowWhen
import RoProofs.MultiB.CombineLatest
import RoProofs.MultiB.Zip
import RoProofs.MultiB.All
import RoProofs.MultiB.Concat
import RoProofs.MultiB.GroupBy
import RoProofs.MultiB.Corollaries
import RoProofs.MultiB.ZipCorollaries
import RoProofs.MultiB.MicroWitness
namespace Ro.C05b
open Ro Ro.MultiB

/-! ### the statements, restated so that they cannot drift silently -/

theorem zip {α : Type} (n : Nat) (hn : 0 < n) (scripts : List (List (Ev α))) (hlen : scripts.length ≤ n) (order : List Nat) :
    (run (zipM n) scripts order).out = Spec.zip n (arrivals (scriptsFn scripts) order) :=
  zip_spec n hn scripts hlen order

theorem zipAll {α : Type} (n : Nat) (outer : OuterEnd) (scripts : List (List (Ev α))) (hlen : scripts.length ≤ n) (order : List Nat) :
    (run (zipAllM n outer) scripts order).out = Spec.zipAll n outer (arrivals (scriptsFn scripts) order) :=
  zipAll_spec n outer scripts hlen order

theorem combineLatest {α : Type} (n : Nat) (hn : 0 < n) (scripts : List (List (Ev α))) (hlen : scripts.length ≤ n) (order : List Nat) :
    (run (combineLatestM n) scripts order).out = Spec.combineLatest n (arrivals (scriptsFn scripts) order) :=
  combineLatest_spec n hn scripts hlen order

theorem concat {α : Type} (n : Nat) (outer : OuterEnd) (scripts : List (List (Ev α))) (hlen : scripts.length ≤ n) (order : List Nat) :
    (run (concatM n outer) scripts order).out = Spec.concat n outer (arrivals (scriptsFn scripts) order) :=
  concat_spec n outer scripts order

theorem concatSubscriptions {α : Type} (n : Nat) (outer : OuterEnd) (scripts : List (List (Ev α))) (hlen : scripts.length ≤ n) (order : List Nat) (j : Nat) :
    (run (concatM n outer) scripts order).subs j = if Spec.concatSubscribed n (arrivals (scriptsFn scripts) order) j then 1 else 0 :=
  concat_subs n outer scripts order j

theorem bufferWhen {α : Type} (scripts : List (List (Ev α))) (hlen : scripts.length ≤ 2) (order : List Nat) :
    (run bufferWhenM scripts order).out = Spec.bufferWhen (arrivals (scriptsFn scripts) order) :=
  bufferWhen_spec scripts hlen order

theorem windowWhen {α : Type} (scripts : List (List (Ev α))) (hlen : scripts.length ≤ 2) (order : List Nat) :
    viewOut (run windowWhenM scripts order).m.wins (run windowWhenM scripts order).out
      = Spec.windowWhen (arrivals (scriptsFn scripts) order) :=
  windowWhen_spec scripts hlen order

theorem groupBy {α κ : Type} [DecidableEq κ] (key : α → Nat → κ) (delay : Nat)
    (scripts : List (List (Ev α))) (hlen : scripts.length ≤ 1) (order : List Nat)
    (h1 : Known.groupByLate delay (arrivals (scriptsFn scripts) order) = false) :
    viewOut ((run (groupByM key delay) scripts order).m.groups.map (·.2)) (run (groupByM key delay) scripts order).out
      = Spec.groupBy key (arrivals (scriptsFn scripts) order) :=
  groupBy_spec_partial key delay scripts hlen order h1

/-- error (any terminal) ends the output at once and releases the others — for every all-hot machine -/
theorem released {σ α β : Type} (m : Machine σ α β) (h : AllHot m) (scripts : List (List (Ev α))) (hlen : scripts.length ≤ m.n)
    (order : List Nat) (hterm : hasTerm (run m scripts order).out = true) (j : Nat) :
    (run m scripts order).status j ≠ .live :=
  run_released m h scripts hlen order hterm j

/-! ### witnesses -/

/-- documentation-level (C04): BufferWhen's doc comment promises a flush when the source errors;
    the code forwards the error at once — which is what C05 asks for ("ends the output at once"). -/
theorem bufferWhen_error_no_flush :
    (run (bufferWhenM (α := Int)) [[.next 1, .error (.user 1)], []] [0, 0]).out = [.error (.user 1)] := by decide +kernel

/-! ### non-vacuity: the hypotheses are satisfiable and the statements say something -/

-- the inputs of the repaired deviations satisfy the specifications
example : (run (zipM 2) [[Ev.next (1:Int), .next 2, .complete], [.next 3, .next 4]] [0, 0, 0, 1, 1]).out
    = [.next [1, 3], .next [2, 4], .complete] := by decide
example : (run (zipAllM 2 .complete) [[Ev.next (1:Int)], [.next 2]] [0, 1]).out = [.next [1, 2]] := by decide
example : (run (zipM 2) [[Ev.next (1:Int), .next 2, .complete], [.next 3, .next 4, .complete]] [0, 1, 0, 1, 0, 1]).out
    = [.next [1, 3], .next [2, 4], .complete] := by decide
example : (run (zipM 3) [[Ev.next (1:Int), .next 2], [.next 3], [.next 5, .error (.user 9)]] [2, 0, 1, 0, 2]).out
    = [.next [1, 3, 5], .error (.user 9)] := by decide
example : (run (combineLatestM 2) [[Ev.next (1:Int), .next 2, .complete], [.next 3, .next 4, .complete]] [0, 1, 0, 1, 0, 1]).out
    = [.next [1, 3], .next [2, 3], .next [2, 4], .complete] := by decide
example : Spec.combineLatest 2 (arrivals (scriptsFn [[Ev.next (1:Int), .next 2, .complete], [.next 3, .next 4, .complete]]) [0, 1, 0, 1, 0, 1])
    = [.next [1, 3], .next [2, 3], .next [2, 4], .complete] := by decide
example : (run (concatM 2 .complete) [[Ev.next (1:Int), .complete], [.next 3, .next 4, .complete]] [1, 0, 0, 1, 1]).out
    = [.next 1, .next 4, .complete] := by decide
example : (run bufferWhenM [[Ev.next (1:Int), .next 2, .next 3, .complete], [.next 0, .next 0]] [0, 1, 0, 0, 1, 0]).out
    = [.next [1], .next [2, 3], .next [], .complete] := by decide
example : Spec.bufferWhen (arrivals (scriptsFn [[Ev.next (1:Int), .next 2, .next 3, .complete], [.next 0, .next 0]]) [0, 1, 0, 0, 1, 0])
    = [.next [1], .next [2, 3], .next [], .complete] := by decide

end Ro.C05b

#print axioms Ro.C05b.zip
#print axioms Ro.C05b.zipAll
#print axioms Ro.C05b.concatSubscriptions
#print axioms Ro.C05b.combineLatest
#print axioms Ro.C05b.concat
#print axioms Ro.C05b.bufferWhen
#print axioms Ro.C05b.windowWhen
#print axioms Ro.C05b.groupBy
#print axioms Ro.C05b.released
#print axioms Ro.C05b.bufferWhen_error_no_flush
#print axioms Ro.MultiB.runCore_abs
#print axioms Ro.MultiB.run_grammar
#print axioms Ro.MultiB.zip_spec
#print axioms Ro.MultiB.zip_component_prefix
#print axioms Ro.MultiB.zipAll_spec
#print axioms Ro.MultiB.combineLatest_spec
#print axioms Ro.MultiB.combineLatestAll_spec
#print axioms Ro.MultiB.concat_spec
#print axioms Ro.MultiB.concat_subs
#print axioms Ro.MultiB.concat_released
#print axioms Ro.MultiB.concat_values_sublist
#print axioms Ro.MultiB.bufferWhen_spec
#print axioms Ro.MultiB.bufferWhen_partition
#print axioms Ro.MultiB.bufferWhen_prefix
#print axioms Ro.MultiB.windowWhen_spec
#print axioms Ro.MultiB.groupBy_spec_partial
#print axioms Ro.MultiB.groupBy_late_witness
#print axioms Ro.MultiB.Micro.zip_concurrent_lost_tuple_witness
#print axioms Ro.MultiB.Micro.zip_concurrent_error_scenario_ok
#print axioms Ro.MultiB.Micro.zip_concurrent_complete_scenario_outcomes
#print axioms Ro.MultiB.groupBy_spec_eager
#print axioms Ro.MultiB.Micro.zip_concurrent_reorder_witness
#print axioms Ro.MultiB.Micro.combineLatest_concurrent_duplicate_witness
#print axioms Ro.MultiB.Micro.bufferWhen_concurrent_lost_buffer_witness
#print axioms Ro.MultiB.Micro.windowWhen_concurrent_lost_value_witness
