/-
  C18 — data plugins are faithful lifts of the functions they wrap.

  (F) `plugins_table`: the `Plugins` table regenerated from the working tree by go/extract EQUALS
      the hand-maintained expectation (lift kind, wrapped callee with import path, which
      parameter at which position, constants). `helpers_agree`: the unexported helpers of
      plugins/strings and plugins/bytes have the same flavour-erased body, except `ellipsis` and
      `words` whose bodies are pinned.
  (a) `lift_map`, `lift_mapErr`, `lift_filter`: for ANY wrapped function, every raw source script,
      both source modes: the delivered stream is the function applied item by item, each result
      with the context of its item, ending at the first error, else with the source's ending.
  (b) modelled functions: base64 (4 encodings) `decode (encode bs) = some bs` for all byte lists;
      `Atoi ∘ Itoa = id` on every 64-bit int (and ErrRange outside: the bound is sharp);
      `ParseBool ∘ FormatBool = id`; `Ellipsis`: string and byte flavour return the same text for
      every input and the byte helper never writes the caller's array (slice/heap model); sort:
      Go's insertion sort (what sort.Slice runs for ≤ 12 elements) IS the stable sort, any
      sorted permutation has the same key sequence as the stable sort, `Sort*` machines deliver
      `sorter(values)` with the terminal's context, `SortStableFunc` (sort.SliceStable) delivers
      the stable sort; `NewIOReader`: for every script of Read results the chunks are the data of
      the reads (none is touched later), their concatenation is everything produced.
  (c) regexp, templates, JSON, gob, CSV, time, Unicode case mapping are uninterpreted: for those the
      theorem is (a) instantiated by the table row — the plugin adds nothing to the function.

  Repaired in /repo: the deviations found by this slice (SortStableFunc = sort.Slice, robytes.ellipsis appending
  in place, robytes.words ranging over bytes, NewIOReader handing out windows of one buffer and
  dropping data that came with an error, Random with a one-rune charset;
  f5a4b6b, 740a09d, 214bd3e, ef635f4, 5b7f423); the models and the expected table describe the
  repaired code. Still open: robytes.words
  on text that is not valid UTF-8 (pinned by the existing tests; flavours differ there).
-/
import RoGen.Plugins
import RoProps.C18Expected
import RoProofs.Plugins.Lift
import RoProofs.Plugins.Base64
import RoProofs.Plugins.Strconv
import RoProofs.Plugins.Text
import RoProofs.Plugins.Sort
import RoProofs.Plugins.Reader
namespace Ro.C18
open Ro Ro.Plugins Ro.PluginFacts

/-! ### (F) the regenerated table -/

/-- nothing the extractor did not recognise (`?…` marks an unknown construct, `.other` an unknown lift) -/
def rowKnown (r : Row) : Bool := r.lift != .other && !r.unknown

theorem plugins_table : RoGen.Plugins.table = Expected.table := by decide

theorem plugins_rows_recognised : Expected.table.all rowKnown = true := by decide

def helperOf (pkg name : Txt) : Option Helper :=
  RoGen.Plugins.helpers.find? (fun h => h.pkg == pkg && h.name == name)

/-- same flavour-erased body, or one of the listed differences -/
def helperOk (name : Txt) : Bool :=
  match helperOf (txt% "strings") name, helperOf (txt% "bytes") name with
  | some s, some b => s.norm == b.norm || Expected.helperDiffs.contains (name, s.norm, b.norm)
  | _, _ => false

def helperNames (pkg : Txt) : List Txt :=
  (RoGen.Plugins.helpers.filter (fun h => h.pkg == pkg)).map (·.name)

theorem helpers_agree :
    helperNames (txt% "strings") = helperNames (txt% "bytes") ∧ (helperNames (txt% "strings")).all helperOk = true := by decide

/-- which helper pairs may differ at all -/
theorem helper_diffs_only : Expected.helperDiffs.map (·.1) = [txt% "ellipsis", txt% "words"] := by decide

def bodyOf (t : List Row) (plugin name : Txt) : Option (List Txt) :=
  (t.find? (fun r => r.plugin == plugin && r.name == name)).map (·.body)

/-- `SortStableFunc` calls sort.SliceStable, `SortFunc` and `Sort` call sort.Slice -/
theorem sortStableFunc_calls_sliceStable :
    (bodyOf Expected.table (txt% "sort") (txt% "SortStableFunc")).map (·[3]?)
      = some (some (txt% "sort.SliceStable($l0, func($l3, $l4) { return $p0($l0[$l3], $l0[$l4]) < 0 })")) ∧
    (bodyOf Expected.table (txt% "sort") (txt% "SortFunc")).map (·[3]?)
      = some (some (txt% "sort.Slice($l0, func($l3, $l4) { return $p0($l0[$l3], $l0[$l4]) < 0 })")) ∧
    bodyOf Expected.table (txt% "sort") (txt% "Sort") = bodyOf Expected.table (txt% "sort") (txt% "SortFunc") := by
  decide

/-! ### (a) parametric lifts -/

theorem lift_map {α β : Type} (f : α → β) (mode : SrcMode) (sub : Ctx) (raw : List (Notif α)) :
    (runOp (liftMap f) mode sub raw).out = liftMapSpec f (values raw) (ending raw) := by
  unfold liftMap
  rw [map_spec]
  unfold Spec.map liftMapSpec
  rw [zipIdx_map_fst' (values raw) (fun p => Notif.next p.1 (f p.2))]

theorem lift_mapErr {α β : Type} (f : α → β × Option Err) (mode : SrcMode) (sub : Ctx) (raw : List (Notif α)) :
    (runOp (liftMapErr f) mode sub raw).out = liftMapErrSpec f (values raw) (ending raw) := by
  unfold liftMapErr
  rw [mapErr_spec]
  unfold Spec.mapErr
  exact mapErr_as_rec f (values raw) (ending raw) 0

theorem lift_filter {α : Type} (p : α → Bool) (mode : SrcMode) (sub : Ctx) (raw : List (Notif α)) :
    (runOp (liftFilter p) mode sub raw).out = liftFilterSpec p (values raw) (ending raw) := by
  unfold liftFilter
  rw [filter_spec]
  unfold Spec.filter liftFilterSpec
  rw [zipIdx_filter_map_fst' (values raw) (fun q => p q.2) (fun q => Notif.next q.1 q.2)]

/-- encode-then-decode is the identity on streams whenever the library pair is inverse -/
theorem lift_roundtrip {α β : Type} (enc : α → β) (dec : β → α × Option Err) (h : ∀ x, dec (enc x) = (x, none))
    (vs : List (Ctx × α)) (e : Ending) :
    liftMapErrSpec dec (vs.map (fun p => (p.1, enc p.2))) e = vs.map (fun p => Notif.next p.1 p.2) ++ e.toList := by
  induction vs with
  | nil => simp [liftMapErrSpec]
  | cons p ps ih => simp [liftMapErrSpec, h, ih]

/-! ### (b) modelled functions -/

theorem base64_roundtrip (e : Base64.Enc) (bs : List UInt8) :
    Base64.decode e (Base64.encode e (bs.map UInt8.toNat)) = some (bs.map UInt8.toNat) :=
  Base64.decode_encode e _ (Base64.isBytes_map_toNat bs)

theorem atoi_itoa (n : Int) (hlo : -9223372036854775808 ≤ n) (hhi : n < 9223372036854775808) :
    Strconv.atoi (Strconv.itoa n) = .ok n := Strconv.atoi_itoa n hlo hhi

theorem atoi_itoa_out_of_range (n : Int) (h : 9223372036854775808 ≤ n ∨ n < -9223372036854775808) :
    Strconv.atoi (Strconv.itoa n) = .error .range := by
  cases h with
  | inl h => exact Strconv.atoi_itoa_above n h
  | inr h => exact Strconv.atoi_itoa_below n h

theorem parseBool_formatBool (b : Bool) : Strconv.parseBool (Strconv.formatBool b) = some b := by
  cases b <;> decide

/-- string and byte flavour of `Ellipsis` return the same text, for every heap, window, length -/
theorem ellipsis_flavours_agree (h : Bytes) (s : Text.Slice) (n : Int) (hv : s.Valid h) :
    (Text.ellipsisB h s n).2.view h = Text.ellipsis (s.view h) n := by
  cases hts : Text.trimSpaceS h s with
  | fresh bs => exact absurd hts (Text.trimSpaceS_ne_fresh h s bs)
  | nil =>
    have h0 : Text.trimSpace (s.view h) = [] := by rw [← Text.trimSpaceS_view, hts]; rfl
    rw [Text.ellipsis_of_nil _ _ h0]
    simp only [Text.ellipsisB, hts]
    split <;> rfl
  | window t =>
    obtain ⟨htv, -, -, -, hlen, -, hview⟩ := Text.trimSpaceS_window h s t hv hts
    simp only [Text.ellipsisB, hts, Text.ellipsis, ← hlen]
    split
    · next hgt =>
      split
      · rfl
      · obtain ⟨-, hpview⟩ := Text.prefix_facts h t n htv hgt
        show (Text.trimSpaceS h (t.prefix (n - 3).toNat)).view h ++ Text.dots = _
        rw [hpview, hview]
    · exact hview

/-- the byte helper never writes the caller's array: every heap, window (valid or not), length -/
theorem ellipsis_input_untouched (h : Bytes) (s : Text.Slice) (n : Int) : (Text.ellipsisB h s n).1 = h := by
  unfold Text.ellipsisB
  split
  · split
    · split <;> rfl
    · rfl
  · split <;> rfl

/-- what it returns is nil, a fresh array, or a sub-window of the input window -/
theorem ellipsis_result_inside (h : Bytes) (s w : Text.Slice) (n : Int) (hv : s.Valid h)
    (hw : (Text.ellipsisB h s n).2 = .window w) : w.Valid h ∧ s.off ≤ w.off ∧ w.off + w.len ≤ s.off + s.len := by
  cases hts : Text.trimSpaceS h s with
  | fresh bs => exact absurd hts (Text.trimSpaceS_ne_fresh h s bs)
  | nil =>
    simp only [Text.ellipsisB, hts] at hw
    split at hw <;> cases hw
  | window t =>
    obtain ⟨htv, hoff, hin, -, -, -, -⟩ := Text.trimSpaceS_window h s t hv hts
    simp only [Text.ellipsisB, hts] at hw
    split at hw
    · split at hw <;> cases hw
    · cases hw
      exact ⟨htv, hoff, hin⟩

/-- Go's insertion sort (sort.Slice up to 12 elements) is the stable sort -/
theorem sort_small_is_stable {α : Type} (big : List α → List α) (lt : α → α → Bool)
    (trans : ∀ a b c, Sort.leOf lt a b → Sort.leOf lt b c → Sort.leOf lt a c)
    (total : ∀ a b, (Sort.leOf lt a b || Sort.leOf lt b a) = true) (l : List α) (h : l.length ≤ 12) :
    Sort.sortSlice big lt l = Sort.stableSort lt l := Sort.sortSlice_small big lt trans total l h

/-- whatever the large-input algorithm is, if it returns a sorted permutation so does `sort.Slice` -/
theorem sort_sorted_perm {α : Type} (big : List α → List α) (lt : α → α → Bool)
    (trans : ∀ a b c, Sort.leOf lt a b → Sort.leOf lt b c → Sort.leOf lt a c)
    (total : ∀ a b, (Sort.leOf lt a b || Sort.leOf lt b a) = true)
    (hbig : ∀ l, (big l).Perm l ∧ (big l).Pairwise (fun a b => !lt b a)) (l : List α) :
    (Sort.sortSlice big lt l).Perm l ∧ (Sort.sortSlice big lt l).Pairwise (fun a b => !lt b a) :=
  Sort.sortSlice_perm_sorted big lt trans total hbig l

/-- the stable sort is sorted, a permutation, and keeps equivalent elements in input order -/
theorem stable_sort_spec {α : Type} (lt : α → α → Bool)
    (trans : ∀ a b c, Sort.leOf lt a b → Sort.leOf lt b c → Sort.leOf lt a c)
    (total : ∀ a b, (Sort.leOf lt a b || Sort.leOf lt b a) = true) (l : List α) :
    (Sort.stableSort lt l).Perm l ∧ (Sort.stableSort lt l).Pairwise (fun a b => !lt b a) ∧
    ∀ a, (Sort.stableSort lt l).filter (fun b => !lt a b && !lt b a) = l.filter (fun b => !lt a b && !lt b a) :=
  ⟨Sort.stableSort_perm lt l, Sort.stableSort_sorted trans total l, Sort.stableSort_stable lt trans total l⟩

/-- the check's projection for `Sort`/`SortFunc` above 12 elements: every sorted permutation has
    the key sequence of the stable sort -/
theorem sort_keys_determined {α : Type} (key : α → Int) (big : List α → List α)
    (hbig : ∀ l, (big l).Perm l ∧ (big l).Pairwise (fun a b => !Sort.keyLt key b a)) (l : List α) :
    (Sort.sortSlice big (Sort.keyLt key) l).map key = (Sort.stableSort (Sort.keyLt key) l).map key :=
  Sort.sortSlice_keys_eq key big hbig l

/-- the three `Sort*` operators as machines: the sorter applied to the collected values, every
    value and the completion carrying the completion's context; a source error is forwarded alone -/
theorem sort_operator {α : Type} (sorter : List α → List α) (mode : SrcMode) (sub : Ctx) (raw : List (Notif α)) :
    (runOp (Sort.sortM sorter) mode sub raw).out = Sort.sortSpec sorter (values raw) (ending raw) :=
  Sort.sort_spec sorter mode sub raw

/-- `SortStableFunc` (sort.SliceStable, modelled by the stable sort): for every comparison that is a
    total preorder, every raw script, the machine delivers the values sorted, as a permutation,
    with equivalent values in their input order — all with the completion's context -/
theorem sortStableFunc_stable {α : Type} (lt : α → α → Bool)
    (trans : ∀ a b c, Sort.leOf lt a b → Sort.leOf lt b c → Sort.leOf lt a c)
    (total : ∀ a b, (Sort.leOf lt a b || Sort.leOf lt b a) = true)
    (mode : SrcMode) (sub : Ctx) (raw : List (Notif α)) :
    (runOp (Sort.sortM (Sort.stableSort lt)) mode sub raw).out = Sort.sortSpec (Sort.stableSort lt) (values raw) (ending raw) ∧
    ∀ l, (Sort.stableSort lt l).Perm l ∧ (Sort.stableSort lt l).Pairwise (fun a b => !lt b a) ∧
      ∀ a, (Sort.stableSort lt l).filter (fun b => !lt a b && !lt b a) = l.filter (fun b => !lt a b && !lt b a) :=
  ⟨Sort.sort_spec _ mode sub raw, fun l => stable_sort_spec lt trans total l⟩

/-- concatenation of the emitted chunks = the bytes the reader produced: EVERY script of Read
    results, data returned together with an error included -/
theorem reader_concat (script : List Reader.Read) :
    (Reader.runIOReader script).chunks.flatten = Reader.produced script := by
  simp [Reader.runIOReader, Reader.ioReader_chunks, Reader.handedOn_flatten]

/-- every chunk is a fresh array holding exactly the data of its read: what an observer keeps is
    not changed by later reads into the buffer -/
theorem reader_retained (script : List Reader.Read) :
    (Reader.runIOReader script).chunks = Reader.handedOn script := by
  simp [Reader.runIOReader, Reader.ioReader_chunks]

/-- Complete iff the first error is io.EOF, Error otherwise -/
theorem reader_terminal (script : List Reader.Read) :
    (Reader.runIOReader script).term = Reader.termOf script := Reader.ioReader_term _ script rfl

-- non-vacuity of the table theorems: the generated table is not empty and a changed row is rejected
example : RoGen.Plugins.table.length = 72 := by decide
def exRow (body : Txt) : Row :=
  { plugin := txt% "strconv", name := txt% "ParseInt", params := [txt% "int", txt% "int"], lift := .mapErr, setup := [], body := [body] }
-- a constant where the parameter should be; a Map where a MapErr should be
example : [exRow (txt% "return strconv.ParseInt($v, 10, $p1)")] ≠ [exRow (txt% "return strconv.ParseInt($v, $p0, $p1)")] := by decide
example : [{ exRow (txt% "return strconv.ParseInt($v, $p0, $p1)") with lift := .map }] ≠
    [exRow (txt% "return strconv.ParseInt($v, $p0, $p1)")] := by decide
example : (txt% "ab") = 1 * 256 * 256 + 97 * 256 + 98 := by decide

end Ro.C18

#print axioms Ro.C18.plugins_table
#print axioms Ro.C18.plugins_rows_recognised
#print axioms Ro.C18.helpers_agree
#print axioms Ro.C18.helper_diffs_only
#print axioms Ro.C18.sortStableFunc_calls_sliceStable
#print axioms Ro.C18.lift_map
#print axioms Ro.C18.lift_mapErr
#print axioms Ro.C18.lift_filter
#print axioms Ro.C18.lift_roundtrip
#print axioms Ro.C18.base64_roundtrip
#print axioms Ro.C18.atoi_itoa
#print axioms Ro.C18.atoi_itoa_out_of_range
#print axioms Ro.C18.parseBool_formatBool
#print axioms Ro.C18.ellipsis_flavours_agree
#print axioms Ro.C18.ellipsis_input_untouched
#print axioms Ro.C18.ellipsis_result_inside
#print axioms Ro.C18.sort_small_is_stable
#print axioms Ro.C18.sort_sorted_perm
#print axioms Ro.C18.stable_sort_spec
#print axioms Ro.C18.sort_keys_determined
#print axioms Ro.C18.sort_operator
#print axioms Ro.C18.sortStableFunc_stable
#print axioms Ro.C18.reader_concat
#print axioms Ro.C18.reader_retained
#print axioms Ro.C18.reader_terminal
