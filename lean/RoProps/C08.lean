/-
  C08 — backpressure: Next returns after downstream is done; queues are bounded FIFO.

  This file holds the HAND-OFF half (the synchronous half — per-step delivery counts of every
  synchronous operator and chain — is added by the integrator).

  ## hand-off

  `ObserveOn` / `SubscribeOn` (= `detachOn`, operator_utility.go:577-653) and `ToChannel`
  (operator_sink.go:118-181) as the `Pipe` transition system of RoModel/Chan.lean: a FIFO of
  capacity `cap`, a producer thread (the observer handed to the source: `ch <- n`, after a
  terminal `stop()`), a consumer thread (`for n := range ch { deliver n }`), and the thread that
  unsubscribes. Every theorem quantifies over every capacity (0 included — ToChannel allows it),
  both flavours, both source modes, every raw script (legal or not) and every schedule
  `List Tid` of the three threads; a consumer of arbitrary slowness, or one that stops, is a
  schedule in which `cons` is rare or absent.
-/
import RoProofs.Chan
import RoProofs.ChanShape
namespace Ro.C08
open Ro Ro.Chan

section handoff
variable {α : Type}

/-- FIFO without loss: at every reachable state
      what entered the producer's callbacks = sent ++ failed ++ (in the producer's hand)
      sent = consumed ++ (in the consumer's hand) ++ queued
    and what entered is a prefix of the gated script -/
theorem handoff_fifo (cfg : Cfg) (raw : List (Notif α)) (sched : List Tid) :
    let s := run cfg (init cfg raw) sched
    s.sent = s.got ++ chold s.cpc ++ s.q ∧ s.entered = s.sent ++ s.fails ++ hand s.ppc ∧
    (∃ t, s.entered ++ t = gate raw) ∧ s.q.length ≤ cfg.cap :=
  let h := inv_run cfg raw sched
  ⟨h.fifo, h.flow, h.pre, h.room⟩

/-- the consumer sees the producer's notifications in order, none missing; the terminal is last -/
theorem handoff_order (cfg : Cfg) (raw : List (Notif α)) (sched : List Tid) :
    let s := run cfg (init cfg raw) sched
    (∃ t, s.got ++ t = gate raw) ∧ (∀ l r x, s.got = l ++ x :: r → x.isTerminal = true → r = []) :=
  ⟨got_prefix (inv_run cfg raw sched), got_terminal_last (inv_run cfg raw sched)⟩

/-- ObserveOn / SubscribeOn: the final observer gets a prefix of the gated script; as long as
    nobody unsubscribed, exactly what the consumer loop has handled -/
theorem detach_delivery (cap : Nat) (hot : Bool) (raw : List (Notif α)) (sched : List Tid) :
    let cfg : Cfg := { cap := cap, hot := hot }
    let s := run cfg (init cfg raw) sched
    (∃ t, s.out ++ t = gate raw) ∧ (early s = true → s.out = s.got) :=
  ⟨out_prefix (inv_run _ raw sched), (inv_run _ raw sched).earlyOut rfl⟩

/-- no deadlock and no loss: nobody unsubscribed and neither goroutine can move ⇒ the final
    observer has received exactly the gated script (every queued value, then the terminal) -/
theorem detach_complete (cap : Nat) (hot : Bool) (raw : List (Notif α)) (sched : List Tid) :
    let cfg : Cfg := { cap := cap, hot := hot }
    let s := run cfg (init cfg raw) sched
    early s = true → step cfg s .prod = none → step cfg s .cons = none → s.out = gate raw :=
  fun he hp hc => (pipe_complete (inv_run _ raw sched) he (by simp) hp hc).2 rfl

/-- the bound: produced − consumed ≤ capacity + 2 (capacity queued, one in the producer's hand,
    one in the consumer's) at every reachable state as long as nobody unsubscribed -/
theorem handoff_bound (cfg : Cfg) (raw : List (Notif α)) (sched : List Tid) :
    let s := run cfg (init cfg raw) sched
    early s = true → s.ahead ≤ cfg.cap + 2 :=
  fun he => ahead_le_early (inv_run cfg raw sched) he

/-- … and in general, not counting the notifications thrown away because their send met the
    channel closed by an unsubscription (they are not queued: each ends as one OnUnhandledError);
    with a registered (hot) source there is at most one of those -/
theorem handoff_bound_unsub (cfg : Cfg) (raw : List (Notif α)) (sched : List Tid) :
    let s := run cfg (init cfg raw) sched
    s.entered.length ≤ s.got.length + cfg.cap + 2 + s.fails.length ∧ (cfg.hot = true → s.fails.length ≤ 1) :=
  ⟨ahead_le (inv_run cfg raw sched), fails_le_one_hot (inv_run cfg raw sched)⟩

/-- the channel is closed at most once, and exactly once after `stop()` has returned -/
theorem handoff_close_once (cfg : Cfg) (raw : List (Notif α)) (sched : List Tid) :
    let s := run cfg (init cfg raw) sched
    s.closes ≤ 1 ∧ (0 < s.stops → s.closes = 1 ∧ s.closed = true) :=
  ⟨closes_le_one (inv_run cfg raw sched), closes_eq_one_of_stops (inv_run cfg raw sched)⟩

/-- ObserveOn / SubscribeOn release their goroutine even when an upstream teardown panics (repo fix
    694a874, `defer stop()`): two steps after `Unsubscribe()` passed its CAS the hand-off channel is
    closed exactly once, so the consumer loop `range ch` ends -/
theorem detach_teardown_releases (cap : Nat) (hot panics : Bool) (raw : List (Notif α)) (sched : List Tid) :
    let cfg : Cfg := { cap := cap, hot := hot, upPanic := panics }
    let s := run cfg (init cfg raw) sched
    s.tpc = .td1 → ∃ s1 s2, step cfg s .ctl = some s1 ∧ step cfg s1 .ctl = some s2 ∧ s2.tpc = .done ∧
      s2.closed = true ∧ s2.closes = 1 ∧ (panics = true → hot = true → s.upOpen = true → s2.raised = true) :=
  fun ht => teardown_releases (inv_run _ raw sched) ht

/-- Collect over ObserveOn / SubscribeOn equals Collect over the source -/
theorem collect_through_detach (cap : Nat) (hot : Bool) (raw : List (Notif α)) (sched : List Tid) :
    let cfg : Cfg := { cap := cap, hot := hot }
    let s := run cfg (init cfg raw) sched
    early s = true → step cfg s .prod = none → step cfg s .cons = none → ending raw ≠ .never →
    some (collectOf s.out) = collect raw :=
  fun he hp hc ht => collect_detach (inv_run _ raw sched) rfl he hp hc ht

/-- the source of detachOn / ToChannel is written the way the model reads it (regenerated facts) -/
theorem handoff_shapes : RoGen.ChanShape.table = Chan.expectedShapes := Chan.chan_shapes_ok

-- non-vacuity: the bound is tight — capacity 1, a consumer that took one value and stalls:
-- three notifications are ahead of it (one queued, one in each hand)
example :
    let cfg : Cfg := { cap := 1 }
    let s := run cfg (init cfg [Notif.next {} (1 : Int), .next {} 2, .next {} 3, .next {} 4]) [.prod, .prod, .cons, .prod, .prod, .prod, .prod, .prod]
    s.ahead = 3 ∧ early s = true ∧ step cfg s .prod = none := by decide
-- a slow consumer still gets everything, terminal last
example :
    let cfg : Cfg := { cap := 1, hot := false }
    let s := run cfg (init cfg [Notif.next {} (1 : Int), .error {} (.user 1), .next {} 9]) [.prod, .prod, .prod, .cons, .prod, .prod, .cons, .cons, .cons, .cons, .cons, .prod]
    s.out = [.next {} 1, .error {} (.user 1)] ∧ s.closes = 1 := by decide

end handoff

end Ro.C08

#print axioms Ro.C08.handoff_fifo
#print axioms Ro.C08.handoff_order
#print axioms Ro.C08.detach_delivery
#print axioms Ro.C08.detach_complete
#print axioms Ro.C08.handoff_bound
#print axioms Ro.C08.handoff_bound_unsub
#print axioms Ro.C08.handoff_close_once
#print axioms Ro.C08.detach_teardown_releases
#print axioms Ro.C08.collect_through_detach
#print axioms Ro.C08.handoff_shapes
