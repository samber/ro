/-
  C02 (b) — serialized delivery through chains: every stage that can be fed from several goroutines
  emits into a locking subscriber, whatever follows it in the pipe.
  Proved for arbitrary chains of rows satisfying the row predicate; the predicate is decided by the
  kernel on the table regenerated from /repo's source on every run.
  Pinned tree: five pass-through operators were built with the unsafe constructor; directly
  downstream of a multi-feeder stage they made that stage emit into a non-locking subscriber
  (`Merge |> TapOnFinalize`: callbacks overlapped; with `Distinct` downstream the process aborted
  with "concurrent map writes"). Repaired in /repo (fix: pass-through operators use the safe
  constructor); the strict predicate now holds for every row.
-/
import RoProofs.Chain
import RoGen.Catalogue
import RoGen.Ctors
namespace Ro.C02b
open Ro.Facts

/-- the tie: every row of the regenerated table is fine or a listed known deviation -/
theorem table_ok : RoGen.Catalogue.table.all c02RowOk = true := by decide +kernel

/-- every row of the regenerated table satisfies the STRICT predicate: every multi-feeder operator
    and every pass-through operator is built with a locking constructor -/
theorem table_strict : RoGen.Catalogue.table.all c02RowStrict = true := by decide +kernel

/-- full statement (holds for any tree whose table satisfies the strict predicate) -/
theorem chain_serialized (r : OpFact) (rest : List OpFact)
    (hr : c02RowStrict r = true) (hrest : ∀ q ∈ rest, c02RowStrict q = true) (hm : r.multiFeeder = true) :
    ∃ c, emitMode (r :: rest) = some c ∧ serializedMode c = true :=
  multiFeeder_emits_serialized r rest hr hrest hm

/-- C02 (b) for the tree under check: every chain of catalogue operators, every stage that can be
    fed from several goroutines, whatever follows it -/
theorem chain_serialized_table (r : OpFact) (rest : List OpFact)
    (hr : r ∈ RoGen.Catalogue.table) (hrest : ∀ q ∈ rest, q ∈ RoGen.Catalogue.table)
    (hm : r.multiFeeder = true) :
    ∃ c, emitMode (r :: rest) = some c ∧ serializedMode c = true := by
  have hall := List.all_eq_true.mp table_strict
  exact chain_serialized r rest (hall r hr) (fun q hq => hall q (hrest q hq)) hm

def row (n : String) : Option OpFact := RoGen.Catalogue.table.find? (·.name == n)

/-- regression example: `MergeAll |> TapOnFinalize` — MergeAll is multi-feeder and now emits into
    TapOnFinalize's LOCKING subscriber (it was the unsafe one before the repair) -/
theorem passthrough_regression :
    (do let a ← row "MergeAll"; let b ← row "TapOnFinalize"; pure (a.multiFeeder, emitMode [a, b]))
      = some (true, some Ctor.safeC) := by decide +kernel

-- non-vacuity: a real multi-feeder chain that is covered
example : (do let a ← row "MergeAll"; let b ← row "MapIWithContext"; pure (a.multiFeeder, emitMode [a, b]))
    = some (true, some Ctor.safeC) := by decide +kernel

/-! ### what "built with the default / safe constructor" means (regenerated from observable.go / subscriber.go, go/extract/ctors.go) -/

/-- every public constructor ends up with the concurrency mode its name says; the default ones (`NewObservable`,
    `NewObservableWithContext`, `NewSubscriber`) are the safe ones -/
theorem ctor_modes : RoGen.Ctors.ctorModes = [
    ("NewEventuallySafeObservable", "EventuallySafe"), ("NewEventuallySafeObservableWithContext", "EventuallySafe"),
    ("NewEventuallySafeSubscriber", "EventuallySafe"),
    ("NewObservable", "Safe"), ("NewObservableWithConcurrencyMode", "param"), ("NewObservableWithContext", "Safe"),
    ("NewSafeObservable", "Safe"), ("NewSafeObservableWithContext", "Safe"), ("NewSafeSubscriber", "Safe"), ("NewSubscriber", "Safe"),
    ("NewSubscriberWithConcurrencyMode", "param"),
    ("NewUnsafeObservable", "Unsafe"), ("NewUnsafeObservableWithContext", "Unsafe"), ("NewUnsafeSubscriber", "Unsafe")] := by rfl

/-- safe = a real mutex and a blocking producer; unsafe = no lock; eventually-safe = a real mutex taken with TryLock, the value
    dropped when it is busy (the three modes of the kernel model, RoModel/Kernel/Conc.lean) -/
theorem mode_impl : RoGen.Ctors.modeImpl = [
    ("Safe", "NewMutexWithLock", "BackpressureBlock"), ("Unsafe", "NewMutexWithoutLock", "BackpressureBlock"),
    ("EventuallySafe", "NewMutexWithLock", "BackpressureDrop")] := by rfl

/-- Outside the operator files (whose constructors are the Catalogue's `ctor` column, `table_ok`) the core builds observables and
    subscribers only here: the public constructors delegating to each other, `SubscribeWithContext` wrapping the destination in a
    subscriber of the observable's mode, the connectable observables through the default (safe) constructors, and every subject
    wrapping its subscriber with `NewSubscriber` (safe). A new site — a subject handing out an unsafe view of itself, a helper
    that builds an unsafe observable — is a new row. -/
theorem ctor_sites : RoGen.Ctors.ctorSites = [
    ("observable.go", "NewObservable", "NewSafeObservable"),
    ("observable.go", "NewSafeObservable", "NewObservableWithConcurrencyMode"),
    ("observable.go", "NewUnsafeObservable", "NewObservableWithConcurrencyMode"),
    ("observable.go", "NewEventuallySafeObservable", "NewObservableWithConcurrencyMode"),
    ("observable.go", "NewObservableWithContext", "NewSafeObservableWithContext"),
    ("observable.go", "NewSafeObservableWithContext", "NewObservableWithConcurrencyMode"),
    ("observable.go", "NewUnsafeObservableWithContext", "NewObservableWithConcurrencyMode"),
    ("observable.go", "NewEventuallySafeObservableWithContext", "NewObservableWithConcurrencyMode"),
    ("observable.go", "observableImpl.SubscribeWithContext", "NewSubscriberWithConcurrencyMode"),
    ("observable.go", "NewConnectableObservable", "NewObservable"),
    ("observable.go", "NewConnectableObservableWithContext", "NewObservableWithContext"),
    ("observable.go", "NewConnectableObservableWithConfig", "NewObservable"),
    ("observable.go", "NewConnectableObservableWithConfigAndContext", "NewObservableWithContext"),
    ("subject_async.go", "asyncSubjectImpl.SubscribeWithContext", "NewSubscriber"),
    ("subject_behavior.go", "behaviorSubjectImpl.SubscribeWithContext", "NewSubscriber"),
    ("subject_publish.go", "publishSubjectImpl.SubscribeWithContext", "NewSubscriber"),
    ("subject_replay.go", "replaySubjectImpl.SubscribeWithContext", "NewSubscriber"),
    ("subject_unicast.go", "unicastSubjectImpl.SubscribeWithContext", "NewSubscriber"),
    ("subscriber.go", "NewSubscriber", "NewSafeSubscriber"),
    ("subscriber.go", "NewSafeSubscriber", "NewSubscriberWithConcurrencyMode"),
    ("subscriber.go", "NewUnsafeSubscriber", "NewSubscriberWithConcurrencyMode"),
    ("subscriber.go", "NewEventuallySafeSubscriber", "NewSubscriberWithConcurrencyMode")] := by rfl

end Ro.C02b

#print axioms Ro.C02b.ctor_sites
#print axioms Ro.C02b.table_ok
#print axioms Ro.C02b.ctor_modes
#print axioms Ro.C02b.mode_impl
#print axioms Ro.C02b.table_strict
#print axioms Ro.C02b.chain_serialized
#print axioms Ro.C02b.chain_serialized_table
#print axioms Ro.C02b.passthrough_regression
