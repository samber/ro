/-
  C19 — Prometheus instrumentation is transparent and its counters are exact.

  Model: `RoModel.Prom` (the counting / timing operators of ee/plugins/prometheus/operator.go as
  machines; chains with one subscriber gate per stage; the plain and the instrumented composition
  of pipe.go; `checkLicenseAndPipe` selecting one of them at subscription time).

  (1) Transparency. For every chain of operators that cannot read the plugin's unexported context
      key and never emit a nil context (`Pair`: proved for the stand-alone counting operators
      against `return source`, and for catalogue machines of every shape in `RoProofs.PromPairs`),
      every source mode, subscription context, raw script (legal or not) and external cut:
      the subscriber of the instrumented pipeline (licence on) is delivered the same notifications
      with the same context values as the subscriber of the plain pipeline (licence off), the
      source is subscribed equally often and released equally often.
      Partial on the pinned tree: a value emitted with a nil context (`Max` on an empty source,
      known finding of C04/C09) makes the instrumentation panic inside its observer callback,
      which turns the value into an Error — witness `transparency_fails_on_nil_context`. The
      theorem excludes exactly that class (the `NonNil` component of `Pair`).
  (2) Exact counters (licence on), every chain of machines whatsoever, every source mode, script
      and cut — `counters_pinned`: subscriptions = 1 per Subscribe; notifications-in = values the
      source emitted while subscribed (`in_is_source_values_sync`: the values of the gated raw
      script for a synchronous source; `in_is_source_prefix` otherwise); notifications-out =
      values delivered; one lag observation per source value whose context is not nil; one
      processing-time observation per value leaving operator i *with a context that carries the
      checkpoint*. `counters_exact_partial`: on the sub-domain where every value leaving an
      operator carries the checkpoint and the source emits no nil context, the counters are
      exactly the ones the property states.
      Deviation of the pinned tree from the property as stated: values an operator emits with a
      context that does not descend from a source value (at subscription or completion time, or a
      fresh context) get no processing-time observation — witness
      `processing_observation_missing` (full statement: `Spec.Exact` for every chain).
  (3) Stand-alone counters: every stage with `Sound` counters shows `tally = spec (what its gate
      let through) (runs of its subscribe function)` (`standalone_exact`); Next / Error / Complete /
      subscription counters and the lag observer are `Sound`; a stage's subscribe function runs
      once per subscription iff every later stage subscribes to its upstream (`subscribe_runs`).
  (4) Several subscriptions: the totals are the sums; subscriptions total = number of Subscribe.
  (F) The regenerated tables of pipe.go / license.go / operator.go satisfy the predicates the
      model was written from (`decide`), and the table's layout is the model's `instrument`.
-/
import RoProofs.PromPairs
import RoProofs.PromDriver
import RoProofs.PromStamped
import RoProofs.PromCounters
import RoModel.Spec.Prom
import RoGen.Prom
namespace Ro.C19
open Ro Ro.Prom Ro.Prom.Spec Ro.Facts

variable {α : Type}

/-! ### (1) transparency -/

/-- licence on vs licence off, through `checkLicenseAndPipe` -/
theorem transparent (ws : List (Pair α)) (hot : Bool) (sub : Ctx) (raw : List (Notif α)) (cut : Option Nat)
    (hs : sub.isNil = false) (hn : NonNil raw) :
    SameObservation (run hot sub (pipe true (chainI ws)) raw cut) (run hot sub (pipe false (chainP ws)) raw cut) :=
  (instrument_sim ws).elim fun _ h => h.run hot sub raw cut hs hn

/-- stand-alone counting operators applied without `PipeN` (licence on vs off) -/
theorem standalone_transparent (ws : List (Pair α)) (hot : Bool) (sub : Ctx) (raw : List (Notif α))
    (cut : Option Nat) (hs : sub.isNil = false) (hn : NonNil raw) :
    SameObservation (run hot sub (chainI ws) raw cut) (run hot sub (chainP ws) raw cut) :=
  (plain_sim ws).elim fun _ h => h.run hot sub raw cut hs hn

/-- with the licence off the subscribed composition *is* the plain one -/
theorem licence_off_is_plain (ms : List (AnyM α)) : pipe false ms = ms := rfl

/-- a context without the plugin's key is unchanged by `eraseCtx` -/
theorem erase_only_private_key (c : Ctx) (h : stamped c = false) : eraseCtx c = c := by
  cases c with
  | mk marks isNil =>
    simp only [stamped, List.contains_eq_mem, decide_eq_false_iff_not] at h
    simp only [eraseCtx, Ctx.mk.injEq, and_true]
    apply List.filter_eq_self.mpr
    intro a ha
    simp only [bne_iff_ne, ne_eq]
    intro e
    exact h (e ▸ ha)

/-! ### (2) exact counters -/

theorem counters_pinned (ms : List (AnyM α)) (hot : Bool) (sub : Ctx) (raw : List (Notif α)) (cut : Option Nat) :
    ExactPinned ms (run hot sub (instrument ms) raw cut) := by
  -- the tally of the `before` stage is `[in, lag]` (`hb`); `tailCounters` of the stages behind it is
  -- `(proc, (subs, out))` (`ht`), `out` counted on the last stage's `seen`, which is the run's `out` (`hout`)
  have hall := tally_run hot sub (instrument ms) raw cut
  have hb : [_, _] = [_, _] := hall.1 sound_before
  simp only [List.cons.injEq, and_true] at hb
  have ht := tail_tally ms _ hall.2 (List.tail_eq_of_cons_eq (subds_run hot sub (instrument ms) raw cut))
  have hout := out_eq_lastSeen hot sub (instrument ms) (endsAfter_instrument ms) raw cut
  rw [instrument, lastSeen_cons_tailI] at hout
  exact ⟨congrArg (·.1) ht.2, hb.1, (congrArg (·.2) ht.2).trans (congrArg countNext hout.symm), hb.2, ht.1⟩

/-- on the sub-domain that excludes exactly the two listed deviations, the counters are the
    ones the property states -/
theorem counters_exact_partial (ms : List (AnyM α)) (hot : Bool) (sub : Ctx) (raw : List (Notif α))
    (cut : Option Nat)
    (hst : AllStamped ms (run hot sub (instrument ms) raw cut))
    (hnn : SourceNonNil ms (run hot sub (instrument ms) raw cut)) :
    Exact ms (run hot sub (instrument ms) raw cut) := by
  have h := counters_pinned ms hot sub raw cut
  refine ⟨h.subs, h.inN, h.outN, h.lag.trans hnn, ?_⟩
  rw [h.proc]
  exact List.map_congr_left hst

theorem countNonNil_of_nonNil (l : List (Notif α)) (h : NonNil l) : countNonNilNext l = countNext l := by
  induction l with
  | nil => rfl
  | cons x xs ih =>
    rw [nonNil_cons_iff] at h
    cases x with
    | next c v =>
      have hc : c.isNil = false := h.1
      simp [countNonNilNext, countNext, ih h.2, hc]
    | error c e => simp [countNonNilNext, countNext, ih h.2]
    | complete c => simp [countNonNilNext, countNext, ih h.2]

/-- a source that never emits a nil context: one lag observation per source value -/
theorem source_nonNil_of_script (ms : List (AnyM α)) (hot : Bool) (sub : Ctx) (raw : List (Notif α))
    (cut : Option Nat) (hn : NonNil raw) : SourceNonNil ms (run hot sub (instrument ms) raw cut) := by
  apply countNonNil_of_nonNil
  intro x hx
  have hp := head_seen_prefix hot sub AnyM.before (tailI ms) raw cut
  exact hn x (mem_gate (hp.subset hx))

/-- notifications-in for a synchronous source that was subscribed: the values of the gated raw
    script -/
theorem in_is_source_values_sync (ms : List (AnyM α)) (sub : Ctx) (raw : List (Notif α)) (cut : Option Nat)
    (hsub : (run false sub (instrument ms) raw cut).srcSubs = 1) :
    (counters ms (run false sub (instrument ms) raw cut).cfg).inN = countNext (gate raw) := by
  have h := head_seen_sync sub AnyM.before (tailI ms) raw cut hsub
  exact (counters_pinned ms false sub raw cut).inN.trans (congrArg countNext h)

/-- in general: the values of a prefix of the gated raw script (what the source emitted before
    the pipeline unsubscribed from it) -/
theorem in_is_source_prefix (ms : List (AnyM α)) (hot : Bool) (sub : Ctx) (raw : List (Notif α)) (cut : Option Nat) :
    ∃ l, l <+: gate raw ∧ (counters ms (run hot sub (instrument ms) raw cut).cfg).inN = countNext l :=
  ⟨_, head_seen_prefix hot sub AnyM.before (tailI ms) raw cut, (counters_pinned ms hot sub raw cut).inN⟩

/-- A static sub-domain: chains of operators that keep the checkpoint (`Keeps`: every value they
    emit carries a non-nil context descending from a value they received — the pointwise, the
    cutting and the replaying operators of the catalogue, `RoProofs.PromStamped`) over a source that
    emits no nil context. There the counters are exactly the ones the property states, for every
    source mode, script and cut. -/
theorem counters_exact_static (ks : List (Keeps α)) (hot : Bool) (sub : Ctx) (raw : List (Notif α))
    (cut : Option Nat) (hn : NonNil raw) :
    Exact (chainK ks) (run hot sub (instrument (chainK ks)) raw cut) := by
  apply counters_exact_partial
  · intro l hl
    exact count_of_goodL l (tailSeen_good _ _ (tinv_run ks hot sub raw cut hn) l hl)
  · exact source_nonNil_of_script (chainK ks) hot sub raw cut hn

/-! ### (1b) every chain the driver / harness can build -/

/-- every stage of the driver's table other than `Max`, any parameters / variant / callback -/
theorem every_stage_related (op : String) (p : List Int) (var : String) (cbs : List Ro.Driver.Cb) (a : AnyM Int)
    (h : Ro.Driver.Drivers.Prom.stageOf op p var cbs = some a) (hmax : op ≠ "Max") (htag : GoodTags cbs) :
    Related a a := stageOf_related op p var cbs a h hmax htag

/-- the driver's per-subscription result with the licence on and off, every case it accepts that
    has no `Max` and no reserved marker: same trace, releases and source subscriptions -/
theorem driver_results_transparent (ee hot : Bool) (subS chain script : String) (cut : Option Nat)
    (eI eP : List (AnyM Int × Bool)) (raw : List (Notif Int))
    (hsub : (Ro.Driver.parseCtx subS).isNil = false) (hg : ChainGood chain)
    (hI : Ro.Driver.Drivers.Prom.parseChain true chain = some eI)
    (hP : Ro.Driver.Drivers.Prom.parseChain false chain = some eP)
    (hraw : Ro.Driver.parseScript (Ro.Driver.parseCtx subS) script = some raw) :
    (Ro.Driver.Drivers.Prom.runSub ee true hot (Ro.Driver.parseCtx subS) (eI.map (·.1)) raw cut).trace =
      (Ro.Driver.Drivers.Prom.runSub ee false hot (Ro.Driver.parseCtx subS) (eP.map (·.1)) raw cut).trace ∧
    (Ro.Driver.Drivers.Prom.runSub ee true hot (Ro.Driver.parseCtx subS) (eI.map (·.1)) raw cut).rel =
      (Ro.Driver.Drivers.Prom.runSub ee false hot (Ro.Driver.parseCtx subS) (eP.map (·.1)) raw cut).rel ∧
    (Ro.Driver.Drivers.Prom.runSub ee true hot (Ro.Driver.parseCtx subS) (eI.map (·.1)) raw cut).ssub =
      (Ro.Driver.Drivers.Prom.runSub ee false hot (Ro.Driver.parseCtx subS) (eP.map (·.1)) raw cut).ssub := by
  have hrel := parseChain_related chain eI eP hg hI hP
  have hn := parseScript_nonNil _ hsub script raw hraw
  cases ee
  · have h := plain_related _ _ hrel hot _ raw cut hsub hn
    simp only [Ro.Driver.Drivers.Prom.runSub, Bool.false_and, Bool.false_eq_true, if_false]
    exact ⟨by rw [h.1], h.2.2, h.2.1⟩
  · have h := transparent_related _ _ hrel hot _ raw cut hsub hn
    simp only [Ro.Driver.Drivers.Prom.runSub, Bool.true_and, if_true, Bool.false_eq_true, if_false]
    exact ⟨by rw [h.1], h.2.2, h.2.1⟩

/-! ### (3) stand-alone counters -/

/-- every stage of every chain, every run: sound counters equal their specification -/
theorem standalone_exact (hot : Bool) (sub : Ctx) (ms : List (AnyM α)) (raw : List (Notif α)) (cut : Option Nat) :
    AllInv TallyInv ms (run hot sub ms raw cut).cfg := tally_run hot sub ms raw cut

/-- e.g. the operator applied directly to the source -/
theorem standalone_head (a : AnyM α) (ha : Sound a) (rest : List (AnyM α)) (hot : Bool) (sub : Ctx)
    (raw : List (Notif α)) (cut : Option Nat) :
    a.tally (run hot sub (a :: rest) raw cut).cfg.1.st =
      a.spec (run hot sub (a :: rest) raw cut).cfg.1.seen (run hot sub (a :: rest) raw cut).cfg.1.subd :=
  (tally_run hot sub (a :: rest) raw cut).1 ha

theorem next_counter_sound : Sound (AnyM.cntNext (α := α)) :=
  sound_counter cntNextM countNext rfl (fun _ _ => rfl) (fun l n => by
    cases n <;> simp [Machine.step, cntNextM, fwdE, fwdC, countNext_append, countNext])

theorem error_counter_sound : Sound (AnyM.cntError (α := α)) :=
  sound_counter cntErrorM countError rfl (fun _ _ => rfl) (fun l n => by
    cases n <;> simp [Machine.step, cntErrorM, fwdC, countError_append, countError])

theorem complete_counter_sound : Sound (AnyM.cntComplete (α := α)) :=
  sound_counter cntCompleteM countComplete rfl (fun _ _ => rfl) (fun l n => by
    cases n <;> simp [Machine.step, cntCompleteM, fwdE, countComplete_append, countComplete])

theorem subscription_counter_sound : Sound (AnyM.cntSub (α := α)) where
  init := rfl
  sub := by
    intro s l k c h
    have h' : s = k := by injection h
    simp only [AnyM.cntSub, List.cons.injEq, and_true]
    simp [cntSubM, h']
  step := by
    intro s l k n h
    have h' : s = k := by injection h
    simp only [AnyM.cntSub, List.cons.injEq, and_true]
    cases n <;> simp [Machine.step, cntSubM, fwdE, fwdC, h']

theorem lag_observer_sound : Sound (AnyM.lag (α := α)) :=
  sound_counter lagM countNext rfl (fun _ _ => rfl) (fun l n => by
    cases n <;> simp [Machine.step, lagM, fwdE, fwdC, countNext_append, countNext])

/-- the subscribe function of stage k runs once iff every later stage subscribes upstream -/
theorem subscribe_runs (hot : Bool) (sub : Ctx) (ms : List (AnyM α)) (raw : List (Notif α)) (cut : Option Nat) :
    subds ms (run hot sub ms raw cut).cfg = reachList ms := subds_run hot sub ms raw cut

/-! ### (4) several subscriptions -/

/-- a counter that `Counters.add` adds: its total over several subscriptions is the sum -/
theorem totals_sum (π : Counters → Nat) (hπ : ∀ a b, π (a.add b) = π a + π b) (hot : Bool) (sub : Ctx)
    (ms : List (AnyM α)) (scripts : List (List (Notif α) × Option Nat)) :
    π (totals hot sub ms scripts) = π { proc := ms.map (fun _ => 0) } +
      (scripts.map (fun s => π (counters ms (run hot sub (instrument ms) s.1 s.2).cfg))).sum := by
  unfold totals
  generalize ({ proc := ms.map (fun _ => 0) } : Counters) = acc
  induction scripts generalizing acc with
  | nil => simp
  | cons s rest ih => rw [List.foldl_cons, ih, hπ, List.map_cons, List.sum_cons, Nat.add_assoc]

theorem totals_subs (hot : Bool) (sub : Ctx) (ms : List (AnyM α)) (scripts : List (List (Notif α) × Option Nat)) :
    (totals hot sub ms scripts).subs = scripts.length := by
  rw [totals_sum (·.subs) (fun _ _ => rfl)]
  simp [(counters_pinned ms hot sub _ _).subs, List.map_const']

theorem totals_out (hot : Bool) (sub : Ctx) (ms : List (AnyM α)) (scripts : List (List (Notif α) × Option Nat)) :
    (totals hot sub ms scripts).outN =
      (scripts.map (fun s => countNext (run hot sub (instrument ms) s.1 s.2).out)).sum := by
  rw [totals_sum (·.outN) (fun _ _ => rfl)]
  simp [(counters_pinned ms hot sub _ _).outN]

/-! ### deviations of the pinned tree (witnesses) -/

def c7 : Ctx := { marks := [7] }

/-- `Max` on an empty source emits the zero value with a nil context; the processing-time
    observer behind it dereferences the context and its panic reaches the subscriber as an Error:
    the instrumented pipeline and the plain one deliver different traces. -/
theorem transparency_fails_on_nil_context :
    eraseL (run false c7 (instrument [AnyM.of maxM]) [.complete (c7.tag 1)] none).out
      = [.error Ctx.nil errNilValue] ∧
    eraseL (run false c7 [AnyM.of maxM] [.complete (c7.tag 1)] none).out
      = [.next Ctx.nil 0, .complete (c7.tag 1)] := by
  constructor <;> rfl

/-- `EndWith(8)` over the script `1, complete`: two values leave operator 0, only the one that
    descends from a source value is observed. -/
theorem processing_observation_missing :
    let r := run false c7 (instrument [AnyM.of (endWithM [(8 : Int)])]) [.next (c7.tag 1) 1, .complete (c7.tag 2)] none
    (counters _ r.cfg).proc = [1] ∧ (tailSeen _ r.cfg.2).map countNext = [2] ∧
    eraseL r.out = [.next (c7.tag 1) 1, .next (c7.tag 2) 8, .complete (c7.tag 2)] := by
  decide +kernel

-- non-vacuity: a licensed pipeline Take(2) |> Map(×2) over an illegal script, hot, two
-- processing-time observers; and the stand-alone counters
example :
    let ms : List (AnyM Int) := [AnyM.of (takeM 2), AnyM.of (mapM (fun c v _ => (c, v * 2)))]
    let r := run true c7 (instrument ms) [.next c7 1, .next c7 2, .next c7 3, .complete c7] none
    eraseL r.out = [.next c7 2, .next c7 4, .complete c7] ∧
    counters ms r.cfg = { subs := 1, inN := 2, outN := 2, lag := 2, proc := [2, 2] } ∧ r.rel = 1 := by
  decide +kernel

example :
    let ms : List (AnyM Int) := [AnyM.cntSub, AnyM.cntNext, AnyM.cntError, AnyM.cntComplete, AnyM.lag]
    tallies ms (run false c7 ms [.next c7 1, .next c7 2, .error c7 (.user 3), .next c7 9] none).cfg = [1, 2, 1, 0, 2] := by
  decide +kernel

/-! ### (F) the source has the shape the model was written from -/

/-- pipe.go: every generated arity 1..24 — the function description skips exactly the
    non-operator parameters; plain = operators in order; instrumented = `op1, obs0, op2, obs1, …`
    with observer i carrying argument i and operator index i; erasing the observers from the
    instrumented composition gives the plain one -/
theorem pipes_ok : PipesOk RoGen.Prom.pipes := by decide +kernel

-- The fields below are string literals of the table: `rfl` compares them as literals, where
-- `decide` would compare them byte by byte.

/-- pipe.go:24-58: `PipeOp3(observeBeforePipe(in, lag), operators, observeAfterPipe(out, subscriptions))` -/
theorem wrap_ok : WrapOk RoGen.Prom.wrapFn RoGen.Prom.wrap := ⟨rfl, rfl⟩

/-- license.go:25-49: the licence is read inside the subscribe function and selects the
    composition; the selected pipeline's `Unsubscribe` is the teardown -/
theorem licence_ok : LicenceOk RoGen.Prom.licence := ⟨rfl, rfl, rfl, rfl, rfl, rfl, rfl, rfl⟩

/-- operator.go: every wrapper subscribes upstream once with the subscriber's context, forwards
    each notification exactly once and unchanged, increments before forwarding, returns its
    upstream `Unsubscribe`; and the callbacks are the event lists the machines were written from -/
theorem wrappers_ok : WrappersOk RoGen.Prom.wrappers := ⟨by decide +kernel, rfl⟩

theorem interp_layoutFrom (pre ms : List (AnyM α)) :
    (layoutFrom pre.length ms.length).map (interp (pre ++ ms)) =
      ms.flatMap (fun m => [some m, some AnyM.proc]) := by
  induction ms generalizing pre with
  | nil => rfl
  | cons m rest ih =>
    have h1 : (pre ++ m :: rest)[pre.length]? = some m := by simp
    have h2 := ih (pre ++ [m])
    simp only [List.length_append, List.length_cons, List.length_nil, List.append_assoc, List.cons_append, List.nil_append] at h2
    simp only [List.length_cons, layoutFrom, List.map_cons, interp, Nat.add_sub_cancel, h1, List.flatMap_cons,
      List.cons_append, List.nil_append]
    rw [if_neg (by omega)]
    exact congrArg (fun l => some m :: some AnyM.proc :: l) h2

theorem tailI_flatMap (ms : List (AnyM α)) :
    ms.flatMap (fun m => [some m, some AnyM.proc]) ++ [some AnyM.after] = (tailI ms).map some := by
  induction ms with
  | nil => rfl
  | cons m rest ih => simp only [List.flatMap_cons, tailI, List.map_cons, List.cons_append, List.nil_append, ih]

/-- the layout the table predicate fixes is the model's instrumented composition -/
theorem layout_is_instrument (ms : List (AnyM α)) :
    (some AnyM.before :: (layout ms.length).map (interp ms)) ++ [some AnyM.after] = (instrument ms).map some := by
  have h := interp_layoutFrom [] ms
  simp only [List.length_nil, List.nil_append] at h
  rw [layout, h]
  simp only [instrument, List.map_cons, List.cons_append, List.cons.injEq, true_and]
  exact tailI_flatMap ms

/-- for every generated `PipeN` of the source: its instrumented argument list denotes the
    model's `instrument` and its plain argument list the operators themselves -/
theorem pipe_rows_match_model (p : PromPipe) (hp : p ∈ RoGen.Prom.pipes) (ms : List (AnyM α)) (hl : ms.length = p.arity) :
    (some AnyM.before :: p.instr.map (interp ms)) ++ [some AnyM.after] = (instrument ms).map some := by
  have hok := (pipes_ok).2 p hp
  have hi : p.instr = layout p.arity := hok.2.2.2.2.2.2.2.2.2.2.2.2.1
  rw [hi, ← hl]
  exact layout_is_instrument ms

end Ro.C19

#print axioms Ro.C19.transparent
#print axioms Ro.C19.standalone_transparent
#print axioms Ro.C19.licence_off_is_plain
#print axioms Ro.C19.erase_only_private_key
#print axioms Ro.C19.counters_pinned
#print axioms Ro.C19.counters_exact_partial
#print axioms Ro.C19.source_nonNil_of_script
#print axioms Ro.C19.in_is_source_values_sync
#print axioms Ro.C19.in_is_source_prefix
#print axioms Ro.C19.standalone_exact
#print axioms Ro.C19.standalone_head
#print axioms Ro.C19.next_counter_sound
#print axioms Ro.C19.error_counter_sound
#print axioms Ro.C19.complete_counter_sound
#print axioms Ro.C19.subscription_counter_sound
#print axioms Ro.C19.lag_observer_sound
#print axioms Ro.C19.subscribe_runs
#print axioms Ro.C19.totals_subs
#print axioms Ro.C19.totals_out
#print axioms Ro.C19.transparency_fails_on_nil_context
#print axioms Ro.C19.processing_observation_missing
#print axioms Ro.C19.pipes_ok
#print axioms Ro.C19.wrap_ok
#print axioms Ro.C19.licence_ok
#print axioms Ro.C19.wrappers_ok
#print axioms Ro.C19.layout_is_instrument
#print axioms Ro.C19.pipe_rows_match_model
#print axioms Ro.C19.counters_exact_static
#print axioms Ro.C19.every_stage_related
#print axioms Ro.C19.driver_results_transparent
#print axioms Ro.Prom.stageTable_ok
#print axioms Ro.Prom.standalone_related
#print axioms Ro.Prom.parseChain_related
#print axioms Ro.Prom.transparent_related
#print axioms Ro.Prom.plain_related
#print axioms Ro.Prom.tinv_run
#print axioms Ro.Prom.pairIgnoreElements
#print axioms Ro.Prom.pairMapTo
#print axioms Ro.Prom.pairHead
#print axioms Ro.Prom.pairElementAt
#print axioms Ro.Prom.pairElementAtOrDefault
#print axioms Ro.Prom.pairOnErrorReturn
#print axioms Ro.Prom.pairThrowIfEmpty
#print axioms Ro.Prom.pairSum
#print axioms Ro.Prom.pairClamp
#print axioms Ro.Prom.pairMaterializeDematerialize
#print axioms Ro.Prom.pairFind
#print axioms Ro.Prom.pairSkipWhile
#print axioms Ro.Prom.pairTakeWhile
#print axioms Ro.Prom.pairFirst
#print axioms Ro.Prom.pairMapErr
#print axioms Ro.Prom.pairScan
#print axioms Ro.Prom.pairDistinctBy
#print axioms Ro.Prom.pairTail
#print axioms Ro.Prom.pairMin
#print axioms Ro.Prom.pairLast
#print axioms Ro.Prom.pairReduce
#print axioms Ro.Prom.pairSkipLast
#print axioms Ro.Prom.pairCntNext
#print axioms Ro.Prom.pairCntError
#print axioms Ro.Prom.pairCntComplete
#print axioms Ro.Prom.pairCntSub
#print axioms Ro.Prom.pairLag
#print axioms Ro.Prom.pairId
#print axioms Ro.Prom.pairMap
#print axioms Ro.Prom.pairFilter
#print axioms Ro.Prom.pairTake
#print axioms Ro.Prom.pairSkip
#print axioms Ro.Prom.pairStartWith
#print axioms Ro.Prom.pairEndWith
#print axioms Ro.Prom.pairDefaultIfEmpty
#print axioms Ro.Prom.pairTakeLast
#print axioms Ro.Prom.pairEmpty
#print axioms Ro.Prom.max_emits_nil
