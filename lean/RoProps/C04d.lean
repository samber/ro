/-
  C04 (d) — variants, aliases and Pipe: "the plain, indexed, context-aware and indexed-context-aware
  variants of an operator, its aliases, and the reflective Pipe/PipeOp versus the typed
  PipeN/PipeOpN compositions are observationally identical".

  Two regenerated tables (go/extract, on every run):
   * `RoGen.Delegation.table` — every exported function of operator_*.go whose body is a single
     `return Other(args…)`: the function finally called and the normalised call. It must EQUAL the
     expected table below (`delegation_expected`, by `rfl`): an alias that silently stops
     delegating, delegates to a sibling, swaps two callbacks, or starts to use / drop the index or
     the context breaks the build. On top of the literal equality, structural theorems over the
     regenerated table: the plain / WithContext forms of an indexed operator ignore the index
     (`variants_ignore_index`), the indexed form passes it (`indexed_variants_pass_index`), the
     forms without context return the context unchanged or never see one
     (`plain_variants_keep_context`), every `Do…` is its `Tap…` twin (`do_is_tap`), every chain of
     delegations ends in an operator body of the catalogue (`delegation_roots`).
     The behaviour of the base functions is C04 proper (machine = spec, RoProps/C04.lean); the harness
     runs all four variants against the same machine with the adapter's callbacks.
   * `RoGen.Pipe.table` — for each typed `PipeN` the operator parameters in application order, for each
     `PipeOpN` the `PipeN` it hands `source, operator1, …, operatorN` to, and the shape of the reflective
     `Pipe` loop. `pipe_expected`: the table is exactly rows 1..25 with order `[1, …, n]`;
     `apply_in_order`: applying the operators in that order is `List.foldl`, and `foldl_eq_nested`:
     that is the nested application `opN (… (op1 src))`. The reflective `Pipe` is tied by the harness
     kind `pipe` (five ways of assembling the same chain, compared with each other and with the
     chain of machines).
-/
import RoProofs.SeqEq
import RoProofs.Precision
import RoProofs.Ops.MoreSpecs
import RoProofs.Ops.CreateSpecs
import RoModel.DelegationFacts
import RoGen.Delegation
import RoGen.Pipe
import RoGen.Catalogue
namespace Ro.C04d
open Ro.Facts

/-! ### delegation -/

/-- (name, base, kind, normalised call) of every single-return delegating function, as read from
    the pinned tree -/
def expectedDelegation : List (String × String × String × String) := [
  ("MergeMap", "MergeMapIWithContext", "adapter", "MergeMapIWithContext(fn(#1,#2,_){ret #1,$1(#2)})"),
  ("MergeMapWithContext", "MergeMapIWithContext", "adapter", "MergeMapIWithContext(fn(#1,#2,_){ret #1,$1(#1,#2)})"),
  ("MergeMapI", "MergeMapIWithContext", "adapter", "MergeMapIWithContext(fn(#1,#2,#3){ret #1,$1(#2,#3)})"),
  ("CombineLatestWith", "CombineLatestWith1", "alias", "CombineLatestWith1($1)"),
  ("CombineLatestAllAny", "CombineLatestAll", "alias", "CombineLatestAll()"),
  ("ZipWith", "ZipWith1", "alias", "ZipWith1($1)"),
  ("All", "AllIWithContext", "adapter", "AllIWithContext(fn(_,#2,_){ret $1(#2)})"),
  ("AllWithContext", "AllIWithContext", "adapter", "AllIWithContext(fn(#1,#2,_){ret $1(#1,#2)})"),
  ("AllI", "AllIWithContext", "adapter", "AllIWithContext(fn(_,#2,#3){ret $1(#2,#3)})"),
  ("Contains", "ContainsI", "adapter", "ContainsI(fn(#1,_){ret $1(#1)})"),
  ("ContainsWithContext", "ContainsIWithContext", "adapter", "ContainsIWithContext(fn(#1,#2,_){ret $1(#1,#2)})"),
  ("ContainsI", "ContainsIWithContext", "adapter", "ContainsIWithContext(fn(_,#2,#3){ret $1(#2,#3)})"),
  ("Find", "FindI", "adapter", "FindI(fn(#1,_){ret $1(#1)})"),
  ("FindWithContext", "FindIWithContext", "adapter", "FindIWithContext(fn(#1,#2,_){ret $1(#1,#2)})"),
  ("FindI", "FindIWithContext", "adapter", "FindIWithContext(fn(_,#2,#3){ret $1(#2,#3)})"),
  ("DefaultIfEmpty", "DefaultIfEmptyWithContext", "compose", "DefaultIfEmptyWithContext(context.Background(),$1)"),
  ("Share", "ShareWithConfig", "compose", "ShareWithConfig(lit{Connector:defaultConnector,ResetOnError:true,ResetOnComplete:true,ResetOnRefCountZero:true})"),
  ("ShareReplay", "ShareWithConfig", "compose", "ShareWithConfig(lit{Connector:fn(){ret NewReplaySubject($1)},ResetOnError:true,ResetOnComplete:false,ResetOnRefCountZero:false})"),
  ("ShareReplayWithConfig", "ShareWithConfig", "compose", "ShareWithConfig(lit{Connector:fn(){ret NewReplaySubject($1)},ResetOnError:true,ResetOnComplete:false,ResetOnRefCountZero:$2.ResetOnRefCountZero})"),
  ("ContextMap", "ContextMapI", "adapter", "ContextMapI(fn(#1,_){ret $1(#1)})"),
  ("Just", "Of", "alias", "Of($1...)"),
  ("Merge", "MergeAll", "compose", "MergeAll()(Just($1...))"),
  ("CombineLatest2", "CombineLatestWith1", "compose", "CombineLatestWith1($2)($1)"),
  ("CombineLatest3", "CombineLatestWith2", "compose", "CombineLatestWith2($2,$3)($1)"),
  ("CombineLatest4", "CombineLatestWith3", "compose", "CombineLatestWith3($2,$3,$4)($1)"),
  ("CombineLatest5", "CombineLatestWith4", "compose", "CombineLatestWith4($2,$3,$4,$5)($1)"),
  ("CombineLatestAny", "CombineLatestAllAny", "compose", "CombineLatestAllAny()(Just($1...))"),
  ("Zip", "ZipAll", "compose", "ZipAll()(Just($1...))"),
  ("Zip2", "ZipWith1", "compose", "ZipWith1($2)($1)"),
  ("Zip3", "ZipWith2", "compose", "ZipWith2($2,$3)($1)"),
  ("Zip4", "ZipWith3", "compose", "ZipWith3($2,$3,$4)($1)"),
  ("Zip5", "ZipWith4", "compose", "ZipWith4($2,$3,$4,$5)($1)"),
  ("Zip6", "ZipWith5", "compose", "ZipWith5($2,$3,$4,$5,$6)($1)"),
  ("Concat", "ConcatAll", "compose", "ConcatAll()(Just($1...))"),
  ("Amb", "Race", "alias", "Race($1...)"),
  ("Retry", "RetryWithConfig", "compose", "RetryWithConfig(lit{MaxRetries:0,Delay:0,ResetOnSuccess:false})"),
  ("DoWhile", "DoWhileI", "adapter", "DoWhileI(fn(_){ret $1()})"),
  ("DoWhileWithContext", "DoWhileIWithContext", "adapter", "DoWhileIWithContext(fn(#1,_){ret $1(#1)})"),
  ("DoWhileI", "DoWhileIWithContext", "adapter", "DoWhileIWithContext(fn(#1,#2){ret #1,$1(#2)})"),
  ("While", "WhileIWithContext", "adapter", "WhileIWithContext(fn(#1,_){ret #1,$1()})"),
  ("WhileWithContext", "WhileIWithContext", "adapter", "WhileIWithContext(fn(#1,_){ret $1(#1)})"),
  ("WhileI", "WhileIWithContext", "adapter", "WhileIWithContext(fn(#1,#2){ret #1,$1(#2)})"),
  ("Filter", "FilterIWithContext", "adapter", "FilterIWithContext(fn(#1,#2,_){ret #1,$1(#2)})"),
  ("FilterWithContext", "FilterIWithContext", "adapter", "FilterIWithContext(fn(#1,#2,_){ret $1(#1,#2)})"),
  ("FilterI", "FilterIWithContext", "adapter", "FilterIWithContext(fn(#1,#2,#3){ret #1,$1(#2,#3)})"),
  ("DistinctBy", "DistinctByWithContext", "adapter", "DistinctByWithContext(fn(#1,#2){ret #1,$1(#2)})"),
  ("SkipWhile", "SkipWhileI", "adapter", "SkipWhileI(fn(#1,_){ret $1(#1)})"),
  ("SkipWhileWithContext", "SkipWhileIWithContext", "adapter", "SkipWhileIWithContext(fn(#1,#2,_){ret $1(#1,#2)})"),
  ("SkipWhileI", "SkipWhileIWithContext", "adapter", "SkipWhileIWithContext(fn(#1,#2,#3){ret #1,$1(#2,#3)})"),
  ("TakeWhile", "TakeWhileIWithContext", "adapter", "TakeWhileIWithContext(fn(#1,#2,_){ret #1,$1(#2)})"),
  ("TakeWhileWithContext", "TakeWhileIWithContext", "adapter", "TakeWhileIWithContext(fn(#1,#2,_){ret $1(#1,#2)})"),
  ("TakeWhileI", "TakeWhileIWithContext", "adapter", "TakeWhileIWithContext(fn(#1,#2,#3){ret #1,$1(#2,#3)})"),
  ("First", "FirstI", "adapter", "FirstI(fn(#1,_){ret $1(#1)})"),
  ("FirstWithContext", "FirstIWithContext", "adapter", "FirstIWithContext(fn(#1,#2,_){ret $1(#1,#2)})"),
  ("FirstI", "FirstIWithContext", "adapter", "FirstIWithContext(fn(#1,#2,#3){ret #1,$1(#2,#3)})"),
  ("Last", "LastI", "adapter", "LastI(fn(#1,_){ret $1(#1)})"),
  ("LastWithContext", "LastIWithContext", "adapter", "LastIWithContext(fn(#1,#2,_){ret $1(#1,#2)})"),
  ("LastI", "LastIWithContext", "adapter", "LastIWithContext(fn(#1,#2,#3){ret #1,$1(#2,#3)})"),
  ("FloorWithPrecision", "precisionRound", "compose", "precisionRound(floorPrecisionRoundMode(),$1)"),
  ("CeilWithPrecision", "precisionRound", "compose", "precisionRound(ceilPrecisionRoundMode(),$1)"),
  ("Reduce", "ReduceIWithContext", "adapter", "ReduceIWithContext(fn(#1,#2,#3,_){ret #1,$1(#2,#3)},$2)"),
  ("ReduceWithContext", "ReduceIWithContext", "adapter", "ReduceIWithContext(fn(#1,#2,#3,_){ret $1(#1,#2,#3)},$2)"),
  ("ReduceI", "ReduceIWithContext", "adapter", "ReduceIWithContext(fn(#1,#2,#3,#4){ret #1,$1(#2,#3,#4)},$2)"),
  ("ToMap", "ToMapIWithContext", "adapter", "ToMapIWithContext(fn(_,#2,_){ret $1(#2)})"),
  ("ToMapWithContext", "ToMapIWithContext", "adapter", "ToMapIWithContext(fn(#1,#2,_){ret $1(#1,#2)})"),
  ("ToMapI", "ToMapIWithContext", "adapter", "ToMapIWithContext(fn(_,#2,#3){ret $1(#2,#3)})"),
  ("Map", "MapIWithContext", "adapter", "MapIWithContext(fn(#1,#2,_){ret #1,$1(#2)})"),
  ("MapWithContext", "MapIWithContext", "adapter", "MapIWithContext(fn(#1,#2,_){ret $1(#1,#2)})"),
  ("MapI", "MapIWithContext", "adapter", "MapIWithContext(fn(#1,#2,#3){ret #1,$1(#2,#3)})"),
  ("MapErr", "MapErrIWithContext", "adapter", "MapErrIWithContext(fn(#1,#2,_){r,err:=$1(#2);ret r,#1,err})"),
  ("MapErrWithContext", "MapErrIWithContext", "adapter", "MapErrIWithContext(fn(#1,#2,_){ret $1(#1,#2)})"),
  ("MapErrI", "MapErrIWithContext", "adapter", "MapErrIWithContext(fn(#1,#2,#3){r,err:=$1(#2,#3);ret r,#1,err})"),
  ("FlatMap", "FlatMapI", "adapter", "FlatMapI(fn(#1,_){ret $1(#1)})"),
  ("FlatMapWithContext", "FlatMapIWithContext", "adapter", "FlatMapIWithContext(fn(#1,#2,_){ret $1(#1,#2)})"),
  ("FlatMapI", "FlatMapIWithContext", "adapter", "FlatMapIWithContext(fn(_,#2,#3){ret $1(#2,#3)})"),
  ("Scan", "ScanIWithContext", "adapter", "ScanIWithContext(fn(#1,#2,#3,_){ret #1,$1(#2,#3)},$2)"),
  ("ScanWithContext", "ScanIWithContext", "adapter", "ScanIWithContext(fn(#1,#2,#3,_){ret $1(#1,#2,#3)},$2)"),
  ("ScanI", "ScanIWithContext", "adapter", "ScanIWithContext(fn(#1,#2,#3,#4){ret #1,$1(#2,#3,#4)},$2)"),
  ("GroupBy", "GroupByIWithContext", "adapter", "GroupByIWithContext(fn(#1,#2,_){ret #1,$1(#2)})"),
  ("GroupByWithContext", "GroupByIWithContext", "adapter", "GroupByIWithContext(fn(#1,#2,_){ret $1(#1,#2)})"),
  ("GroupByI", "GroupByIWithContext", "adapter", "GroupByIWithContext(fn(#1,#2,#3){ret #1,$1(#2,#3)})"),
  ("SampleTime", "SampleWhen", "compose", "SampleWhen(Interval($1))"),
  ("Tap", "TapWithContext", "adapter", "TapWithContext(fn(_,#2){$1(#2)},fn(_,#2){$2(#2)},fn(_){$3()})"),
  ("Do", "Tap", "alias", "Tap($1,$2,$3)"),
  ("DoWithContext", "TapWithContext", "alias", "TapWithContext($1,$2,$3)"),
  ("TapOnNext", "Tap", "adapter", "Tap($1,fn(_){},fn(){})"),
  ("TapOnNextWithContext", "TapWithContext", "adapter", "TapWithContext($1,fn(_,_){},fn(_){})"),
  ("DoOnNext", "TapOnNext", "alias", "TapOnNext($1)"),
  ("DoOnNextWithContext", "TapOnNextWithContext", "alias", "TapOnNextWithContext($1)"),
  ("TapOnError", "Tap", "adapter", "Tap(fn(_){},$1,fn(){})"),
  ("TapOnErrorWithContext", "TapWithContext", "adapter", "TapWithContext(fn(_,_){},$1,fn(_){})"),
  ("DoOnError", "Tap", "adapter", "Tap(fn(_){},$1,fn(){})"),
  ("DoOnErrorWithContext", "TapWithContext", "adapter", "TapWithContext(fn(_,_){},$1,fn(_){})"),
  ("TapOnComplete", "Tap", "adapter", "Tap(fn(_){},fn(_){},$1)"),
  ("TapOnCompleteWithContext", "TapWithContext", "adapter", "TapWithContext(fn(_,_){},fn(_,_){},$1)"),
  ("DoOnComplete", "Tap", "adapter", "Tap(fn(_){},fn(_){},$1)"),
  ("DoOnCompleteWithContext", "TapWithContext", "adapter", "TapWithContext(fn(_,_){},fn(_,_){},$1)"),
  ("TapOnSubscribe", "TapOnSubscribeWithContext", "adapter", "TapOnSubscribeWithContext(fn(_){$1()})"),
  ("DoOnSubscribe", "TapOnSubscribe", "alias", "TapOnSubscribe($1)"),
  ("DoOnSubscribeWithContext", "TapOnSubscribeWithContext", "alias", "TapOnSubscribeWithContext($1)"),
  ("DoOnFinalize", "TapOnFinalize", "alias", "TapOnFinalize($1)")
]

def DelegRow.key (r : DelegRow) : String × String × String × String := (r.name, r.base, r.kind, r.shape)

/-- **the regenerated delegation table is the expected one** -/
theorem delegation_expected : RoGen.Delegation.table.map DelegRow.key = expectedDelegation := by rfl

def row? (n : String) : Option DelegRow := RoGen.Delegation.table.find? (·.name == n)

/-- the families that exist as `X`, `XWithContext`, `XI`, `XIWithContext` (the last one is the
    operator body: a Catalogue row) -/
def indexedFamilies : List String :=
  ["MergeMap", "All", "Contains", "Find", "DoWhile", "While", "Filter", "SkipWhile", "TakeWhile", "First", "Last",
   "Reduce", "ToMap", "Map", "MapErr", "FlatMap", "Scan", "GroupBy"]

/-- every family has its three delegating forms, and they all end in the family's operator body -/
def rootOf : Nat → String → String
  | 0, n => n
  | fuel + 1, n => match row? n with
    | some r => rootOf fuel r.base
    | none => n

/-- the `Do…` aliases: either a plain alias of the `Tap…` twin, or literally the same call -/
def doTapPairs : List (String × String) :=
  [("Do", "Tap"), ("DoWithContext", "TapWithContext"), ("DoOnNext", "TapOnNext"), ("DoOnNextWithContext", "TapOnNextWithContext"),
   ("DoOnError", "TapOnError"), ("DoOnErrorWithContext", "TapOnErrorWithContext"), ("DoOnComplete", "TapOnComplete"),
   ("DoOnCompleteWithContext", "TapOnCompleteWithContext"), ("DoOnSubscribe", "TapOnSubscribe"),
   ("DoOnSubscribeWithContext", "TapOnSubscribeWithContext"), ("DoOnFinalize", "TapOnFinalize")]

/-- functions that are neither in the delegation table nor operator bodies of the catalogue, yet sit
    at the end of a delegation chain: helpers of operator_math.go and the subject-based Share -/
def helperRoots : List String := ["precisionRound", "Race"]

/-- All that is read off the delegation table, in one evaluation: comparing strings is what costs
    the kernel, and within one declaration it encodes each name and looks each row up once. The
    last clause follows the bases only (see `delegation_roots`). -/
theorem delegation_checks :
    (indexedFamilies.all fun x =>
      rootOf 4 x == x ++ "IWithContext" && rootOf 4 (x ++ "WithContext") == x ++ "IWithContext" &&
      rootOf 4 (x ++ "I") == x ++ "IWithContext") = true ∧
    (indexedFamilies.all fun x =>
      ((row? x).map (·.dropsIndex)) == some true && ((row? (x ++ "WithContext")).map (·.dropsIndex)) == some true) = true ∧
    (indexedFamilies.all fun x => ((row? (x ++ "I")).map (·.dropsIndex)) == some false) = true ∧
    (indexedFamilies.all fun x =>
      [x, x ++ "I"].all fun n => match row? n with
        | some r => r.ctxUnchanged || r.ctxIgnored || (rootOf 1 n != x ++ "IWithContext")
        | none => false) = true ∧
    (doTapPairs.all fun p => match row? p.1 with
      | some d => (d.kind == "alias" && d.base == p.2) ||
          (match row? p.2 with | some t => t.shape == d.shape | none => false)
      | none => false) = true ∧
    ([("Just", "Of"), ("Amb", "Race"), ("CombineLatestWith", "CombineLatestWith1"), ("ZipWith", "ZipWith1")].all fun p =>
      ((row? p.1).map fun r => (r.kind, r.base)) == some ("alias", p.2)) = true ∧
    (RoGen.Delegation.table.all fun r => r.kind != "alias" ||
      ["()", "($1)", "($1...)", "($1,$2)", "($1,$2,$3)"].any (fun args => r.shape == r.base ++ args)) = true ∧
    (RoGen.Delegation.table.all fun r =>
      RoGen.Catalogue.table.any (fun c => c.name == rootOf 3 r.base) || helperRoots.contains (rootOf 3 r.base)) = true := by
  decide +kernel

theorem families_delegate :
    (indexedFamilies.all fun x =>
      rootOf 4 x == x ++ "IWithContext" && rootOf 4 (x ++ "WithContext") == x ++ "IWithContext" &&
      rootOf 4 (x ++ "I") == x ++ "IWithContext") = true := delegation_checks.1

/-- the plain and the context-aware form hand the base a callback that takes the index and does
    not use it -/
theorem variants_ignore_index :
    (indexedFamilies.all fun x =>
      ((row? x).map (·.dropsIndex)) == some true && ((row? (x ++ "WithContext")).map (·.dropsIndex)) == some true) = true :=
  delegation_checks.2.1

/-- the indexed form passes the index on (no unused index parameter in its adapter) -/
theorem indexed_variants_pass_index :
    (indexedFamilies.all fun x => ((row? (x ++ "I")).map (·.dropsIndex)) == some false) = true :=
  delegation_checks.2.2.1

/-- a form whose user callback returns no context either returns the context it was given
    unchanged, or its base does not return a context at all (the callback context is then not used) -/
theorem plain_variants_keep_context :
    (indexedFamilies.all fun x =>
      [x, x ++ "I"].all fun n => match row? n with
        | some r => r.ctxUnchanged || r.ctxIgnored || (rootOf 1 n != x ++ "IWithContext")
        | none => false) = true := delegation_checks.2.2.2.1

theorem do_is_tap :
    (doTapPairs.all fun p => match row? p.1 with
      | some d => (d.kind == "alias" && d.base == p.2) ||
          (match row? p.2 with | some t => t.shape == d.shape | none => false)
      | none => false) = true := delegation_checks.2.2.2.2.1

/-- the other aliases -/
theorem aliases :
    ([("Just", "Of"), ("Amb", "Race"), ("CombineLatestWith", "CombineLatestWith1"), ("ZipWith", "ZipWith1")].all fun p =>
      ((row? p.1).map fun r => (r.kind, r.base)) == some ("alias", p.2)) = true := delegation_checks.2.2.2.2.2.1

/-- an alias forwards every parameter, in order, to its base and nothing else -/
theorem alias_shape :
    (RoGen.Delegation.table.all fun r => r.kind != "alias" ||
      ["()", "($1)", "($1...)", "($1,$2)", "($1,$2,$3)"].any (fun args => r.shape == r.base ++ args)) = true :=
  delegation_checks.2.2.2.2.2.2.1

/-- the name of a row finds a row of that name, so its chain goes on from the base of a row -/
theorem rootOf_name {r : DelegRow} (hr : r ∈ RoGen.Delegation.table) (k : Nat) :
    ∃ r' ∈ RoGen.Delegation.table, rootOf (k + 1) r.name = rootOf k r'.base := by
  cases h : row? r.name with
  | none => exact absurd (List.find?_eq_none.1 h r hr) (by simp)
  | some r' => exact ⟨r', List.mem_of_find?_eq_some h, by rw [rootOf, h]⟩

/-- every chain of delegations ends in an operator body (a row of the regenerated catalogue) -/
theorem delegation_roots :
    (RoGen.Delegation.table.all fun r =>
      RoGen.Catalogue.table.any (fun c => c.name == rootOf 4 r.name) || helperRoots.contains (rootOf 4 r.name)) = true := by
  rw [List.all_eq_true]
  intro r hr
  obtain ⟨r', hr', e⟩ := rootOf_name hr 3
  rw [e]
  exact List.all_eq_true.1 delegation_checks.2.2.2.2.2.2.2 r' hr'

/-! ### Pipe -/

def typedRows (n : Nat) : List PipeRow :=
  (List.range' 1 n).map fun k => { name := "Pipe" ++ toString k, n := k, via := "", order := List.range' 1 k, ok := true }

def typedOpRows (n : Nat) : List PipeRow :=
  (List.range' 1 n).map fun k => { name := "PipeOp" ++ toString k, n := k, via := "Pipe" ++ toString k, order := List.range' 1 k, ok := true }

/-- pipe.go as expected: the reflective `Pipe` (a loop over `operators`, each applied to the
    accumulator), `Pipe1 … Pipe25` applying operator 1, 2, …, n in that order, `PipeOp` = `Pipe` with
    the source supplied later, `PipeOpN` = `PipeN` likewise -/
def expectedPipe : List PipeRow :=
  [{ name := "Pipe", n := 0, via := "range", order := [], ok := true }] ++ typedRows 25 ++
  [{ name := "PipeOp", n := 0, via := "Pipe", order := [], ok := true }] ++ typedOpRows 25

/-- **the regenerated Pipe table is the expected one**: every `PipeN` / `PipeOpN` row is `[1, 2, …, n]` -/
theorem pipe_expected : RoGen.Pipe.table = expectedPipe := by decide +kernel

theorem pipe_rows_in_order :
    (RoGen.Pipe.table.all fun r => r.ok && (r.n == 0 || r.order == List.range' 1 r.n)) = true := by decide +kernel

/-- what a row means: apply the operators at the listed positions, in the listed order -/
def applyOrder {α : Type} (order : List Nat) (ops : List (α → α)) (src : α) : α :=
  order.foldl (fun acc k => (ops.getD (k - 1) id) acc) src

/-- nested application `opN (… (op2 (op1 src)))` -/
def nested {α : Type} : List (α → α) → α → α
  | [], s => s
  | f :: fs, s => nested fs (f s)

theorem applyOrder_range'_aux {α : Type} (ops pre : List (α → α)) (s : α) :
    (List.range' (pre.length + 1) ops.length).foldl (fun acc k => ((pre ++ ops).getD (k - 1) id) acc) s =
      ops.foldl (fun acc f => f acc) s := by
  induction ops generalizing pre s with
  | nil => rfl
  | cons f fs ih =>
    have h1 : (pre ++ f :: fs).getD (pre.length + 1 - 1) id = f := by simp
    have h2 := ih (pre ++ [f]) (f s)
    simp only [List.length_append, List.length_cons, List.length_nil, List.append_assoc, List.singleton_append, Nat.zero_add] at h2
    simp only [List.length_cons, List.range'_succ, List.foldl_cons, h1]
    exact h2

/-- applying the operators in the order `[1, …, n]` of a typed row is the left fold over the operators … -/
theorem apply_in_order {α : Type} (ops : List (α → α)) (src : α) :
    applyOrder (List.range' 1 ops.length) ops src = ops.foldl (fun acc f => f acc) src := by
  have := applyOrder_range'_aux ops [] src
  simpa [applyOrder] using this

/-- … which is the nested application (what the reflective loop computes = what `PipeN` writes out) -/
theorem foldl_eq_nested {α : Type} (ops : List (α → α)) (src : α) :
    ops.foldl (fun acc f => f acc) src = nested ops src := by
  induction ops generalizing src with
  | nil => rfl
  | cons f fs ih => simpa [nested] using ih (f src)

/-- every typed row of the regenerated table applied to `n` operators is the nested application -/
theorem typed_rows_nested {α : Type} (r : PipeRow) (hr : r ∈ RoGen.Pipe.table) (hn : r.n ≠ 0)
    (ops : List (α → α)) (hl : ops.length = r.n) (src : α) : applyOrder r.order ops src = nested ops src := by
  have hall := pipe_rows_in_order
  rw [List.all_eq_true] at hall
  have h := hall r hr
  simp only [Bool.and_eq_true, Bool.or_eq_true, beq_iff_eq] at h
  rcases h.2 with h0 | ho
  · exact absurd h0 hn
  · rw [ho, ← hl, apply_in_order, foldl_eq_nested]

-- non-vacuity: a swapped order is a different function
example : applyOrder [1, 3, 2] [(· + 1), (· * 2), (· - 3)] (5 : Int) ≠ nested [(· + 1), (· * 2), (· - 3)] 5 := by decide
example : applyOrder [1, 2, 3] [(· + 1), (· * 2), (· - 3)] (5 : Int) = 9 := by decide

/-! ### the remaining single-source operators (RoModel/Ops/More.lean) and the creation operators
    (RoModel/Ops/Create.lean): machine / generator = specification; shapes restated for three of them,
    the others audited by name below -/

theorem cast {α β : Type} (ok : α → Option β) (err : Err) (mode : SrcMode) (sub : Ctx) (raw : List (Notif α)) :
    (runOp (castM ok err) mode sub raw).out = Spec.cast ok err (values raw) (ending raw) := cast_spec ok err mode sub raw

theorem ctxWithValue {α : Type} (m : Nat) (mode : SrcMode) (sub : Ctx) (raw : List (Notif α)) :
    (runOp (ctxWithValueM (α := α) m) mode sub raw).out = Spec.ctxWithValue m (values raw) (ending raw) :=
  ctxWithValue_spec m mode sub raw

/-- `Range(start, end)` for all integers: the generated script is `List.range` mapped, then completion;
    delivered as is, nothing refused -/
theorem range (start endv : Int) (c : Ctx) :
    (rangeG start endv).delivered c = Spec.rangeScript start endv c ∧ (rangeG start endv).dropped c = [] :=
  rangeG_delivered start endv c

/-- `RangeWithStep(start, end, step)` for all integral bounds and every positive integral step: every value
    `start ± i·step` of `[start:end)` — `⌈|end-start| / step⌉` of them, the last one included when the span is not a
    multiple of the step —, then completion; delivered as is, nothing refused -/
theorem rangeWithStep (start endv : Int) (step : Nat) (hs : 0 < step) (c : Ctx) :
    (rangeStepG start endv (step : Int)).delivered c = Spec.rangeStepScript start endv step c ∧
    (rangeStepG start endv (step : Int)).dropped c = [] :=
  rangeStepG_delivered start endv step hs c

/-! ### SequenceEqual (operator_conditional.go; RoModel/Ops/SeqEq.lean; tie: kind=seqeq) -/

/-- PARTIAL: for two completing sequences of EQUAL length SequenceEqual computes the documented function -/
theorem sequenceEqual_partial (a b : List Int) (h : a.length = b.length) :
    SeqEq.impl a .complete b .complete = SeqEq.spec a .complete b .complete := SeqEq.impl_spec_partial a b h

/-- what the code computes for every pair of completing sequences: agreement on the common length -/
theorem sequenceEqual_impl (a b : List Int) :
    SeqEq.impl a .complete b .complete = [.val (decide (a.take b.length = b.take a.length)), .complete] := SeqEq.play_complete a b

/-- DEVIATION (known finding; the pinned test has `Empty` vs `Just(1,2,3)` = true): a proper prefix "equals" its extension -/
theorem sequenceEqual_prefix_deviation (a ext : List Int) :
    SeqEq.impl a .complete (a ++ ext) .complete = [.val true, .complete] ∧ SeqEq.impl (a ++ ext) .complete a .complete = [.val true, .complete] :=
  SeqEq.impl_prefix_true a ext

/-! ### FloorWithPrecision / CeilWithPrecision (operator_math.go; tie: kind=precision, integers compared) -/

/-- `FloorWithPrecision(places)` on `x = m / 2^k`: `n / 10^places` with `n` the greatest integer such that `n / 10^places ≤ x`
    (written without division: `n · den ≤ num < (n+1) · den` for `x · 10^places = num / den`) -/
theorem floorWithPrecision (m : Int) (k : Nat) (places : Int) :
    Precision.floorN m k places * (Precision.scaled m k places).2 ≤ (Precision.scaled m k places).1 ∧
    (Precision.scaled m k places).1 < (Precision.floorN m k places + 1) * (Precision.scaled m k places).2 :=
  Precision.floorN_spec m k places

/-- `CeilWithPrecision(places)`: the least such integer from above -/
theorem ceilWithPrecision (m : Int) (k : Nat) (places : Int) :
    (Precision.ceilN m k places - 1) * (Precision.scaled m k places).2 < (Precision.scaled m k places).1 ∧
    (Precision.scaled m k places).1 ≤ Precision.ceilN m k places * (Precision.scaled m k places).2 :=
  Precision.ceilN_spec m k places

/-- floor ≤ ceiling, at most one step apart; a multiple of the step is a fixed point of both -/
theorem precision_floor_le_ceil (m : Int) (k : Nat) (places : Int) :
    Precision.floorN m k places ≤ Precision.ceilN m k places ∧ Precision.ceilN m k places ≤ Precision.floorN m k places + 1 :=
  Precision.floor_le_ceil m k places

theorem precision_fixed_point (m : Int) (k : Nat) (places n : Int)
    (h : (Precision.scaled m k places).1 = n * (Precision.scaled m k places).2) :
    Precision.floorN m k places = n ∧ Precision.ceilN m k places = n := Precision.fixed_point m k places n h

/-- a creation operator under any machine: `runOp_out` with a synchronous source playing the
    generated script -/
theorem create_pipe {σ α β : Type} (g : Gen α) (m : Machine σ α β) (c : Ctx) (hs : m.subscribes = true) :
    (g.pipe m c).out = gate ((m.onSubscribe m.init c).2 ++ m.emits (m.onSubscribe m.init c).1 (gate ((g c).raw c))) :=
  Gen.pipe_out g m c hs

example : Spec.rangeValues 4 1 = [4, 3, 2] := by decide
example : Spec.rangeValues 2 2 = [] := by decide

end Ro.C04d

#print axioms Ro.C04d.delegation_expected
#print axioms Ro.C04d.families_delegate
#print axioms Ro.C04d.variants_ignore_index
#print axioms Ro.C04d.indexed_variants_pass_index
#print axioms Ro.C04d.plain_variants_keep_context
#print axioms Ro.C04d.do_is_tap
#print axioms Ro.C04d.aliases
#print axioms Ro.C04d.alias_shape
#print axioms Ro.C04d.delegation_roots
#print axioms Ro.C04d.pipe_expected
#print axioms Ro.C04d.pipe_rows_in_order
#print axioms Ro.C04d.apply_in_order
#print axioms Ro.C04d.foldl_eq_nested
#print axioms Ro.C04d.typed_rows_nested
#print axioms Ro.C04d.cast
#print axioms Ro.C04d.ctxWithValue
#print axioms Ro.C04d.range
#print axioms Ro.C04d.rangeWithStep
#print axioms Ro.C04d.sequenceEqual_partial
#print axioms Ro.C04d.sequenceEqual_impl
#print axioms Ro.C04d.sequenceEqual_prefix_deviation
#print axioms Ro.SeqEq.length_witness
#print axioms Ro.SeqEq.late_error_witness
#print axioms Ro.C04d.floorWithPrecision
#print axioms Ro.C04d.ceilWithPrecision
#print axioms Ro.C04d.precision_floor_le_ceil
#print axioms Ro.C04d.precision_fixed_point
#print axioms Ro.C04d.create_pipe
#print axioms Ro.ctxWithValue_spec
#print axioms Ro.contextMap_spec
#print axioms Ro.contextReset_spec
#print axioms Ro.cast_spec
#print axioms Ro.tap_spec
#print axioms Ro.tap_effects
#print axioms Ro.runOp_st_quiet
#print axioms Ro.timed_spec
#print axioms Ro.average_spec
#print axioms Ro.average_empty_second_emission_dropped
#print axioms Ro.floatMap_spec
#print axioms Ro.ofG_script
#print axioms Ro.fromSliceG_script
#print axioms Ro.emptyG_script
#print axioms Ro.throwG_script
#print axioms Ro.rangeLoop_values
#print axioms Ro.rangeG_script
#print axioms Ro.rangeStepLoop_values
#print axioms Ro.rangeStepG_script
#print axioms Ro.rangeStepValues_one
#print axioms Ro.repeatG_script
#print axioms Ro.startG_ok
#print axioms Ro.startG_panic
#print axioms Ro.deferG_ok
#print axioms Ro.deferG_panic
#print axioms Ro.deferG_calls
#print axioms Ro.iifG_true
#print axioms Ro.iifG_false
#print axioms Ro.Gen.delivered_dropped
#print axioms Ro.Gen.delivered_grammar
#print axioms Ro.ofG_delivered
#print axioms Ro.fromSliceG_delivered
#print axioms Ro.emptyG_delivered
#print axioms Ro.throwG_delivered
#print axioms Ro.rangeG_delivered
#print axioms Ro.repeatG_delivered
#print axioms Ro.startG_ok_delivered
#print axioms Ro.startG_panic_delivered
#print axioms Ro.deferG_ok_delivered
#print axioms Ro.deferG_panic_delivered
#print axioms Ro.Gen.pipe_out
#print axioms Ro.Gen.pipe_grammar
#print axioms Ro.just_take_drops
#print axioms Ro.Gen.resubscribe
#print axioms Ro.Gen.resubscribe_calls
