/-
  C03 (kernel part) — teardown exactly once.

  In the concurrent kernel (`Kernel.Conc` running the programs of subscriberImpl / subscriptionImpl,
  tied to the Go sources by RoProps/KernelTie.lean), with Complete, Error, Unsubscribe, Add, Wait
  issued from any threads in any schedule:

  * every finalizer runs at most once in every reachable state (token argument: a finalizer id is
    in exactly one of: a script, the current Add call, `finalizers`, one thread's taken list, `ran`;
    the swap of `finalizers` happens under `subMu`, so taken lists are disjoint);
  * in every state where no thread can move and `done` is set, every stored finalizer has run —
    with the first point: exactly once;
  * a teardown is stored only while the subscription is not done; once `done` is set every later
    Add runs its teardown itself before returning (inside the Add call, holding `subMu`);
  * panicking finalizers do not stop the others (the two points above make no assumption on which
    finalizers panic) and the joined panic is raised only after the loop.

  Caveat proved as stated (DESIGN.md C03): a teardown added after disposal runs while `subMu` is
  held (`kernel_runNow_holds_subMu`), so a teardown that re-enters Add / Unsubscribe on the same
  subscription would self-deadlock; teardowns of the model do not call back.
-/
import RoProofs.Kernel.Events
import RoProofs.Kernel.Main2
import RoProps.KernelTie
namespace Ro.C03
open Ro.Kernel

/-- C03: no finalizer runs twice — every mode, threads, scripts (each finalizer id used once), schedule -/
theorem kernel_finalizer_at_most_once (mode : Mode) (destNil : Bool) (panicky : List FinId)
    (scripts : List (List ApiCall)) (hd : DistinctIds scripts) (sched : List Tid) (f : FinId) :
    (run Expected.progs (init mode destNil panicky scripts) sched).sh.ran.count f ≤ 1 :=
  ran_count_le_one (kinv_reachable mode destNil panicky scripts sched) f (hd f)

/-- the same on the log: the `finRun` events are exactly `ran`, in order -/
theorem kernel_finRuns_log (mode : Mode) (destNil : Bool) (panicky : List FinId)
    (scripts : List (List ApiCall)) (sched : List Tid) :
    finRuns (run Expected.progs (init mode destNil panicky scripts) sched).sh.log =
      (run Expected.progs (init mode destNil panicky scripts) sched).sh.ran :=
  (kinv_reachable mode destNil panicky scripts sched).tear.finRuns

/-- C03: in a terminal state (no thread enabled) with `done`, every stored finalizer has run exactly once -/
theorem kernel_finalizers_exactly_once_at_end (mode : Mode) (destNil : Bool) (panicky : List FinId)
    (scripts : List (List ApiCall)) (hd : DistinctIds scripts) (sched : List Tid)
    (hdone : (run Expected.progs (init mode destNil panicky scripts) sched).sh.done = true)
    (hterm : Terminal (run Expected.progs (init mode destNil panicky scripts) sched))
    (f : FinId) (hf : f ∈ appendedFins (run Expected.progs (init mode destNil panicky scripts) sched).sh.log) :
    (run Expected.progs (init mode destNil panicky scripts) sched).sh.ran.count f = 1 := by
  have hk := kinv_reachable mode destNil panicky scripts sched
  have h1 := kernel_finalizer_at_most_once mode destNil panicky scripts hd sched f
  have h2 : 0 < (run Expected.progs (init mode destNil panicky scripts) sched).sh.ran.count f :=
    List.count_pos_iff.mpr (terminal_all_ran hk hdone hterm f hf)
  omega

/-- … and nothing is left behind: `finalizers` and every thread's taken list are empty -/
theorem kernel_nothing_left_at_end (mode : Mode) (destNil : Bool) (panicky : List FinId)
    (scripts : List (List ApiCall)) (sched : List Tid)
    (hdone : (run Expected.progs (init mode destNil panicky scripts) sched).sh.done = true)
    (hterm : Terminal (run Expected.progs (init mode destNil panicky scripts) sched)) :
    (run Expected.progs (init mode destNil panicky scripts) sched).sh.finalizers = [] ∧
    ∀ (t : Tid) (th : Thread), (run Expected.progs (init mode destNil panicky scripts) sched).threads[t]? = some th →
      th.taken = [] :=
  terminal_drained (kinv_reachable mode destNil panicky scripts sched) hdone hterm

/-- C03: nothing runs before `done` is set -/
theorem kernel_run_implies_done (mode : Mode) (destNil : Bool) (panicky : List FinId)
    (scripts : List (List ApiCall)) (sched : List Tid)
    (h : (run Expected.progs (init mode destNil panicky scripts) sched).sh.ran ≠ []) :
    (run Expected.progs (init mode destNil panicky scripts) sched).sh.done = true :=
  (kinv_reachable mode destNil panicky scripts sched).tear.ranDone h

/-- C03: when an Add call returns, its teardown has been stored or has run -/
theorem kernel_add_returns_consumed (mode : Mode) (destNil : Bool) (panicky : List FinId)
    (scripts : List (List ApiCall)) (sched : List Tid) (t u : Tid) (f : FinId) (r : Res) (s' : St)
    (h : step Expected.progs (run Expected.progs (init mode destNil panicky scripts) sched) t = some s')
    (hlog : Logs (run Expected.progs (init mode destNil panicky scripts) sched) s' (.ret u (.add f) r)) :
    f ∈ appendedFins (run Expected.progs (init mode destNil panicky scripts) sched).sh.log ∨
    f ∈ (run Expected.progs (init mode destNil panicky scripts) sched).sh.ran :=
  add_returns_consumed (kinv_reachable mode destNil panicky scripts sched)
    (run_inv (fun s => KInv (idBound scripts) s ∧ ConsInv s)
      (fun _ _ _ hi h => ⟨hi.1.step h, hi.2.step hi.1 h⟩) sched _ ⟨KInv.init .., ConsInv.init ..⟩).2 h hlog

/-- C03: a teardown is stored (`appended`) only in a state where `done` is false … -/
theorem kernel_stored_only_when_open (mode : Mode) (destNil : Bool) (panicky : List FinId)
    (scripts : List (List ApiCall)) (sched : List Tid) (t u : Tid) (f : FinId) (s' : St)
    (h : step Expected.progs (run Expected.progs (init mode destNil panicky scripts) sched) t = some s')
    (hlog : Logs (run Expected.progs (init mode destNil panicky scripts) sched) s' (.appended u f)) :
    (run Expected.progs (init mode destNil panicky scripts) sched).sh.done = false :=
  stored_only_when_open (kinv_reachable mode destNil panicky scripts sched) h hlog

/-- … hence once `done` is set no continuation stores anything: an Add issued after `done` runs its
    teardown inside the call (with `kernel_add_returns_consumed`: at its return the teardown is in `ran`) -/
theorem kernel_add_after_done_not_stored (mode : Mode) (destNil : Bool) (panicky : List FinId)
    (scripts : List (List ApiCall)) (sched1 sched2 : List Tid)
    (hdone : (run Expected.progs (init mode destNil panicky scripts) sched1).sh.done = true) :
    appendedFins (run Expected.progs (init mode destNil panicky scripts) (sched1 ++ sched2)).sh.log =
      appendedFins (run Expected.progs (init mode destNil panicky scripts) sched1).sh.log ∧
    (run Expected.progs (init mode destNil panicky scripts) (sched1 ++ sched2)).sh.done = true := by
  rw [run_append]
  exact no_store_after_done sched2 (kinv_reachable mode destNil panicky scripts sched1) hdone

/-- the caveat: the teardown of an Add after disposal runs while the caller holds `subMu` -/
theorem kernel_runNow_holds_subMu (mode : Mode) (destNil : Bool) (panicky : List FinId)
    (scripts : List (List ApiCall)) (sched : List Tid) (t : Tid) (th : Thread)
    (ht : (run Expected.progs (init mode destNil panicky scripts) sched).threads[t]? = some th)
    (hh : th.ctl.head = .stmt .runNow) :
    (run Expected.progs (init mode destNil panicky scripts) sched).sh.subMu = some t ∧
    (run Expected.progs (init mode destNil panicky scripts) sched).sh.done = true := by
  have hi := kinv_reachable mode destNil panicky scripts sched
  have a := lfSubHeld_ok (hi.lock.inReach t th ht)
  simp only [lfSubHeld, hh] at a
  exact ⟨(hi.lock.own .subMu t th ht rfl).mp a, hi.tear.doneKnown t th ht (by simp [Ctl.doneKnown, hh])⟩

/-- C03: the joined panic is raised after the loop — the raising thread has nothing left to run,
    and every finalizer named in the panic has run -/
theorem kernel_raise_after_loop (mode : Mode) (destNil : Bool) (panicky : List FinId)
    (scripts : List (List ApiCall)) (sched : List Tid) (t u : Tid) (fs : List FinId) (s' : St)
    (h : step Expected.progs (run Expected.progs (init mode destNil panicky scripts) sched) t = some s')
    (hlog : Logs (run Expected.progs (init mode destNil panicky scripts) sched) s' (.raised u fs)) :
    u = t ∧
    (∃ th, (run Expected.progs (init mode destNil panicky scripts) sched).threads[t]? = some th ∧ th.taken = [] ∧ th.panics = fs) ∧
    ∀ p ∈ fs, p ∈ (run Expected.progs (init mode destNil panicky scripts) sched).sh.ran :=
  raise_after_loop (kinv_reachable mode destNil panicky scripts sched) h hlog

/-- C03 on the history: every `raised` event (the joined panic of an Unsubscribe) is preceded in the
    log by the runs of all the finalizers it names; with `kernel_raise_after_loop` (at that moment the
    raising thread's taken list is empty: everything it took has run) the raise follows every
    finalizer run of that Unsubscribe -/
theorem kernel_raiseLog (mode : Mode) (destNil : Bool) (panicky : List FinId) (scripts : List (List ApiCall))
    (sched : List Tid) : raiseLog (run Expected.progs (init mode destNil panicky scripts) sched).sh.log = true :=
  (xinv_reachable mode destNil panicky scripts sched).wr.raise

/-- C03 on the history: no finalizer id occurs twice among the `finRun` events -/
theorem kernel_finOnceLog (mode : Mode) (destNil : Bool) (panicky : List FinId) (scripts : List (List ApiCall))
    (hd : DistinctIds scripts) (sched : List Tid) :
    (finRuns (run Expected.progs (init mode destNil panicky scripts) sched).sh.log).Nodup := by
  rw [kernel_finRuns_log]
  exact List.nodup_iff_count.mpr (fun f => kernel_finalizer_at_most_once mode destNil panicky scripts hd sched f)

/-! ### non-vacuity -/

-- three finalizers stored (one panicking), a Complete racing two Unsubscribes, a late Add: all run
-- once, the panic of 2 is raised by the thread that ran the loop, the late Add (4) runs inline
def demoScripts : List (List ApiCall) := [[.add 1, .add 2, .add 3, .complete], [.unsubscribe, .add 4], [.unsubscribe]]
def demo : St := runRounds Expected.progs [0, 0, 0, 0, 0, 0, 0, 0, 1, 2] 100 (init .safe false [2] demoScripts)

example : demo.sh.ran = [1, 2, 3, 4] := by decide +kernel
example : appendedFins demo.sh.log = [1, 2, 3] := by decide +kernel
example : demo.sh.log.filter (fun e => match e with | .raised _ _ => true | _ => false) = [.raised 0 [2]] := by
  decide +kernel
-- the terminal-state hypothesis is reachable: nobody can move and done is set
example : demo.sh.done = true ∧ step Expected.progs demo 0 = none ∧ step Expected.progs demo 1 = none ∧
    step Expected.progs demo 2 = none := by decide +kernel
example : DistinctIds demoScripts := by
  intro f
  have h : (List.filterMap finOf demoScripts.flatten) = [1, 2, 3, 4] := by decide
  simp only [idBound, h]
  exact List.nodup_iff_count.mp (by decide) f

end Ro.C03

#print axioms Ro.KernelTie.progs_are_the_source
#print axioms Ro.C03.kernel_finalizer_at_most_once
#print axioms Ro.C03.kernel_finRuns_log
#print axioms Ro.C03.kernel_finalizers_exactly_once_at_end
#print axioms Ro.C03.kernel_nothing_left_at_end
#print axioms Ro.C03.kernel_run_implies_done
#print axioms Ro.C03.kernel_add_returns_consumed
#print axioms Ro.C03.kernel_stored_only_when_open
#print axioms Ro.C03.kernel_add_after_done_not_stored
#print axioms Ro.C03.kernel_runNow_holds_subMu
#print axioms Ro.C03.kernel_raise_after_loop
#print axioms Ro.C03.kernel_raiseLog
#print axioms Ro.C03.kernel_finOnceLog
