/-
  C15 — re-subscribing operators run attempts in sequence, the right number of times.

  Model: RoModel/Resub.lean (the Go loops read line by line; tied to the code by the `resub`
  correspondence). Specification: RoModel/Spec/Resub.lean. Proofs: RoProofs/Resub*.lean.

  For every list of attempt outcomes (any length, any values), every configuration, every truth
  sequence of the loop condition, every cancellation point of the subscription context and every
  point at which the downstream goes away, a run `Conforms`:
    * the subscribe/teardown log is s₁ t₁ s₂ t₂ … sₙ tₙ (hence never two attempts alive),
    * n is the closed form the configuration dictates (`firstStop`: up to and including the first
      attempt that stops the loop, characterised by `attempts_characterisation`),
    * the values of exactly these n attempts are forwarded in order,
    * the final terminal is the defined one (Retry: the last error when the retries are spent —
      counted from the last delivered value with ResetOnSuccess, `retry_charge_reset` — or the
      cancellation error; nothing is subscribed once the cancellation is observed).

  Deviations of the pinned tree (witness theorems below, replayed on the real code on every run):
    * `Catch` subscribes the fallback from inside the error callback of the first subscription: the
      log is s₁ s₂ t₂ t₁ (s₁ s₂ t₁ t₂ when the attempts run on goroutines), two attempts alive.
      Full statement (false on the pinned tree):
        ∀ mode sub outs, Conforms (catch_ mode sub outs) outs (catchAttempts outs) (termAfter outs (catchAttempts outs))
      `catch_conforms_partial` excludes exactly `Known.catchFallback`; `catch_rest` proves the count,
      the values and the terminal for every input.
    * the `Wait` window (kernel, `subscription.go:104-150` vs `167-177`): `Wait()` returns as soon as the
      subscription's `done` flag is set, also while the finalizers are still running on another
      goroutine. In the schedule where an attempt's terminal arrives after its teardown was registered
      and before the operator reaches `Wait`, every waiting operator subscribes the next attempt while
      the previous teardown has not finished: log s₁ s₂ t₁ … (`wait_window_deviation`,
      `wait_window_witness`; driven on the real code by `mode=tdrace`). The `Conforms` theorems describe
      all other schedules (terminal before `Subscribe` returns — synchronous attempts — or after the
      operator has entered `Wait`), where the model's log is the one the code produces.
  Repaired in /repo (808ed47): `Concat` kept subscribing the remaining sources after one had
  failed; `concat_conforms` describes the repaired code, for every input.
  Noted, not part of C15: Retry/While/DoWhile/OnErrorResumeNextWith/Concat do not look at the
  destination, so the attempt counts above do not depend on `cut` (downstream gone: C14);
  RepeatWith registers nothing for teardown (C14).
-/
import RoProofs.Resub
import RoProofs.ResubRetry
import RoProofs.ResubLoops
namespace Ro.C15
open Ro Ro.Resub Ro.Resub.Spec

/-- what C15 asks of one run over the attempt outcomes `outs`: `n` attempts strictly one after
    another, their values forwarded in order, then the terminal `t` -/
structure Conforms (r : Result) (outs : List Outcome) (n : Nat) (t : Term) : Prop where
  log : r.log = seqLog 1 n
  attempts : r.attempts = n
  vals : outVals r.raw = valuesOf (outs.take n)
  term : outTerm r.raw = some t

/-- never two attempts alive -/
theorem Conforms.neverTwoAlive {r : Result} {outs : List Outcome} {n : Nat} {t : Term} (h : Conforms r outs n t) :
    maxLive r.log ≤ 1 := by rw [h.log]; exact maxLive_seqLog_le 1 n

/-- exactly the subscriptions 1 … n happen -/
theorem Conforms.subscriptions {r : Result} {outs : List Outcome} {n : Nat} {t : Term} (h : Conforms r outs n t) :
    subsOf r.log = List.range' 1 n := by rw [h.log]; exact subsOf_seqLog 1 n

/-- what the observer receives, for every point `cut` at which it goes away: the values of the `n`
    attempts in order (the first k of them), then the terminal (unless it left first); always a
    grammatical trace -/
theorem Conforms.delivered {r : Result} {outs : List Outcome} {n : Nat} {t : Term} (h : Conforms r outs n t) (cut : Option Nat) :
    outVals (deliver cut r.raw) = cutVals cut (valuesOf (outs.take n)) ∧
    outTerm (deliver cut r.raw) = cutTerm cut (valuesOf (outs.take n)) (some t) ∧
    Grammar (deliver cut r.raw) := by
  refine ⟨?_, ?_, deliver_grammar cut r.raw⟩
  · rw [deliver_vals, h.vals]
  · rw [deliver_term, h.vals, h.term]

/-- `firstStop stops bound` is *the* number n ≤ bound such that no attempt before the n-th stopped
    the loop and, if n < bound, the n-th did (at least one attempt if the bound allows one) -/
theorem attempts_characterisation (stops : Nat → Bool) (bound n : Nat) :
    n = firstStop stops bound ↔
      (n ≤ bound ∧ (0 < bound → 0 < n) ∧ (∀ j, j + 1 < n → stops j = false) ∧ (n < bound → stops (n - 1) = true)) := by
  constructor
  · intro h; subst h
    exact ⟨firstStop_le _ _, firstStop_pos _ _, firstStop_before _ _, firstStop_stops _ _⟩
  · intro ⟨h1, h2, h3, h4⟩
    exact firstStop_unique stops bound n h1 h2 h3 h4

/-- attempts in sequence from number 1, `n` of them -/
theorem Conforms.ofSequential {r : Result} {outs : List Outcome} {t : Term} {n : Nat}
    (h : Sequential 1 outs t r) (ha : r.attempts = n) : Conforms r outs n t :=
  ⟨ha ▸ h.log, ha, ha ▸ h.vals, h.term⟩

/-! ### Retry / RetryWithConfig -/

theorem retry_conforms (cfg : RetryCfg) (sub : Ctx) (cancel : Option Nat) (outs : List Outcome) :
    Conforms (retry cfg sub cancel outs) outs (retryAttemptsC cfg cancel outs) (retryTerm cfg cancel outs) := by
  obtain ⟨h, ha⟩ := retryLoop_spec cfg sub outs 1 0
  cases cancel with
  | none =>
    rw [ha] at h
    exact .ofSequential h ha
  | some k =>
    obtain ⟨hc, hca⟩ := retryLoop_cancel cfg sub k outs 1 0
    rw [ha, Nat.add_sub_cancel] at hc hca
    have ht : retryTerm cfg (some k) outs = if k < retryAttempts cfg outs then .error ctxCanceled
        else termAfter outs (retryAttempts cfg outs) := by simp [retryTerm, cancelWins]
    exact ht ▸ .ofSequential hc hca

theorem retry_attempts (cfg : RetryCfg) (sub : Ctx) (cancel : Option Nat) (outs : List Outcome) :
    (retry cfg sub cancel outs).attempts = retryAttemptsC cfg cancel outs :=
  (retry_conforms cfg sub cancel outs).attempts

/-- nothing is subscribed after the cancellation is observed: cancelled during attempt `k`
    (`k = 0`: before subscribing), no attempt beyond the k-th is ever subscribed -/
theorem retry_cancel_stops (cfg : RetryCfg) (sub : Ctx) (k : Nat) (outs : List Outcome) :
    (retry cfg sub (some k) outs).attempts ≤ k ∧ ∀ j ∈ subsOf (retry cfg sub (some k) outs).log, j ≤ k := by
  have h := retry_conforms cfg sub (some k) outs
  have hle : retryAttemptsC cfg (some k) outs ≤ k := by simp [retryAttemptsC]; omega
  refine ⟨by rw [h.attempts]; exact hle, ?_⟩
  intro j hj
  rw [h.subscriptions, List.mem_range'_1] at hj
  omega

/-- a cancellation that comes after the loop has ended by itself changes nothing -/
theorem retry_cancel_late (cfg : RetryCfg) (k : Nat) (outs : List Outcome) (h : retryAttempts cfg outs ≤ k) :
    retryAttemptsC cfg (some k) outs = retryAttempts cfg outs ∧ retryTerm cfg (some k) outs = retryTerm cfg none outs := by
  have : ¬ k < retryAttempts cfg outs := by omega
  simp [retryAttemptsC, retryTerm, cancelWins, this]; omega

/-- the charge against MaxRetries: without ResetOnSuccess every failed attempt counts … -/
theorem retry_charge_noReset (pre : List Outcome) : chargedFrom false 0 pre = pre.length := by
  simpa using chargedFrom_noReset 0 pre

/-- … with ResetOnSuccess it is counted from the last attempt that delivered a value (that attempt
    included), or from the beginning when none delivered anything -/
theorem retry_charge_reset (pre : List Outcome) : chargedFrom true 0 pre = min pre.length (trailingSilent pre + 1) := by
  simpa [trailingSilent] using chargedFrom_reset_rev pre.reverse

/-- Retry() (unlimited): the loop ends exactly at the first attempt that completes -/
theorem retry_unlimited (reset delay : Bool) (outs : List Outcome) :
    retryAttempts ⟨0, delay, reset⟩ outs = firstStop (fun j => !failsAt outs j) (outs.length + 1) := by
  unfold retryAttempts
  apply firstStop_congr
  intro j _
  simp [retryStopsFrom]

/-! ### While / DoWhile -/

theorem while_conforms (ct : Nat) (sub : Ctx) (conds : List Bool) (outs : List Outcome) :
    Conforms (while_ ct sub conds outs) outs (whileAttempts conds outs) (termAfter outs (whileAttempts conds outs)) := by
  obtain ⟨h, ha⟩ := whileLoop_spec ct conds outs sub 0
  rw [ha] at h
  exact .ofSequential h ha

theorem doWhile_conforms (ct : Nat) (sub : Ctx) (conds : List Bool) (outs : List Outcome) :
    Conforms (doWhile ct sub conds outs) outs (doWhileAttempts conds outs) (termAfter outs (doWhileAttempts conds outs)) := by
  obtain ⟨h, ha⟩ := doWhileLoop_spec ct conds outs sub 0
  rw [ha] at h
  exact .ofSequential h ha

/-! ### RepeatWith -/

theorem repeatWith_conforms (count : Nat) (sub : Ctx) (cut : Option Nat) (outs : List Outcome) :
    Conforms (repeatWith count sub cut outs) outs (repeatAttempts count cut outs) (termAfter outs (repeatAttempts count cut outs)) := by
  unfold repeatWith
  split
  · rename_i h0; subst h0
    exact .ofSequential (.stop rfl rfl) rfl
  · obtain ⟨h, ha⟩ := repeatLoop_spec sub count outs 0 cut Ctx.nil
    rw [ha] at h
    exact .ofSequential h ha

/-- with the downstream present to the end, RepeatWith runs `count` attempts unless one fails -/
theorem repeatWith_attempts_nocut (count : Nat) (outs : List Outcome) :
    repeatAttempts count none outs = firstStop (failsAt outs) count := by
  unfold repeatAttempts
  apply firstStop_congr
  intro j _
  simp [repeatStops]

/-! ### OnErrorResumeNextWith -/

theorem onErrorResumeNext_conforms (k : Nat) (sub : Ctx) (outs : List Outcome) :
    Conforms (onErrorResumeNext k sub outs) outs (resumeAttempts k) (termAfter outs (resumeAttempts k)) := by
  unfold onErrorResumeNext
  split
  · rename_i h0; subst h0
    refine .ofSequential (.last sub ?_ ?_) rfl <;>
      simp only [Outcome.terminal, termAfter, resumeAttempts] <;> cases (outcomeAt outs 0).fin <;> rfl
  · obtain ⟨h, ha⟩ := resumeLoop_spec sub (k + 1) outs 0 Ctx.nil none
    rw [if_neg (Nat.succ_ne_zero k)] at h
    exact .ofSequential h ha

/-! ### Concat -/

/-- every number of sources, every outcome list: one source after the other until one fails
    (full statement since fix 808ed47; before it the remaining sources were still subscribed) -/
theorem concat_conforms (n : Nat) (sub : Ctx) (outs : List Outcome) :
    Conforms (concat n sub outs) outs (concatAttempts n outs) (termAfter outs (concatAttempts n outs)) := by
  obtain ⟨h, ha⟩ := concatLoop_spec sub n outs 0
  rw [ha] at h
  exact .ofSequential h ha

/-! ### Catch -/

/-- for every input: the count, the values and the terminal -/
theorem catch_rest (mode : Mode) (sub : Ctx) (outs : List Outcome) :
    (catch_ mode sub outs).attempts = catchAttempts outs ∧
    outVals (catch_ mode sub outs).raw = valuesOf (outs.take (catchAttempts outs)) ∧
    outTerm (catch_ mode sub outs).raw = some (termAfter outs (catchAttempts outs)) := by
  unfold catch_ catchAttempts
  simp only []
  cases h : (outcomeAt outs 0).fin with
  | complete =>
    simp [failsAt_zero_of_complete h, outVals_nexts_append, outTerm_nexts_append, valuesOf_take_one, termAfter, h]
  | error e =>
    have h2 : valuesOf (outs.take 2) = (outcomeAt outs 0).vals.map (·.2) ++ (outcomeAt outs 1).vals.map (·.2) := by
      rw [valuesOf_take_succ, valuesOf_take_one, outcomeAt_tail]
    simp only [failsAt_zero_of_error h, if_true, outVals_nexts_append, outTerm_nexts_append, h2, termAfter, Outcome.terminal]
    cases (outcomeAt outs 1).fin <;> simp

theorem catch_conforms_partial (mode : Mode) (sub : Ctx) (outs : List Outcome) (h : Known.catchFallback outs = false) :
    Conforms (catch_ mode sub outs) outs (catchAttempts outs) (termAfter outs (catchAttempts outs)) := by
  obtain ⟨h1, h2, h3⟩ := catch_rest mode sub outs
  refine ⟨?_, h1, h2, h3⟩
  unfold Known.catchFallback at h
  unfold catch_ catchAttempts
  simp only [h]
  cases hf : (outcomeAt outs 0).fin with
  | complete => simp
  | error e => rw [failsAt_zero_of_error hf] at h; simp at h

/-- the deviation, for every input of the excluded class and both modes: the fallback is subscribed
    while the first attempt is still alive -/
theorem catch_deviation (mode : Mode) (sub : Ctx) (outs : List Outcome) (h : Known.catchFallback outs = true) :
    maxLive (catch_ mode sub outs).log = 2 ∧ (catch_ mode sub outs).log ≠ seqLog 1 2 := by
  unfold Known.catchFallback failsAt at h
  obtain ⟨e, he⟩ := (fails_iff _).mp h
  unfold catch_
  simp only [he]
  cases mode <;> exact ⟨by decide, by decide⟩

/-- witness: s₁ s₂ t₂ t₁ -/
theorem catch_witness :
    (catch_ .sync {} [⟨[(1, 11)], 2, .error 1⟩, ⟨[(1, 21)], 2, .complete⟩]).log = [.s 1, .s 2, .t 2, .t 1] := by decide +kernel

/-! ### the `Wait` window -/

/-- for every number of attempts ≥ 2: two attempts alive, the log is not sequential -/
theorem wait_window_deviation (n : Nat) :
    maxLive (overlapLog (n + 2)) = 2 ∧ overlapLog (n + 2) ≠ seqLog 1 (n + 2) :=
  ⟨maxLive_overlapLog n, overlapLog_ne_seqLog n⟩

/-- witness: a Retry whose first attempt fails — s₁ s₂ t₁ t₂ -/
theorem wait_window_witness :
    overlapLog (retry ⟨0, false, false⟩ {} none [⟨[(1, 11)], 2, .error 1⟩, ⟨[(1, 21)], 2, .complete⟩]).attempts
      = [.s 1, .s 2, .t 1, .t 2] := by decide +kernel

/-! ### non-vacuity: concrete runs -/

def fail0 (e : Nat) : Outcome := ⟨[], 1, .error e⟩
def fail1 (e : Nat) (v : Int) : Outcome := ⟨[(1, v)], 2, .error e⟩
def ok1 (v : Int) : Outcome := ⟨[(1, v)], 2, .complete⟩

-- MaxRetries = 2: three attempts, then the last error
example : (retry ⟨2, false, false⟩ {} none [fail1 1 11, fail0 2, fail0 3, fail0 4]).attempts = 3 := by decide +kernel
example : retryTerm ⟨2, false, false⟩ none [fail1 1 11, fail0 2, fail0 3, fail0 4] = .error (.user 3) := by decide +kernel
-- ResetOnSuccess: the value of attempt 2 restarts the count, so one more attempt
example : (retry ⟨2, false, true⟩ {} none [fail0 1, fail1 2 21, fail0 3, fail0 4, fail0 5]).attempts = 4 := by decide +kernel
example : (retry ⟨2, false, false⟩ {} none [fail0 1, fail1 2 21, fail0 3, fail0 4, fail0 5]).attempts = 3 := by decide +kernel
-- cancelled during attempt 2
example : (retry ⟨0, false, false⟩ {} (some 2) [fail0 1, fail1 2 21, fail0 3]).log = [.s 1, .t 1, .s 2, .t 2] := by decide +kernel
example : retryTerm ⟨0, false, false⟩ (some 2) [fail0 1, fail1 2 21, fail0 3] = .error ctxCanceled := by decide +kernel
example : deliver none (retry ⟨0, false, false⟩ {} none [fail1 1 11, ok1 21]).raw
    = [.next (Ctx.tag {} 1) 11, .next (Ctx.tag {} 1) 21, .complete (Ctx.tag {} 2)] := by decide +kernel
example : (while_ 0 {} [true, true, false] [ok1 11, ok1 21, ok1 31]).attempts = 2 := by decide +kernel
example : (doWhile 0 {} [true, false] [ok1 11, ok1 21, ok1 31]).attempts = 2 := by decide +kernel
example : (repeatWith 3 {} none [ok1 11, fail0 2, ok1 31]).attempts = 2 := by decide +kernel
example : (repeatWith 3 {} (some 1) [ok1 11, ok1 21, ok1 31]).attempts = 1 := by decide +kernel
example : (onErrorResumeNext 2 {} [fail1 1 11, ok1 21, fail0 3]).attempts = 3 := by decide +kernel
example : (concat 3 {} [ok1 11, fail0 2, ok1 31]).attempts = 2 := by decide +kernel
example : (concat 3 {} [ok1 11, fail0 2, ok1 31]).log = [.s 1, .t 1, .s 2, .t 2] := by decide +kernel
example : Known.catchFallback [ok1 11] = false ∧ Known.catchFallback [fail0 1, ok1 21] = true := by decide +kernel

end Ro.C15

#print axioms Ro.C15.Conforms.neverTwoAlive
#print axioms Ro.C15.Conforms.subscriptions
#print axioms Ro.C15.Conforms.delivered
#print axioms Ro.C15.attempts_characterisation
#print axioms Ro.C15.retry_attempts
#print axioms Ro.C15.retry_conforms
#print axioms Ro.C15.retry_cancel_stops
#print axioms Ro.C15.retry_cancel_late
#print axioms Ro.C15.retry_charge_noReset
#print axioms Ro.C15.retry_charge_reset
#print axioms Ro.C15.retry_unlimited
#print axioms Ro.C15.while_conforms
#print axioms Ro.C15.doWhile_conforms
#print axioms Ro.C15.repeatWith_conforms
#print axioms Ro.C15.repeatWith_attempts_nocut
#print axioms Ro.C15.onErrorResumeNext_conforms
#print axioms Ro.C15.concat_conforms
#print axioms Ro.C15.catch_rest
#print axioms Ro.C15.catch_conforms_partial
#print axioms Ro.C15.catch_deviation
#print axioms Ro.C15.catch_witness
#print axioms Ro.C15.wait_window_deviation
#print axioms Ro.C15.wait_window_witness
