/-
  C05 (first half) — multi-source operators honour every arrival order of their inputs:
  MergeAll∘Just / Merge / MergeWith*, RaceWith / Race / Amb, TakeUntil, SkipUntil, SampleWhen, ThrottleWhen.

  Shape of every theorem: for EVERY tuple of source scripts (any length, any contexts, legal or not) and
  EVERY interleaving `order` (no compatibility side condition: an entry that names an exhausted source
  sends nothing, so all compatible interleavings are among the `order`s quantified over),

      (runMulti opM (sources scripts) sub order).out = Spec.op (… (eventsOf (sources scripts) order))

  where `eventsOf` is the arrival order the interleaving produces (RoModel/Multi/Core.lean), the machines are
  the line-by-line readings of the Go code (RoModel/Multi/OpsA.lean, tied to the real library by the
  differential runs of `kind=multi`), and `Spec.*` (RoModel/Spec/Multi.lean) is the definition's output for
  an arrival order. The proofs (RoProofs/Multi*.lean) go through a stronger statement: for every event
  sequence whatsoever.

  Corollaries: every interleaving keeps each source's own order without loss or duplication
  (`per_source_order`, `merge_per_source_order`); merge forwards every value exactly once, in arrival
  order, until the first error, which ends the output at once, and completes exactly at the last
  completion (`merge_all_values`, `merge_error`, `merge_complete`); once the output has ended every source
  is released (`merge_releases`, `race_releases`, `until_sample_throttle_release`); race releases the
  losers at the winner's first notification (`race_losers_released`); the delivered trace always obeys
  the grammar, also with synchronous sources (`grammar`).

  Deviations of the pinned tree (each: `_impl` theorem = what the code does for every arrival order,
  `_partial` theorem on the explicit sub-domain, witness, known finding replayed on the real code):
   * TakeUntil / SkipUntil do not listen to the signal's error (`OnNextWithContext` observer,
     operator_filter.go:324-331, 534-543): FULL statement
         (runMulti takeUntilM (Sources.hot scripts) sub order).out = Spec.takeUntil true (heard2 (eventsOf …))
     fails — `takeUntil_signal_error_witness`, `skipUntil_signal_error_witness`; it holds whenever no
     error of the signal is heard (`takeUntil_partial`, `skipUntil_partial`).

  Two repairs of the library that the model follows:
   * RaceWith keeps the subscription of a source that wins synchronously inside `Subscribe` (fix 5ca7c2d):
     `race_cut_releases` / `race_done_releases` hold for ANY mix of hot and synchronous sources.
   * TakeUntil completes the destination before it raises its flag (fix 3e5361a); with that order the
     micro-step model (RoModel/Multi/Micro.lean) satisfies the concurrent clause: `takeUntil_concurrent` — every
     schedule of atomic actions delivers the definition's output for SOME compatible arrival order.
-/
import RoProofs.MultiUntil
import RoProofs.MultiSample
import RoProofs.MultiRace
import RoProofs.MultiMerge
import RoProofs.MultiOrder
import RoProofs.MultiMergeAll
import RoProofs.MultiMicro
import RoModel.Multi.Micro
namespace Ro.C05a
open Ro Ro.Multi

variable {α : Type}

theorem hot_sync (scripts : List (List (Notif α))) (k : Nat) : (Sources.hot scripts).sync k = false := by
  simp [Sources.hot, Sources.ofLists]

/-- the sources of `Merge(s₁…sₙ)` / `MergeWith*` / `MergeAll()(Just(s₁…sₙ))` subscribed with context `sub`:
    source 0 is `Just(…)` (synchronous), sources 1…n are the merged observables (hot) -/
def mergeSources (sub : Ctx) (scripts : List (List (Notif Int))) : Sources Int :=
  Sources.ofLists (justScript sub scripts.length :: scripts) [true]

theorem mergeSources_cfg (sub : Ctx) (scripts : List (List (Notif Int))) :
    MergeCfg scripts.length sub (mergeSources sub scripts) where
  outerSync := by simp [mergeSources, Sources.ofLists]
  outer := by simp [mergeSources, Sources.ofLists]
  hot := by
    intro k hk
    obtain ⟨j, rfl⟩ : ∃ j, k = j + 1 := ⟨k - 1, by omega⟩
    simp [mergeSources, Sources.ofLists]

theorem per_source_order (cfg : Sources α) (k : Nat) (order : List Nat) :
    Spec.ofSource k (eventsOf cfg order) <+: cfg.script k := by
  simpa [eventsOf] using eventsFrom_ofSource_prefix cfg k order (fun _ => 0)

theorem merge (scripts : List (List (Notif Int))) (sub : Ctx) (order : List Nat) :
    (runMulti mergeM (mergeSources sub scripts) sub order).out =
      Spec.merge sub scripts.length
        (Spec.gateEvents (Spec.restrict (inner scripts.length) (eventsOf (mergeSources sub scripts) order))) :=
  (merge_spec scripts.length sub _ (mergeSources_cfg sub scripts) _).1

/-- once the merged output has ended (error of any source, or last completion) every source is released -/
theorem merge_releases (scripts : List (List (Notif Int))) (sub : Ctx) (order : List Nat)
    (h : (runMulti mergeM (mergeSources sub scripts) sub order).downOpen = false) (k : Nat)
    (hk : 1 ≤ k ∧ k ≤ scripts.length) :
    (runMulti mergeM (mergeSources sub scripts) sub order).sopen k = false :=
  (merge_spec scripts.length sub _ (mergeSources_cfg sub scripts) _).2 h k (by simp [inner, hk])

/-- what source `k` contributes to the arrival order the merge hears is a prefix of its script -/
theorem merge_per_source_order (scripts : List (List (Notif Int))) (sub : Ctx) (order : List Nat) (k : Nat)
    (hk : 1 ≤ k ∧ k ≤ scripts.length) :
    Spec.ofSource k (Spec.gateEvents (Spec.restrict (inner scripts.length) (eventsOf (mergeSources sub scripts) order)))
      <+: (mergeSources sub scripts).script k := by
  unfold Spec.gateEvents
  rw [ofSource_gateEventsFrom, ofSource_restrict _ k (by simp [inner, hk])]
  simp only [Bool.false_eq_true, if_false]
  exact (gate_prefix _).trans (per_source_order _ k order)

theorem merge_all_values (sub : Ctx) (g : List (MEvent α)) (live : Nat) (hne : noError g = true) (hc : completes g < live) :
    Spec.merge sub live g = valNotifs g := by
  have := merge_append sub g [] live hne hc
  simp only [List.append_nil] at this
  rw [this]
  have : live - completes g = (live - completes g - 1) + 1 := by omega
  rw [this]; simp [Spec.merge]

theorem merge_error (sub : Ctx) (p q : List (MEvent α)) (live k : Nat) (c : Ctx) (e : Err)
    (hne : noError p = true) (hc : completes p < live) :
    Spec.merge sub live (p ++ (k, .error c e) :: q) = valNotifs p ++ [.error c e] := by
  rw [merge_append sub p _ live hne hc]
  have : live - completes p = (live - completes p - 1) + 1 := by omega
  rw [this]; simp [Spec.merge]

theorem merge_complete (sub : Ctx) (p q : List (MEvent α)) (live k : Nat) (c : Ctx)
    (hne : noError p = true) (hc : completes p + 1 = live) :
    Spec.merge sub live (p ++ (k, .complete c) :: q) = valNotifs p ++ [.complete sub] := by
  rw [merge_append sub p _ live hne (by omega)]
  have : live - completes p = 0 + 1 := by omega
  rw [this]; simp [Spec.merge]

/-! ## MergeAll / MergeMap* with a hot outer source

Source 0 is the outer observable; its `i`-th value `v` (context `c`) stands for the inner source
`(proj c v i).2`, subscribed with context `(proj c v i).1` (for MergeMapIWithContext `proj` is the user's
projection; for MergeAll it is `fun c v _ => (c, v)`). Inner sources are subscribed when the value that
names them arrives, anywhere in the arrival order; what a hot inner source sent before is lost.
Hypothesis: the outer never names a source twice (`freshNames`; a probe subscribed twice is outside
the model). -/

theorem mergeAll (proj : Ctx → α → Nat → Ctx × Nat) (scripts : List (List (Notif α))) (sub : Ctx) (order : List Nat)
    (hf : freshNames proj (fun k => k == 0) (fun _ => false) 0 (eventsOf (Sources.hot scripts) order) = true) :
    (runMulti (mergeAllM proj) (Sources.hot scripts) sub order).out =
      Spec.mergeAll 1 Ctx.nil (Spec.heard proj (fun k => k == 0) (fun _ => false) 0 (eventsOf (Sources.hot scripts) order)) :=
  mergeAll_spec proj _ (hot_sync scripts) sub _ hf

theorem race (scripts : List (List (Notif α))) (sub : Ctx) (order : List Nat) :
    (runMulti (raceM scripts.length) (Sources.hot scripts) sub order).out =
      Spec.race (Spec.restrict (below scripts.length) (eventsOf (Sources.hot scripts) order)) :=
  race_spec _ _ (hot_sync scripts) sub _

/-- the winner's terminal (error or completion) releases every source -/
theorem race_releases (scripts : List (List (Notif α))) (sub : Ctx) (order : List Nat)
    (h : (runMulti (raceM scripts.length) (Sources.hot scripts) sub order).downOpen = false) (j : Nat) (hj : j < scripts.length) :
    (runMulti (raceM scripts.length) (Sources.hot scripts) sub order).sopen j = false :=
  (race_end _ _ (hot_sync scripts) sub _).closed h j hj

/-- as soon as one source has notified, every other source is released -/
theorem race_losers_released (scripts : List (List (Notif α))) (sub : Ctx) (order : List Nat) (w : Nat) (x : Notif α)
    (rest : List (MEvent α))
    (h : Spec.restrict (below scripts.length) (eventsOf (Sources.hot scripts) order) = (w, x) :: rest)
    (j : Nat) (hj : j < scripts.length) (hjw : j ≠ w) :
    (runMulti (raceM scripts.length) (Sources.hot scripts) sub order).sopen j = false :=
  (race_end _ _ (hot_sync scripts) sub _).losers w x rest h j hj hjw

/-- an external Unsubscribe after any prefix of any interleaving releases every subscribed source, and it
    stays released — ANY mix of hot and synchronous sources (a source that wins inside its own `Subscribe`
    included: fix 5ca7c2d) -/
theorem race_cut_releases (n : Nat) (cfg : Sources α) (sub : Ctx) (order : List Nat) (c : Nat) (k : Nat) :
    (runMultiCut (raceM n) cfg sub order c).live k = false := by
  unfold MSt.live
  by_cases hk : (runMultiCut (raceM n) cfg sub order c).subs k = 0
  · simp [hk]
  · have := race_cut_releases_any n cfg sub (eventsOf cfg (order.take c))
      (eventsFrom cfg (posAfter cfg (fun _ => 0) (order.take c)) (order.drop c)) k hk
    unfold runMultiCut runMulti at hk ⊢
    simp [this]

/-- the output has ended (the winner's error or completion) ⇒ every subscribed source is released — ANY mix
    of hot and synchronous sources -/
theorem race_done_releases (n : Nat) (cfg : Sources α) (sub : Ctx) (order : List Nat) (k : Nat)
    (hd : (runMulti (raceM n) cfg sub order).downOpen = false) :
    (runMulti (raceM n) cfg sub order).live k = false := by
  unfold MSt.live
  by_cases hk : (runMulti (raceM n) cfg sub order).subs k = 0
  · simp [hk]
  · have := Ro.Multi.race_done_releases n cfg sub (eventsOf cfg order) k hd hk
    unfold runMulti at hk ⊢
    simp [this]

/-- what the pinned TakeUntil delivers, for every interleaving: the definition minus the signal's error -/
theorem takeUntil_impl (scripts : List (List (Notif α))) (sub : Ctx) (order : List Nat) :
    (runMulti takeUntilM (Sources.hot scripts) sub order).out =
      Spec.takeUntil false (heard2 (eventsOf (Sources.hot scripts) order)) :=
  Ro.Multi.takeUntil_impl _ (hot_sync scripts) sub _

/-- PARTIAL: whenever no error of the signal is heard, TakeUntil delivers the definition's output -/
theorem takeUntil_partial (scripts : List (List (Notif α))) (sub : Ctx) (order : List Nat)
    (h : noSignalError (heard2 (eventsOf (Sources.hot scripts) order)) = true) :
    (runMulti takeUntilM (Sources.hot scripts) sub order).out =
      Spec.takeUntil true (heard2 (eventsOf (Sources.hot scripts) order)) := by
  rw [takeUntil_impl, takeUntil_sigErr_irrelevant _ h]

def wc (m : Nat) : Ctx := { marks := [7, m] }
def wScriptsTake : List (List (Notif Int)) := [[.next (wc 1) 11, .next (wc 2) 12, .complete (wc 3)], [.error (wc 1) (.user 2)]]

/-- WITNESS: the signal errors after the first value; the definition ends with that error, the pinned
    code goes on to the source's completion -/
theorem takeUntil_signal_error_witness :
    (runMulti takeUntilM (Sources.hot wScriptsTake) { marks := [7] } [0, 1, 0, 0]).out
        = [.next (wc 1) 11, .next (wc 2) 12, .complete (wc 3)] ∧
    Spec.takeUntil true (heard2 (eventsOf (Sources.hot wScriptsTake) [0, 1, 0, 0]))
        = [.next (wc 1) 11, .error (wc 1) (.user 2)] := by
  decide +kernel

theorem skipUntil_impl (scripts : List (List (Notif α))) (sub : Ctx) (order : List Nat) :
    (runMulti skipUntilM (Sources.hot scripts) sub order).out =
      Spec.skipUntil false false (heard2 (eventsOf (Sources.hot scripts) order)) :=
  Ro.Multi.skipUntil_impl _ (hot_sync scripts) sub _

theorem skipUntil_partial (scripts : List (List (Notif α))) (sub : Ctx) (order : List Nat)
    (h : noSignalError (heard2 (eventsOf (Sources.hot scripts) order)) = true) :
    (runMulti skipUntilM (Sources.hot scripts) sub order).out =
      Spec.skipUntil true false (heard2 (eventsOf (Sources.hot scripts) order)) := by
  rw [skipUntil_impl, skipUntil_sigErr_irrelevant _ _ h]

def wScriptsSkip : List (List (Notif Int)) := [[.next (wc 1) 11, .complete (wc 2)], [.error (wc 1) (.user 2)]]

theorem skipUntil_signal_error_witness :
    (runMulti skipUntilM (Sources.hot wScriptsSkip) { marks := [7] } [0, 1, 0]).out = [.complete (wc 2)] ∧
    Spec.skipUntil true false (heard2 (eventsOf (Sources.hot wScriptsSkip) [0, 1, 0])) = [.error (wc 1) (.user 2)] := by
  decide +kernel

/-! ## TakeUntil under true concurrency

DESIGN.md 5/C05 asks, for sources driven by different goroutines, that the output be the definition's
output for SOME arrival order compatible with each source's own order. TakeUntil is the one operator of
this half whose callback consists of two atomic actions (complete the destination, raise the flag);
`RoModel/Multi/Micro.lean` models it at that granularity. For every pair of scripts and every schedule there is an
arrival order `evs` (each source's notifications in their own order, up to its terminal) whose output —
by the definition minus the signal's error, and by the logical machine — is the schedule's output. -/

theorem takeUntil_concurrent (source signal : List (Notif α)) (sched : List Nat) (sub : Ctx) :
    ∃ evs : List (MEvent α),
      (∀ e ∈ evs, e.1 < 2) ∧
      Spec.ofSource 0 evs <+: gate source ∧ Spec.ofSource 1 evs <+: gate signal ∧
      Micro.takeUntilMicro source signal sched = Spec.takeUntil false evs ∧
      Micro.takeUntilMicro source signal sched =
        (feedAll takeUntilM (Sources.hot [source, signal]) (bootSt takeUntilM (Sources.hot [source, signal]) sub) evs).out :=
  Micro.takeUntilMicro_arrival source signal sched _ (hot_sync _) sub

def wSrc : List (Notif Int) := [.next (wc 1) 11, .next (wc 2) 12, .error (wc 3) (.user 1)]
def wSig : List (Notif Int) := [.next (wc 1) 21]
-- the schedule that delivers `N11, E1` when the flag is raised first (value skipped, error delivered, completion refused)
example : Micro.takeUntilMicro wSrc wSig [0, 1, 0, 0, 1] = [.next (wc 1) 11, .complete (wc 1)] := by decide
example : Micro.takeUntilMicro wSrc wSig [0, 0, 0, 1, 1] = [.next (wc 1) 11, .next (wc 2) 12, .error (wc 3) (.user 1)] := by decide

theorem sampleWhen (scripts : List (List (Notif α))) (sub : Ctx) (order : List Nat) :
    (runMulti sampleWhenM (Sources.hot scripts) sub order).out =
      Spec.sampleWhen none (heard2 (eventsOf (Sources.hot scripts) order)) :=
  sampleWhen_spec _ (hot_sync scripts) sub _

theorem throttleWhen (scripts : List (List (Notif α))) (sub : Ctx) (order : List Nat) :
    (runMulti throttleWhenM (Sources.hot scripts) sub order).out =
      Spec.throttleWhen false (heard2 (eventsOf (Sources.hot scripts) order)) :=
  throttleWhen_spec _ (hot_sync scripts) sub _

/-- TakeUntil, SkipUntil, SampleWhen, ThrottleWhen: once the output has ended (any source's error, the
    source's completion, the signal's value, the tick's completion) both sources are released -/
theorem until_sample_throttle_release (scripts : List (List (Notif α))) (sub : Ctx) (order : List Nat) (k : Nat) (hk : k < 2) :
    ((runMulti takeUntilM (Sources.hot scripts) sub order).downOpen = false →
      (runMulti takeUntilM (Sources.hot scripts) sub order).sopen k = false) ∧
    ((runMulti skipUntilM (Sources.hot scripts) sub order).downOpen = false →
      (runMulti skipUntilM (Sources.hot scripts) sub order).sopen k = false) ∧
    ((runMulti sampleWhenM (Sources.hot scripts) sub order).downOpen = false →
      (runMulti sampleWhenM (Sources.hot scripts) sub order).sopen k = false) ∧
    ((runMulti throttleWhenM (Sources.hot scripts) sub order).downOpen = false →
      (runMulti throttleWhenM (Sources.hot scripts) sub order).sopen k = false) := by
  have hk2 : two k = true := by simp [two, hk]
  have h1 := takeUntil_boot (Sources.hot scripts) (hot_sync scripts) sub
  have h2 := skipUntil_boot (Sources.hot scripts) (hot_sync scripts) sub
  have h3 := sampleWhen_boot (Sources.hot scripts) (hot_sync scripts) sub
  have h4 := throttleWhen_boot (Sources.hot scripts) (hot_sync scripts) sub
  exact ⟨fun h => (emitOnly2_run (takeUntil_emitOnly _) _ h1.1 h1.2.1 _).2 h k hk2,
    fun h => (emitOnly2_run (skipUntil_emitOnly _) _ h2.1 h2.2.1 _).2 h k hk2,
    fun h => (emitOnly2_run (sampleWhen_emitOnly _) _ h3.1 h3.2.1 _).2 h k hk2,
    fun h => (emitOnly2_run (throttleWhen_emitOnly _) _ h4.1 h4.2.1 _).2 h k hk2⟩

theorem grammar {σ β : Type} (m : MMachine σ α β) (cfg : Sources α) (sub : Ctx) (order : List Nat) :
    Grammar (runMulti m cfg sub order).out := by
  have hP := grammar_preserved m
  have h1 := phasesAt_preserves cfg hP (depth cfg) (m.boot sub) ({ st := m.init } : MSt σ α β) ⟨by simp [Grammar], fun _ => rfl⟩
  have h2 : (fun r : MSt σ α β => Grammar r.out ∧ (r.downOpen = true → hasTerm r.out = false)) (bootSt m cfg sub) := by
    unfold bootSt
    simp only
    split
    · exact h1
    · refine ⟨by simpa using h1.1, fun h => ?_⟩
      rename_i hd
      simp at h; exact absurd h hd
  exact (feedAll_preserves cfg hP _ _ h2).1

/-! ## non-vacuity: both sides evaluated on concrete, non-trivial inputs -/

def s3 : List (List (Notif Int)) :=
  [[.next (wc 1) 11, .complete (wc 2)], [.next (wc 1) 21, .next (wc 2) 22, .complete (wc 3)], [.next (wc 1) 31, .error (wc 2) (.user 3), .next (wc 3) 39]]

example : (runMulti mergeM (mergeSources { marks := [7] } s3) { marks := [7] } [2, 1, 3, 1, 2, 3, 2, 3]).out =
    [.next (wc 1) 21, .next (wc 1) 11, .next (wc 1) 31, .next (wc 2) 22, .error (wc 2) (.user 3)] := by decide
example : (runMulti mergeM (mergeSources { marks := [7] } (s3.take 2)) { marks := [7] } [2, 1, 1, 2, 2]).out =
    [.next (wc 1) 21, .next (wc 1) 11, .next (wc 2) 22, .complete { marks := [7] }] := by decide
def mmProj (c : Ctx) (v : Int) (i : Nat) : Ctx × Nat := (c.tag (40 + i), v.toNat)
def sMM : List (List (Notif Int)) :=
  [[.next (wc 1) 2, .next (wc 2) 1, .complete (wc 3)], [.next (wc 1) 21, .complete (wc 2)], [.next (wc 1) 31, .complete (wc 2)]]
example : freshNames mmProj (fun k => k == 0) (fun _ => false) 0 (eventsOf (Sources.hot sMM) [0, 2, 0, 1, 0, 1, 2]) = true := by decide
example : (runMulti (mergeAllM mmProj) (Sources.hot sMM) { marks := [7] } [0, 2, 0, 1, 0, 1, 2]).out =
    [.next (wc 1) 31, .next (wc 1) 21, .complete (wc 3)] := by decide
example : Spec.mergeAll 1 Ctx.nil (Spec.heard mmProj (fun k => k == 0) (fun _ => false) 0 (eventsOf (Sources.hot sMM) [0, 2, 0, 1, 0, 1, 2])) =
    [.next (wc 1) 31, .next (wc 1) 21, .complete (wc 3)] := by decide
example : (runMulti (raceM 3) (Sources.hot s3) { marks := [7] } [1, 0, 2, 1, 1, 0]).out =
    [.next (wc 1) 21, .next (wc 2) 22, .complete (wc 3)] := by decide
example : Spec.race (Spec.restrict (below 3) (eventsOf (Sources.hot s3) [1, 0, 2, 1, 1, 0])) =
    [.next (wc 1) 21, .next (wc 2) 22, .complete (wc 3)] := by decide
example : (runMulti sampleWhenM (Sources.hot (s3.take 2)) { marks := [7] } [1, 0, 1, 1, 0]).out =
    [.next (wc 1) 11, .complete (wc 3)] := by decide
example : (runMulti throttleWhenM (Sources.hot [s3[1]!, s3[0]!]) { marks := [7] } [0, 1, 0, 0, 1]).out =
    [.next (wc 2) 22, .complete (wc 3)] := by decide
example : (runMulti skipUntilM (Sources.hot (s3.take 2)) { marks := [7] } [0, 1, 0]).out = [.complete (wc 2)] := by decide
example : (runMulti takeUntilM (Sources.hot (s3.take 2)) { marks := [7] } [0, 1, 0]).out =
    [.next (wc 1) 11, .complete (wc 1)] := by decide

end Ro.C05a

#print axioms Ro.C05a.per_source_order
#print axioms Ro.C05a.merge
#print axioms Ro.C05a.merge_releases
#print axioms Ro.C05a.merge_per_source_order
#print axioms Ro.C05a.merge_all_values
#print axioms Ro.C05a.merge_error
#print axioms Ro.C05a.merge_complete
#print axioms Ro.C05a.mergeAll
#print axioms Ro.C05a.race
#print axioms Ro.C05a.race_releases
#print axioms Ro.C05a.race_losers_released
#print axioms Ro.C05a.race_cut_releases
#print axioms Ro.C05a.race_done_releases
#print axioms Ro.C05a.takeUntil_impl
#print axioms Ro.C05a.takeUntil_partial
#print axioms Ro.C05a.takeUntil_signal_error_witness
#print axioms Ro.C05a.takeUntil_concurrent
#print axioms Ro.C05a.skipUntil_impl
#print axioms Ro.C05a.skipUntil_partial
#print axioms Ro.C05a.skipUntil_signal_error_witness
#print axioms Ro.C05a.sampleWhen
#print axioms Ro.C05a.throttleWhen
#print axioms Ro.C05a.until_sample_throttle_release
#print axioms Ro.C05a.grammar
