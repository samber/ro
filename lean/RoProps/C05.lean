/-
  C05 — multi-source operators honour every arrival order of their inputs: the audit lines of the first
  half, RoProps/C05a.lean — MergeAll∘Just / Merge / MergeWith*, RaceWith / Race / Amb, TakeUntil, SkipUntil,
  SampleWhen, ThrottleWhen (machines: RoModel/Multi/OpsA.lean, definitions: RoModel/Spec/Multi.lean).
  The second half, RoProps/C05b.lean, carries its own.
-/
import RoProps.C05a

#print axioms Ro.C05a.per_source_order
#print axioms Ro.C05a.merge
#print axioms Ro.C05a.merge_releases
#print axioms Ro.C05a.merge_per_source_order
#print axioms Ro.C05a.merge_all_values
#print axioms Ro.C05a.merge_error
#print axioms Ro.C05a.merge_complete
#print axioms Ro.C05a.mergeAll
#print axioms Ro.C05a.race
#print axioms Ro.C05a.race_releases
#print axioms Ro.C05a.race_losers_released
#print axioms Ro.C05a.race_cut_releases
#print axioms Ro.C05a.race_done_releases
#print axioms Ro.C05a.takeUntil_impl
#print axioms Ro.C05a.takeUntil_partial
#print axioms Ro.C05a.takeUntil_signal_error_witness
#print axioms Ro.C05a.takeUntil_concurrent
#print axioms Ro.C05a.skipUntil_impl
#print axioms Ro.C05a.skipUntil_partial
#print axioms Ro.C05a.skipUntil_signal_error_witness
#print axioms Ro.C05a.sampleWhen
#print axioms Ro.C05a.throttleWhen
#print axioms Ro.C05a.until_sample_throttle_release
#print axioms Ro.C05a.grammar
