/-
  C20 — rate limiters never exceed the quota and keep per-key order.

  Native limiter (`plugins/ratelimit/native/operator.go:27-41`), logical time, for every timeline of
  items and per-key ticks, every quota `n`, every tick placement:
    * `native_perKey`      per key, the output is the first `n` items of each window, in order
                           (= GroupBy's substream, cut at the key's ticks, `Take n` of each window, merged);
    * `native_window_quota` never more than `n` of one window;
    * `native_order`       the output is a subsequence of the source's items (order, no duplication),
      `native_nodup`       and has no duplicate if the source's items are distinct;
    * `native_independent` what passes of a key depends on that key's items and ticks only;
    * `native_complete`, `native_error`  the source's completion / error is propagated after the items
                           under EVERY schedule, including the ticks that are served while the terminal of the
                           source is being processed: `native_sched` (nativeSched n tl e late = native n tl e for every
                           `late`), `native_sched_complete`, `native_sched_error`. (Before /repo a396a6b a tick between
                           WindowWhen closing its last window and completing its destination lost the completion; the
                           harness still drives those schedules, `latetick=all`, and `late_tick_regression` pins the case.)
    * `native_quota_span`  arithmetic corollary: whatever the alignment of the window grid, in every span
                           of length `L` at most n·(⌊L/w⌋+2) items of one key pass
                           (`span_meets_windows`: the span meets at most ⌊L/w⌋+2 windows).
  ulule limiter (`plugins/ratelimit/ulule/operator.go:25-49`), for every store oracle:
    * `ulule_filter`       output = the input filtered by the store's answers (store not failing), then the ending;
    * `ulule_shape`        always: a subsequence of the input followed by the source's ending, or by the
                           store's failure as the error; `ulule_by_answers`: a function of the recorded answers.
  Real-time tie: `acceptor_sound` — a trace accepted by the executable acceptor satisfies the clauses
  of the property that an observation can witness (order per key, quota bound on EVERY span, first-window
  items of every key passed, terminal).
  Composition fact (F): `RoGen.RateLimit.nativeBody` is regenerated from native/operator.go on every run;
  `native_composition` decides that it is the composition the model is written after.
-/
import RoProofs.RateLimit
import RoProofs.RateLimitTime
import RoProofs.RateLimitUlule
import RoProofs.RateLimitAccept
import RoGen.RateLimit
namespace Ro.C20
open Ro Ro.RateLimit

variable {κ α : Type} [DecidableEq κ]

theorem native_perKey (n : Nat) (k : κ) (tl : List (Ev κ α)) :
    ((run n tl).filter (fun p => p.1 = k)).map (·.2) = ((windows (group k tl)).map (List.take n)).flatten :=
  run_perKey n k tl

omit [DecidableEq κ] in
theorem native_machine_is_composition (n : Nat) (g : List (GEv α)) :
    winRun n 0 g = mergeAll (takeEach n (windows g)) := winRun_eq_pipeline n g

omit [DecidableEq κ] in
theorem native_window_quota (n : Nat) (g : List (GEv α)) : ∀ w ∈ takeEach n (windows g), w.length ≤ n := by
  intro w hw
  obtain ⟨w', _, rfl⟩ := List.mem_map.1 hw
  simp [List.length_take, Nat.min_le_left]

theorem native_order (n : Nat) (tl : List (Ev κ α)) : (run n tl).Sublist (items tl) := runFrom_sublist n tl _

theorem native_order_key (n : Nat) (k : κ) (tl : List (Ev κ α)) :
    (((run n tl).filter (fun p => p.1 = k)).map (·.2)).Sublist (((items tl).filter (fun p => p.1 = k)).map (·.2)) :=
  ((native_order n tl).filter _).map _

theorem native_nodup (n : Nat) (tl : List (Ev κ α)) (h : (items tl).Nodup) : (run n tl).Nodup := h.sublist (native_order n tl)

theorem native_independent (n : Nat) (k : κ) (tl tl' : List (Ev κ α)) (h : group k tl = group k tl') :
    (run n tl).filter (fun p => p.1 = k) = (run n tl').filter (fun p => p.1 = k) := by
  -- all first components are `k`, so the second components (`native_perKey`) determine the lists
  have key : ∀ l : List (κ × α),
      l.filter (fun p => p.1 = k) = ((l.filter (fun p => p.1 = k)).map (·.2)).map (Prod.mk k) := by
    intro l
    rw [List.map_map]
    conv => lhs; rw [← List.map_id (l.filter _)]
    exact List.map_congr_left fun p hp => Prod.ext (by simpa using (List.mem_filter.1 hp).2) rfl
  rw [key (run n tl), key (run n tl'), native_perKey, native_perKey, h]

theorem native_complete (n : Nat) (tl : List (Ev κ α)) :
    native n tl .complete = (run n tl).map (fun p => Out.item p.1 p.2) ++ [.complete] := rfl

theorem native_error (n : Nat) (tl : List (Ev κ α)) (x : Err) :
    native n tl (.error x) = (run n tl).map (fun p => Out.item p.1 p.2) ++ [.error x] := rfl

theorem native_sched (n : Nat) (tl : List (Ev κ α)) (e : End) (late : List κ) :
    nativeSched n tl e late = native n tl e := rfl

theorem native_sched_complete (n : Nat) (tl : List (Ev κ α)) (late : List κ) :
    nativeSched n tl .complete late = (run n tl).map (fun p => Out.item p.1 p.2) ++ [.complete] := rfl

theorem native_sched_error (n : Nat) (tl : List (Ev κ α)) (x : Err) (late : List κ) :
    nativeSched n tl (.error x) late = (run n tl).map (fun p => Out.item p.1 p.2) ++ [.error x] := rfl

/-- the schedule that lost the completion before /repo a396a6b (quota 2, one item of key 0, key 0's
    ticker fires inside the completion); replayed by the `latetick=all` cases -/
theorem late_tick_regression :
    nativeSched 2 [Ev.item 0 1] .complete [0] = [Out.item 0 (1 : Nat), .complete] := by decide

theorem span_meets_windows (w o a L : Nat) (hw : 0 < w) : widx w o (a + L) + 1 ≤ widx w o a + (L / w + 2) :=
  span_windows w o a L hw

theorem native_quota_span (n w o : Nat) (hw : 0 < w) (tl : List (Ev κ (Nat × α))) (k : κ) (j : Nat)
    (hc : Consistent w o j (group k tl)) (a L : Nat) :
    ((((run n tl).filter (fun p => p.1 = k)).map (·.2)).filter (fun p => a ≤ p.1 && p.1 ≤ a + L)).length ≤ n * (L / w + 2) :=
  quota_span n w o hw tl k j hc a L

omit [DecidableEq κ] in
theorem ulule_filter (store : Store κ) (sync : Bool) (inp : List (κ × α)) (e : End)
    (hok : ∀ a ∈ answers store sync inp, ∃ b, a = Ans.ok b) :
    ulule store inp e =
      (((inp.zip (answers store sync inp)).filter (fun p => p.2 = Ans.ok false)).map (fun p => Out.item p.1.1 p.1.2)) ++ e.toOut :=
  RateLimit.ulule_filter store sync inp e [] hok

omit [DecidableEq κ] in
theorem ulule_shape (store : Store κ) (inp : List (κ × α)) (e : End) :
    ∃ pre : List (κ × α), pre.Sublist inp ∧
      (ulule store inp e = pre.map (fun p => Out.item p.1 p.2) ++ e.toOut ∨
       ∃ x, ulule store inp e = pre.map (fun p => Out.item p.1 p.2) ++ [.error x]) :=
  RateLimit.ulule_shape store inp e []

omit [DecidableEq κ] in
theorem ulule_by_answers (store : Store κ) (sync : Bool) (inp : List (κ × α)) (e : End) :
    ulule store inp e = byAnswers inp (answers store sync inp) e := ulule_byAnswers store sync inp e []

theorem acceptor_sound [DecidableEq α] (c : Cfg) (inp : List (InItem κ α)) (e : End) (obs : List (ObsItem κ α)) (term : End)
    (h : accepts c inp e obs term = true) : Clauses c inp e obs term := accepts_sound c inp e obs term h

/-- (F) the body of `NewRateLimiter` in the tree under check IS the composition the model is written
    after: `Pipe2(source, GroupBy(keyGetter), MergeMap(PipeOp3(WindowWhen[T](Interval(interval)),
    Map(Take[T](count)), MergeAll[T]())))` over the core package — `group`, `windowWhen` with the
    key's own ticker, `takeEach count`, `mergeAll`, merged in place. Regenerated on every run. -/
theorem native_composition :
    RoGen.RateLimit.nativeShape = "return-func-return-expr"
    ∧ RoGen.RateLimit.nativeImports = ["time", "github.com/samber/ro"]
    ∧ RoGen.RateLimit.nativeParams = ["count int64", "interval time.Duration", "keyGetter func(T) string"]
    ∧ RoGen.RateLimit.nativeInnerParams = ["source ro.Observable[T]"]
    ∧ RoGen.RateLimit.nativeBody =
        [(0, "ro.Pipe2"), (1, "source"),
         (1, "ro.GroupBy"), (2, "keyGetter"),
         (1, "ro.MergeMap"), (2, "ro.PipeOp3"),
         (3, "ro.WindowWhen[T]"), (4, "ro.Interval"), (5, "interval"),
         (3, "ro.Map"), (4, "ro.Take[T]"), (5, "count"),
         (3, "ro.MergeAll[T]")] := by decide

/-! non-vacuity: two keys, quota 1; key 0's second item is cut, its third passes after key 0's tick;
    key 1 is untouched by key 0's traffic -/
example : native 1 [Ev.item 0 10, .item 0 11, .item 1 12, .tick 0, .item 0 13, .item 1 14] .complete
    = [Out.item 0 10, .item 1 12, .item 0 13, .complete] := by decide

example : native 2 [Ev.item 0 1, .item 0 2, .item 0 3, .tick 0, .item 0 4] (.error (.user 3))
    = [Out.item 0 1, .item 0 2, .item 0 4, .error (.user 3)] := by decide

example : perKey 1 0 [Ev.item 0 10, .item 0 11, .item 1 12, .tick 0, .item 0 13] = [10, 13] := by decide

/-- the bound is attained up to the "+2": quota 1, w = 10, three passes within a span of 11 -/
example : bound 1 10 0 11 = 3 := by decide

example : ulule (fun h k => Ans.ok (decide (2 ≤ (h.filter (· = k)).length))) [(0, 1), (0, 2), (0, 3), (1, 4)] .complete
    = [Out.item 0 1, .item 0 2, .item 1 4, .complete] := by decide

/-- the acceptor rejects a trace with three passes of one key (quota 1, w = 1000 µs) inside 300 µs … -/
example : accepts { n := 1, w := 1000 } [⟨0, 1, 0, 1⟩, ⟨0, 2, 100, 101⟩, ⟨0, 3, 300, 301⟩] .complete
    [⟨0, 1, 1⟩, ⟨0, 2, 101⟩, ⟨0, 3, 301⟩] .complete = false := by decide

/-- … and accepts the model's own trace of that input (first item only) -/
example : accepts { n := 1, w := 1000 } [⟨0, 1, 0, 1⟩, ⟨0, 2, 100, 101⟩, ⟨0, 3, 300, 301⟩] .complete
    [⟨0, 1, 1⟩] .complete = true := by decide

end Ro.C20

#print axioms Ro.C20.native_perKey
#print axioms Ro.C20.native_machine_is_composition
#print axioms Ro.C20.native_window_quota
#print axioms Ro.C20.native_order
#print axioms Ro.C20.native_order_key
#print axioms Ro.C20.native_nodup
#print axioms Ro.C20.native_independent
#print axioms Ro.C20.native_complete
#print axioms Ro.C20.native_error
#print axioms Ro.C20.native_sched
#print axioms Ro.C20.native_sched_complete
#print axioms Ro.C20.native_sched_error
#print axioms Ro.C20.late_tick_regression
#print axioms Ro.C20.native_composition
#print axioms Ro.C20.span_meets_windows
#print axioms Ro.C20.native_quota_span
#print axioms Ro.C20.ulule_filter
#print axioms Ro.C20.ulule_shape
#print axioms Ro.C20.ulule_by_answers
#print axioms Ro.C20.acceptor_sound
