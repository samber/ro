import RoProofs.Gate
import RoProofs.Script
import RoProofs.Ops.Basic
import RoProofs.Ops.FilterSpecs
import RoProofs.Ops.TransformSpecs
import RoProofs.Ops.AggregateSpecs
import RoProofs.CtxFlow
import RoProofs.Chain
import RoProofs.Steps
import RoProofs.Release
import RoProofs.Ops.CtxSpecs
import RoProofs.TimedBasic
import RoProofs.TimedDelay
import RoProofs.TimedDelayCtx
import RoProofs.ObsNil
import RoProofs.ObsShared
import RoProofs.Precision
import RoProofs.SeqEq
import RoProofs.TimedPeriodic
import RoProofs.TimedRange
import RoProofs.TimedTimeout
import RoProofs.TimedWindow
import RoProofs.Plugins.Base64
import RoProofs.Plugins.Strconv
import RoProofs.Plugins.Text
import RoProofs.Plugins.Sort
import RoProofs.Plugins.Reader
import RoProofs.Plugins.Lift
import RoProofs.Resub
import RoProofs.ResubRetry
import RoProofs.ResubLoops
import RoProofs.Subjects
import RoProofs.SubjectsPrim
import RoProofs.SubjectsMulti
import RoProofs.SubjectsView
import RoProofs.SubjectsSpec
import RoProofs.SubjectsKinds
import RoProofs.SubjectsUnicast
import RoProofs.SubjectsUnicastSpec
import RoProofs.Atomic
import RoProofs.SubjectsMicro
import RoProofs.RateLimit
import RoProofs.RateLimitTime
import RoProofs.RateLimitUlule
import RoProofs.RateLimitAccept
import RoProofs.Chan.Inv
import RoProofs.Chan.Prod
import RoProofs.Chan.Cons
import RoProofs.ChanFrom
import RoProofs.ChanShape
import RoProofs.MultiCore
import RoProofs.MultiUntil
import RoProofs.MultiSim
import RoProofs.MultiSample
import RoProofs.MultiRace
import RoProofs.MultiMerge
import RoProofs.MultiOrder
import RoProofs.MultiMergeAll
import RoProofs.OpsGen
import RoProofs.Ops.MoreSpecs
import RoProofs.Ops.MoreCtx
import RoProofs.Ops.CreateSpecs
import RoProofs.Ops.CreateCtx
import RoProofs.Fault.Sim
import RoProofs.Fault.Run
import RoProofs.Fault.Next
import RoProofs.Fault.NoEscape
import RoProofs.Fault.Account
import RoProofs.Fault.Kernel
import RoProofs.Fault.Grammar
import RoProofs.Fault.SubscribeFn
import RoProofs.PromChain
import RoProofs.PromTransparent
import RoProofs.PromPairs
import RoProofs.PromCounters
import RoProofs.PromPairsAll
import RoProofs.PromDriver
import RoProofs.PromStamped
import RoProofs.CutIn
import RoProofs.Kernel.Beq
import RoProofs.Kernel.Step
import RoProofs.Kernel.Eff
import RoProofs.Kernel.Reach
import RoProofs.Kernel.Flags
import RoProofs.Kernel.Locks
import RoProofs.Kernel.Grammar
import RoProofs.Kernel.Closed
import RoProofs.Kernel.Teardown
import RoProofs.Kernel.Main
import RoProofs.Kernel.Producer
import RoProofs.Kernel.Terminal
import RoProofs.Kernel.Events
import RoProofs.Kernel.Cut
import RoProofs.Kernel.WellLockedSound
import RoProofs.Kernel.Overlap
import RoProofs.MultiB.Core
import RoProofs.MultiB.BufferWhen
import RoProofs.MultiB.Arrivals
import RoProofs.MultiB.WindowWhen
import RoProofs.MultiB.CombineLatest
import RoProofs.MultiB.Zip
import RoProofs.MultiB.All
import RoProofs.MultiB.Concat
import RoProofs.MultiB.GroupBy
import RoProofs.MultiB.Corollaries
import RoProofs.MultiB.ZipCorollaries
import RoProofs.MultiB.MicroWitness
import RoProofs.ShareBasic
import RoProofs.ShareInv
import RoProofs.ShareSub
import RoProofs.ShareFrames
import RoProofs.ShareProps
import RoProofs.ConnectableProofs
import RoProofs.Lockset
import RoProofs.MultiMicro
import RoProofs.Kernel.LogPreds
import RoProofs.Kernel.Ending
import RoProofs.Kernel.Live
import RoProofs.Kernel.Main2
import RoProofs.ShareNested
import RoProofs.ShareRelease
import RoProofs.ObsPartial
import RoProofs.SubjectsX
import RoProofs.ResubGen
